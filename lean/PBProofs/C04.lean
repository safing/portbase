import PB.Model.Config
import PB.Model.ConfigConc
import PB.Spec.Config
import PBProofs.Lemmas.Config
import PBProofs.Lemmas.ConfigConc
/-
C04 — Config getters always return the layered, validated, current value.
Property theorems only (helper lemmas live in PBProofs/Lemmas/Config.lean and ConfigConc.lean).

Reading guide. `St` is the state of the config package, `WF st` what `Register` and every call maintain
(`wf_reachable`). `Valid o v c` is the property's own notion of a valid value (type fits, regex matches, allowed
value, validation function accepts; `c` = canonical value). `effRL st` is the effective release-level setting,
defined as what the getter itself returns for the release-level option.
-/
namespace PB.C04
open PB PB.Config

/-! ### 1. Validation accepts exactly the valid values -/

/-- `validateValue` succeeds iff the value fits the option's type, matches its regular expression, is one of its
    allowed values and passes its validation function — and then yields the canonical value. -/
theorem validate_ok_iff (o : Opt) (ho : RegOK o) (v : Val) (hv : v.WF) (c : Cache) :
    validate o v = .ok c ↔ Valid o v c :=
  validate_ok_iff_valid o ho v hv c

/-- … and it rejects with an error exactly the values that violate one of the four requirements. -/
theorem validate_error_iff (o : Opt) (ho : RegOK o) (v : Val) (hv : v.WF) :
    (∃ e, validate o v = .error e) ↔ ∀ c, ¬ Valid o v c := by
  constructor
  · rintro ⟨e, he⟩ c hc
    have := (validate_ok_iff o ho v hv c).mpr hc
    rw [he] at this; cases this
  · intro h
    cases hval : validate o v with
    | error e => exact ⟨e, rfl⟩
    | ok c => exact absurd ((validate_ok_iff o ho v hv c).mp hval) (h c)

/-! ### 2. Getters: layering and the release-level gate -/

/-- A getter requested for an unknown option or with the wrong type returns its fallback argument. -/
theorem getter_fallback (st : St) (k : Key) (fb : GVal)
    (h : st.find k = none ∨ ∃ o, st.find k = some o ∧ fb.ty ≠ o.ty) : Config.get st k fb = fb := by
  unfold Config.get getCache
  rcases h with h | ⟨o, h, hty⟩
  · simp [h]
  · simp [h, hty]

/-- In every well-formed state the value a getter returns is the user-set value if one is set and the option's
    release level is enabled by the effective release-level setting, otherwise the default-layer value if set,
    otherwise the registered default. -/
theorem getter_layering (st : St) (h : WF st) (k : Key) (fb : GVal) (o : Opt) (hf : st.find k = some o)
    (hty : fb.ty = o.ty) :
    Config.get st k fb =
      ((if o.rl ≤ effRL st then o.user else none).getD (o.dflt.getD o.fallback)).proj fb.ty := by
  rw [effRL_eq_gate st h]
  unfold Config.get getCache effective
  simp only [hf, hty, ne_eq, not_true_eq_false, if_false]
  cases hu : o.user <;> cases hd : o.dflt <;> by_cases hr : o.rl ≤ st.gate <;> simp [hr]

/-- The effective release-level setting is itself layered like every option: user layer, else default layer, else
    the registered default — and it is what the internal gate holds (so a change in either layer takes effect). -/
theorem release_level_change_either_layer (st : St) (h : WF st) :
    ∃ o, st.find rlKey = some o ∧ effRL st = levelOf (layered o).s ∧ st.gate = effRL st := by
  obtain ⟨r, hr1, hr2, hr3, hr4⟩ := h.rl
  exact ⟨r, hr1, by rw [effRL_eq_gate st h, hr4], (effRL_eq_gate st h).symm⟩

/-- The initial state is well-formed, registering options (other than the release-level key) keeps it so, and so
    does every history of set / set-default / replace / replace-default / save / load / file rewrite:
    the theorems of this file apply at any moment of any history. -/
theorem wf_reachable (persist : Bool) (regs : List Opt) (ops : List Op)
    (hregs : ∀ o ∈ regs, RegOK o ∧ o.user = none ∧ o.key ≠ rlKey) (hops : ∀ op ∈ ops, op.WF) :
    WF (run (regs.foldl register (init persist)) ops) := by
  refine wf_run ops _ ?_ hops
  have h := wf_init persist
  generalize init persist = st at h ⊢
  induction regs generalizing st with
  | nil => exact h
  | cons o rest ih =>
    have ho := hregs o List.mem_cons_self
    exact ih (fun p hp => hregs p (List.mem_cons_of_mem _ hp)) _ (wf_register st h o ho.1 ho.2.1 ho.2.2)

/-- What `Register` builds satisfies the registration hypotheses of `wf_reachable`. -/
theorem register_builds_regular_option {key : Key} {ty : OptType} {rl rxi : Nat} {pvs : Option (List PV)}
    {vf mg : Nat} {dv : Val} {o : Opt} (h : mkOpt key ty rl rxi pvs vf mg dv = .ok o) :
    RegOK o ∧ o.user = none ∧ o.key = key :=
  mkOpt_props h

/-- The property's first sentence, at any moment: after any registration of options and any history of calls, a
    getter of the right type returns the user value if set and enabled by the effective release level, else the
    default-layer value, else the registered default. -/
theorem getter_layering_at_any_moment (persist : Bool) (regs : List Opt) (ops : List Op)
    (hregs : ∀ o ∈ regs, RegOK o ∧ o.user = none ∧ o.key ≠ rlKey) (hops : ∀ op ∈ ops, op.WF)
    (k : Key) (fb : GVal) (o : Opt)
    (hf : (run (regs.foldl register (init persist)) ops).find k = some o) (hty : fb.ty = o.ty) :
    Config.get (run (regs.foldl register (init persist)) ops) k fb =
      ((if o.rl ≤ effRL (run (regs.foldl register (init persist)) ops) then o.user else none).getD
        (o.dflt.getD o.fallback)).proj fb.ty :=
  getter_layering _ (wf_reachable persist regs ops hregs hops) k fb o hf hty

/-! ### 3. Single-option set -/

/-- `SetConfigOption` with a non-nil value either installs the canonical form of a valid value in the user layer of
    that option (all other options untouched, a new validity flag handed out), or rejects an invalid value with an
    error and leaves the whole state unchanged. -/
theorem set_rejects_or_installs (st : St) (h : WF st) (k : Key) (v : Val) (hv : v.WF) (o : Opt)
    (hf : st.find k = some o) (hn : v ≠ .nil) :
    (∃ c, Valid o (migrate o.mg v) c ∧ (setUser st k v).2 = .ok () ∧
        (setUser st k v).1.find k = some { o with user := some c } ∧
        (∀ k', k' ≠ k → (setUser st k v).1.find k' = st.find k') ∧ (setUser st k v).1.gen = st.gen + 1) ∨
    ((∀ c, ¬ Valid o (migrate o.mg v) c) ∧ ∃ e, setUser st k v = (st, .error (.invalid e))) := by
  obtain ⟨hm, rfl⟩ := find?_some_mem hf
  have hiff := validate_ok_iff o (h.reg o hm) _ (migrate_WF o.mg v hv)
  unfold setUser writeUser
  simp only [hf, hn, if_false]
  cases hc : check o v with
  | ok c =>
    exact .inl ⟨c, (hiff c).mp hc, rfl, by rw [save_find]; exact putOpt_find_same { o with user := some c } hf,
      fun k' hk' => by rw [save_find]; exact putOpt_find_other st _ hk', by simp [signal]⟩
  | error e =>
    exact .inr ⟨fun c hval => (nomatch hc.symm.trans ((hiff c).mpr hval)), e, by rw [putOpt_self h hf]⟩

/-- The default-layer counterpart (`SetDefaultConfigOption`). -/
theorem setDefault_rejects_or_installs (st : St) (h : WF st) (k : Key) (v : Val) (hv : v.WF) (o : Opt)
    (hf : st.find k = some o) (hn : v ≠ .nil) :
    (∃ c, Valid o (migrate o.mg v) c ∧ (setDflt st k v).2 = .ok () ∧
        (setDflt st k v).1.find k = some { o with dflt := some c } ∧
        (∀ k', k' ≠ k → (setDflt st k v).1.find k' = st.find k') ∧ (setDflt st k v).1.gen = st.gen + 1) ∨
    ((∀ c, ¬ Valid o (migrate o.mg v) c) ∧ ∃ e, setDflt st k v = (st, .error (.invalid e))) := by
  obtain ⟨hm, rfl⟩ := find?_some_mem hf
  have hiff := validate_ok_iff o (h.reg o hm) _ (migrate_WF o.mg v hv)
  unfold setDflt writeDflt
  simp only [hf, hn, if_false]
  cases hc : check o v with
  | ok c =>
    exact .inl ⟨c, (hiff c).mp hc, rfl, putOpt_find_same { o with dflt := some c } hf,
      fun k' hk' => putOpt_find_other st _ hk', by simp [signal]⟩
  | error e =>
    exact .inr ⟨fun c hval => (nomatch hc.symm.trans ((hiff c).mpr hval)), e, by rw [putOpt_self h hf]⟩

/-- A rejected set (either layer, any reason, including an unknown option) leaves the state unchanged: every
    getter, `UserValue`, the file and the validity flag are what they were. -/
theorem set_invalid_leaves_unchanged (st : St) (h : WF st) (k : Key) (v : Val) (hv : v.WF) :
    (∀ e, (setUser st k v).2 = .error e → (setUser st k v).1 = st) ∧
    (∀ e, (setDflt st k v).2 = .error e → (setDflt st k v).1 = st) := by
  constructor
  · intro e he
    rcases setUser_outcome h k v with ⟨hok, _⟩ | ⟨_, hst⟩
    · rw [hok] at he; cases he
    · exact hst
  · intro e he
    rcases setDflt_outcome h k v with ⟨hok, _⟩ | ⟨_, hst⟩
    · rw [hok] at he; cases he
    · exact hst

/-- Setting nil removes the value of that layer and succeeds. -/
theorem set_nil_removes (st : St) (k : Key) (o : Opt) (hf : st.find k = some o) :
    (setUser st k .nil).2 = .ok () ∧ (setUser st k .nil).1.find k = some { o with user := none } ∧
    (setDflt st k .nil).2 = .ok () ∧ (setDflt st k .nil).1.find k = some { o with dflt := none } := by
  obtain ⟨-, rfl⟩ := find?_some_mem hf
  unfold setUser setDflt writeUser writeDflt
  simp only [hf, if_true]
  exact ⟨trivial, by rw [save_find]; exact putOpt_find_same { o with user := none } hf, trivial,
    putOpt_find_same { o with dflt := none } hf⟩

/-- After a successful set of a valid value on an option whose release level is enabled, every getter of the
    right type returns that value (canonical form). -/
theorem set_then_get (st : St) (h : WF st) (k : Key) (v : Val) (hv : v.WF) (o : Opt) (hf : st.find k = some o)
    (hn : v ≠ .nil) (c : Cache) (hval : Valid o (migrate o.mg v) c) (fb : GVal) (hty : fb.ty = o.ty)
    (hrl : o.rl ≤ effRL (setUser st k v).1) :
    Config.get (setUser st k v).1 k fb = c.proj fb.ty := by
  have hwf := wf_setUser h k v hv
  rcases set_rejects_or_installs st h k v hv o hf hn with ⟨c', hval', _, hfind, _, _⟩ | ⟨hinv, _⟩
  · obtain rfl : c' = c := Option.some.inj (hval'.1.symm.trans hval.1)
    rw [getter_layering _ hwf k fb _ hfind hty]
    simp [hrl]
  · exact absurd hval (hinv c)

/-! ### 4. Whole-layer replace -/

/-- `ReplaceConfig` installs, for every registered option, exactly the validated value of its entry in the map — no
    value if there is no entry or the entry is invalid — and touches nothing but the user layer. -/
theorem replace_installs_exactly_valid (st : St) (m : List (Key × Val)) (k : Key) (o : Opt)
    (hf : st.find k = some o) :
    (replaceUser st m).1.find k =
      some { o with user := match lookup m k with | some v => (check o v).toOption | none => none } ∧
    (replaceDflt st m).1.find k =
      some { o with dflt := match lookup m k with | some v => (check o v).toOption | none => none } := by
  have hk : o.key = k := (find?_some_mem hf).2
  have hrepl : replOne m o = match lookup m k with | some v => (check o v).toOption | none => none := by
    unfold replOne; rw [hk]
    cases lookup m k with
    | none => rfl
    | some v => simp only [Except.toOption]; cases check o v <;> rfl
  rw [replaceUser_find, replaceDflt_find, hf]
  simp [hrepl]

/-- … and reports exactly the invalid entries of registered options (same list for both layers). -/
theorem replace_reports_exactly_invalid (st : St) (m : List (Key × Val)) (k : Key) (e : VErr) :
    ((k, e) ∈ (replaceUser st m).2 ↔ ∃ o ∈ st.opts, o.key = k ∧ ∃ v, lookup m k = some v ∧ check o v = .error e) ∧
    ((replaceDflt st m).2 = (replaceUser st m).2) := by
  refine ⟨?_, rfl⟩
  simp only [replaceUser, List.mem_filterMap, replErr_eq_some]

/-! ### 5. Save and load -/

/-- For key sets in which no key is a path prefix of another, `Expand` followed by `Flatten` is the identity. -/
theorem flatten_expand_identity (m : List (Key × Val)) (h : PrefixFree (m.map (·.1))) :
    flatten (expand m) = m := by
  unfold flatten; exact expand_eq_self m h

/-- Saving the configuration and loading it again restores exactly the same user-set values (indeed every layer of
    every option and the release-level gate) and reports no validation error — provided no registered key is a path
    prefix of another registered key. -/
theorem save_load_identity_partial (st : St) (h : WF st) (hp : PrefixFree (st.opts.map (·.key)))
    (hpers : st.persist = true) (b : Bool) :
    (load (save st) b).2 = .ok [] ∧ (load (save st) b).1.opts = st.opts ∧ (load (save st) b).1.gate = st.gate := by
  rw [load_save st h hp hpers b]
  exact ⟨rfl, by simp [signal, save_opts], by simp [signal, save_gate]⟩

/-- Without that proviso the statement is false (known finding C04:save-load:key-is-path-prefix-of-another-key):
    with options `a` and `a/b` both set by the user, `a`'s value is gone after save → load. -/
theorem save_load_identity_full_REFUTED :
    ¬ ∀ st : St, WF st → st.persist = true → (load (save st) false).1.opts.map (·.user) = st.opts.map (·.user) := by
  intro hall
  -- the witness is reachable: register `a` and `a/b`, set both
  let oa : Opt := { key := ["a"], ty := .str, rl := 0, fallback := { s := "d" } }
  let oab : Opt := { key := ["a", "b"], ty := .str, rl := 0, fallback := { s := "d" } }
  have hwf := wf_reachable true [oa, oab] [.set ["a"] (.str "u"), .set ["a", "b"] (.str "w")]
    (by simp [oa, oab, RegOK, rlKey]) (by simp [Op.WF, Val.WF])
  have := hall _ hwf (by decide)
  revert this
  decide

/-! ### 6. Getter closures: always current, sequentially and under every interleaving -/

/-- The generation counter of the validity flags never decreases, and a getter closure created at `st` that is
    still current after `ops` holds the current value (helper shape of `closure_returns_current`). -/
theorem closure_inv_run (st : St) (h : WF st) (cl : Closure) (hc : CInv st cl) (ops : List Op)
    (hops : ∀ op ∈ ops, op.WF) : CInv (run st ops) cl ∧ WF (run st ops) :=
  run_invariant (fun st op h hc => cinv_apply st h op cl hc) ops st h hc hops

/-- Along every history, a getter closure (created at any point) returns at every call exactly what a fresh getter
    would return at that moment: the cached validity flag never hides a change. -/
theorem closure_returns_current (st : St) (h : WF st) (cl : Closure) (hc : CInv st cl) (ops : List Op)
    (hops : ∀ op ∈ ops, op.WF) :
    (cl.call (run st ops)).2 = Config.get (run st ops) cl.key cl.fb ∧ CInv (run st ops) (cl.call (run st ops)).1 :=
  have hcur := call_current _ cl (closure_inv_run st h cl hc ops hops).1
  ⟨hcur.1, hcur.2.1⟩

/-- A freshly created closure satisfies the closure invariant. -/
theorem closure_created_current (st : St) (k : Key) (fb : GVal) : CInv st (mkClosure st k fb) := cinv_mk st k fb

/-- `config.ValidityFlag` (config/validity.go). A new flag "always starts out as invalid". -/
theorem validity_flag_new_invalid (st : St) : VFlag.new.isValid st = false := by
  simp [VFlag.new, VFlag.isValid]

/-- Right after `Refresh` the flag is valid. -/
theorem validity_flag_refresh_valid (vf : VFlag) (st : St) : (vf.refresh st).isValid st = true := by
  simp [VFlag.refresh, VFlag.isValid]

/-- What a user of a `ValidityFlag` relies on: as long as the flag refreshed at `st` still reads valid — after any
    sequence of sets, layer replacements, saves and loads — every getter (any key, any fallback/type) returns
    exactly what it returned at the time of the refresh. -/
theorem validity_flag_valid_means_unchanged (st : St) (h : WF st) (vf : VFlag) (ops : List Op)
    (hops : ∀ op ∈ ops, op.WF) (hv : (vf.refresh st).isValid (run st ops) = true) (k : Key) (fb : GVal) :
    Config.get (run st ops) k fb = Config.get st k fb := by
  have hc := (closure_inv_run st h (mkClosure st k fb) (closure_created_current st k fb) ops hops).1
  have hg : st.gen = (run st ops).gen := by
    simpa [VFlag.refresh, VFlag.isValid] using hv
  have := hc.2 (by simpa [mkClosure] using hg)
  simpa [mkClosure] using this.symm

/-- Once a refreshed flag reads invalid it stays invalid, whatever happens next, until it is refreshed again
    (old global flags are never set again: the generation only grows). -/
theorem validity_flag_invalid_is_final (st : St) (h : WF st) (vf : VFlag) (ops more : List Op)
    (hops : ∀ op ∈ ops, op.WF) (hmore : ∀ op ∈ more, op.WF)
    (hv : (vf.refresh st).isValid (run st ops) = false) :
    (vf.refresh st).isValid (run (run st ops) more) = false := by
  have hle1 := run_gen_le h ops hops
  have hle2 := run_gen_le (wf_run ops st h hops) more hmore
  have hne : st.gen ≠ (run st ops).gen := by
    intro e; simp [VFlag.refresh, VFlag.isValid, e] at hv
  have : st.gen ≠ (run (run st ops) more).gen := by omega
  simp [VFlag.refresh, VFlag.isValid, this]

/-- A successful single-option set invalidates every flag refreshed before it. -/
theorem validity_flag_invalid_after_successful_set (st : St) (h : WF st) (vf : VFlag) (k : Key) (v : Val) (hv : v.WF)
    (hok : (setUser st k v).2 = .ok ()) : (vf.refresh st).isValid (apply st (.set k v)) = false := by
  rcases setUser_outcome h k v with ⟨_, e⟩ | ⟨⟨e, he⟩, _⟩
  · simp [VFlag.refresh, VFlag.isValid, apply, e]
  · rw [hok] at he; cases he

open PB.ConfigConc in
/-- Interleaving model, any number of setter calls and of goroutines calling one closure (plain closure with one
    owner, or `Concurrent` closure with its mutex): every completed getter call returned a version at least as new
    as the newest version whose setter had completed `signalChanges` when the call began (so in particular of
    every setter that had returned), and that version was really written. -/
theorem fresh_after_set (s : CSt) (h : Reachable s) :
    ∀ d ∈ s.g.done, d.1 ≤ d.2 ∧ d.2 ≤ s.sh.ver := by
  intro d hd
  have hi := inv_reachable s h
  exact ⟨hi.done_fresh d hd, hi.done_real d hd⟩

open PB.ConfigConc in
/-- Flags are invalidated before they are replaced: in every reachable state only the current flag can be valid. -/
theorem flags_invalidated_before_replaced (s : CSt) (h : Reachable s) :
    ∀ f, f < s.sh.cur → s.sh.valid f = false :=
  (inv_reachable s h).old_invalid

open PB.ConfigConc in
/-- A closure at rest whose cached flag is still valid holds a value at least as new as every completed set. -/
theorem valid_flag_means_fresh_value (s : CSt) (h : Reachable s) (hpc : s.g.pc = 0)
    (hv : s.sh.valid s.g.cflag = true) : s.sh.committed ≤ s.g.cval :=
  (inv_reachable s h).cached_fresh (Or.inl hpc) hv

/-! ### 7. Other observers -/

/-- Perspective getters: the validated entry of the perspective's own config, gated by the current release level;
    `none` for a wrong type or a missing / invalid entry. -/
theorem perspective_getter (st st' : St) (h : WF st) (t : List (Key × Val)) (k : Key) (ty : OptType) (o : Opt)
    (hf : st.find k = some o) :
    pGet st' (newPerspective st t).1 k ty =
      match lookup t k with
      | none => none
      | some v => match check o v with
        | .error _ => none
        | .ok c => if ty ≠ o.ty then none else if o.rl > st'.gate then none else some (c.proj ty) := by
  obtain ⟨hm, rfl⟩ := find?_some_mem hf
  unfold pGet pCache newPerspective
  rw [find?_filterMap_key POpt.key _ (fun _ _ => pEntry_key) st.opts h.nodup o hm]
  unfold pEntry
  simp only [flatten]
  cases lookup t o.key with
  | none => rfl
  | some v =>
    dsimp only
    cases check o v with
    | error _ => rfl
    | ok c => by_cases hty : ty = o.ty <;> by_cases hrl : o.rl > st'.gate <;> simp [hty, hrl]

/-- `UserValue` / `IsSetByUser` show exactly the user layer, and `GetActiveConfigValues` exactly the user values of
    the options whose release level is enabled. -/
theorem user_and_active_values (st : St) (k : Key) (o : Opt) (hf : st.find k = some o) (e : Key × GVal) :
    userValue st k = some (o.user.map (fun c => c.proj o.ty)) ∧
    (e ∈ activeValues st ↔ ∃ p ∈ st.opts, ∃ c, p.rl ≤ st.gate ∧ p.user = some c ∧ e = (p.key, c.proj p.ty)) := by
  constructor
  · simp [userValue, hf]
  · unfold activeValues
    simp only [List.mem_filterMap]
    constructor
    · rintro ⟨p, hp, he⟩
      by_cases hr : p.rl ≤ st.gate
      · cases hu : p.user with
        | none => simp [hr, hu] at he
        | some c => simp [hr, hu] at he; exact ⟨p, hp, c, hr, hu, he.symm⟩
      · simp [hr] at he
    · rintro ⟨p, hp, c, hr, hu, rfl⟩
      exact ⟨p, hp, by simp [hr, hu]⟩

/-! ### Non-vacuity -/

/-- A registered option with regex, allowed values and validation function; valid and invalid values of several
    Go / JSON kinds; a history with a release-level change in the default layer, a rejected set, save and load. -/
example :
    let o : Opt := { key := ["a"], ty := .int, rl := 1, rx := .cat 2, pvs := some [.i 2, .i 1000000], vf := 1, fallback := { i := 2 } }
    RegOK o ∧
    validate o (.flt false false 1000000 false) = .ok { i := 1000000 } ∧
    validate o (.int .u8 200) = .error .notAllowed ∧
    validate o (.int .int 3) = .error .notAllowed ∧
    validate o (.str "2") = .error .notAllowed ∧
    validate { o with pvs := none } (.flt true false 7 true) = .error .float ∧
    validate { o with pvs := none } (.int .i8 (-4)) = .error .regex ∧
    validate { o with pvs := none } (.int .i8 3) = .error .func := by
  refine ⟨by intro _; rfl, ?_, ?_, ?_, ?_, ?_, ?_, ?_⟩ <;> decide

example :
    let o : Opt := { key := ["a"], ty := .int, rl := 1, rx := .cat 2, pvs := some [.i 2, .i 1000000], vf := 1, fallback := { i := 2 } }
    let st0 := register (init true) o
    let st := run st0 [.set ["a"] (.int .int 1000000), .setd rlKey (.str "beta"), .set ["a"] (.int .u8 200), .save, .load false]
    WF st0 ∧ Config.get st0 ["a"] (.i 0) = .i 2 ∧ Config.get st ["a"] (.i 0) = .i 1000000 ∧ effRL st = 1 ∧
      Config.get (run st [.set rlKey (.str "stable")]) ["a"] (.i 0) = .i 2 ∧ Config.get st ["a"] (.s "fb") = .s "fb" ∧
      (load (save st) false).2 = .ok [] := by
  refine ⟨wf_register _ (wf_init true) _ (by intro _; rfl) rfl (by decide), ?_, ?_, ?_, ?_, ?_, ?_⟩ <;> decide

/-- `ValidityFlag` on a concrete history: new flag invalid; refreshed: valid; a rejected set (wrong type) leaves it
    valid; a successful set invalidates it for good (a later save / second set does not revive it). -/
example :
    let o : Opt := { key := ["a"], ty := .int, rl := 0, rx := .none, pvs := none, vf := 0, fallback := { i := 2 } }
    let st := register (init true) o
    let vf := VFlag.new.refresh st
    VFlag.new.isValid st = false ∧ vf.isValid st = true ∧
      vf.isValid (run st [.set ["a"] (.str "x")]) = true ∧
      vf.isValid (run st [.set ["a"] (.int .int 5)]) = false ∧
      vf.isValid (run st [.set ["a"] (.int .int 5), .save, .set ["a"] (.int .int 2)]) = false ∧
      (vf.refresh (run st [.set ["a"] (.int .int 5)])).isValid (run st [.set ["a"] (.int .int 5)]) = true := by
  refine ⟨?_, ?_, ?_, ?_, ?_, ?_⟩ <;> decide

open PB.ConfigConc in
/-- An interleaving in which a setter completes between two calls of a closure; the second call refreshes and
    returns the new version (done = [(1,1),(0,0)]), and one in which the getter fetched the flag before the
    setter's write: it returns the newer value and still refreshes next time. -/
example :
    (runActs {} [.createFlag, .createValue, .begin, .acquire 0, .checkValid, .ret, .write, .invalidate 1, .install,
        .begin, .acquire 1, .checkStale, .fetchFlag, .fetchValue, .ret]).map (fun s => s.g.done) = some [(1, 1), (0, 0)] ∧
    (runActs {} [.createFlag, .createValue, .write, .invalidate 1, .install, .begin, .acquire 1, .checkStale, .fetchFlag,
        .write, .fetchValue, .invalidate 2, .install, .ret, .begin, .acquire 2, .checkStale]).map (fun s => (s.g.done, s.g.pc)) =
      some ([(1, 2)], 2) ∧
    (runActs {} [.createFlag, .createValue, .begin, .acquire 0, .checkStale]).isNone = true := by
  refine ⟨by decide, by decide, by decide⟩

end PB.C04
