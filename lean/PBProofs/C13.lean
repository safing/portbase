import PBProofs.Lemmas.DbApi
/-
C13 — Every database-API message gets the replies its protocol prescribes.

The model (PB/Model/DbApi.lean) describes api/database.go after the `fix:` commits listed in
notes/c13.md; the reply protocol is PB/Spec/DbApiProto.lean.

Quantifiers: all byte strings as messages; all observation sequences of a handler (= every behaviour
of its environment: database results, iterator and feed contents, cancels closing them, concurrent
writes feeding them, the teardown signal); all interleavings of any number of handlers on a
connection; all request histories against the abstract database.
-/

namespace PB.C13
open PB PB.DbApi PB.DbApiProto

/-! ### 1. Classification: total, and every non-malformed class has exactly one wire form -/

/-- Every well-formed request is classified as itself (no well-formed request is taken for
    malformed, or for another command). -/
theorem classify_render (m : Msg) (hwf : WF m) : classify (render m) = m := by
  -- each `cut` finds its bar: `cut_append`
  cases m with
  | malformed | unknown => cases hwf
  | cancel op =>
    have : cut bar sCancel = none := by decide
    simp_all [WF, classify, render, cut_append]
  | read c op arg => simp_all [WF, classify, render, cut_append, rcmd_bytes_nobar, rcmdOf_bytes]
  | write c op key payload =>
    simp_all [WF, classify, render, cut_append, wcmd_bytes_nobar, rcmdOf_wbytes, wcmdOf_bytes]

/-- Conversely: whatever is dispatched to a handler is a well-formed request and the message is its
    wire form — so the classes are exclusive and nothing else reaches a handler. -/
theorem classify_sound (b : Bytes) (hs : (classify b).spawns = true) :
    WF (classify b) ∧ render (classify b) = b := by
  revert hs
  -- `cases hs` leaves the three dispatching branches of `classify`, in source order
  fun_cases classify b <;> intro hs <;> cases hs
  next op h1 _ =>
    -- cancel
    obtain ⟨rfl, n1⟩ := cut_some _ _ _ _ h1
    exact ⟨n1, by simp [render]⟩
  next op r1 h1 cmd arg h2 c h3 =>
    -- get / query / sub / qsub / delete
    obtain ⟨rfl, n1⟩ := cut_some _ _ _ _ h1
    obtain ⟨rfl, -⟩ := cut_some _ _ _ _ h2
    exact ⟨n1, by simp [render, rcmdOf_some _ _ h3]⟩
  next op r1 h1 cmd arg h2 _ c h4 key payload h5 =>
    -- create / update / insert
    obtain ⟨rfl, n1⟩ := cut_some _ _ _ _ h1
    obtain ⟨rfl, -⟩ := cut_some _ _ _ _ h2
    obtain ⟨rfl, n3⟩ := cut_some _ _ _ _ h5
    exact ⟨⟨n1, n3⟩, by simp [render, wcmdOf_some _ _ h4]⟩

/-- A malformed message / unknown method yields exactly one error reply (sent by Handle itself),
    which is a complete conversation for it; everything else is dispatched to exactly one handler. -/
theorem unspawned_answered_with_one_error (b : Bytes) (hs : (classify b).spawns = false) :
    ∃ e, syncReplies (classify b) = [errReply (classify b).op e] ∧
      Conforms (classify b).kind (tys (syncReplies (classify b))) := by
  obtain ⟨hk, e, he⟩ := not_spawns hs
  exact ⟨e, he, .fin, by rw [he, hk]; rfl, trivial⟩

/-! ### 2. Every handler follows its protocol, whatever its environment does -/

section
-- the next four proofs do not use `hs`
set_option linter.unusedVariables false

/-- At every moment, under every behaviour of the environment, what a handler has sent so far is a
    legal beginning of its request's conversation. -/
theorem replies_conform (m : Msg) (hs : m.spawns = true) (obs : List Obs) :
    ConformsPrefix m.kind (tys (runPc (.start m) obs).2) := by
  obtain ⟨p, hr, -⟩ := runPc_legal obs (.start rfl)
  exact ⟨p, hr⟩

/-- When a handler has returned (without connection teardown) its request's conversation is complete:
    get: one ok|error; query: (ok|warning)* then exactly one done|error; sub/qsub: ended by done (or
    refused by an error); create/update/insert/delete: exactly one success|error; cancel: silent or one error. -/
theorem replies_conform_returned (m : Msg) (hs : m.spawns = true) (obs : List Obs)
    (hfin : (runPc (.start m) obs).1 = .fin) : Conforms m.kind (tys (runPc (.start m) obs).2) := by
  obtain ⟨p, hr, hsim, -⟩ := runPc_legal obs (.start rfl)
  rw [hfin] at hsim
  cases hsim with
  | fin hc => exact ⟨p, hr, hc⟩

/-- A handler that returned because of the connection teardown was a query or subscription in some
    legal intermediate phase; it sent nothing on that occasion. -/
theorem replies_conform_teardown (m : Msg) (hs : m.spawns = true) (obs : List Obs)
    (hdown : (runPc (.start m) obs).1 = .down) :
    ∃ p, run (init m.kind) (tys (runPc (.start m) obs).2) = some p ∧ Open p := by
  obtain ⟨p, hr, hsim, -⟩ := runPc_legal obs (.start rfl)
  rw [hdown] at hsim
  cases hsim with
  | down ho => exact ⟨p, hr, ho⟩

/-- One-shot requests: a returned get / create / update / insert / delete handler has sent exactly one reply. -/
theorem one_shot_exactly_one_reply (m : Msg) (hs : m.spawns = true) (hk : m.kind = .get ∨ m.kind = .write)
    (obs : List Obs) (hfin : (runPc (.start m) obs).1 = .fin) :
    ((runPc (.start m) obs).2).length = 1 ∧
      (m.kind = .get → tys (runPc (.start m) obs).2 = [.ok] ∨ tys (runPc (.start m) obs).2 = [.error]) ∧
      (m.kind = .write → tys (runPc (.start m) obs).2 = [.success] ∨ tys (runPc (.start m) obs).2 = [.error]) := by
  obtain ⟨p, hr, hc⟩ := replies_conform_returned m hs obs hfin
  have hlen : ∀ t, tys (runPc (.start m) obs).2 = [t] → (runPc (.start m) obs).2.length = 1 :=
    fun t h => by simpa [tys] using congrArg List.length h
  rcases hk with hk | hk <;> rw [hk] at hr
  · have := run_get1 hr hc
    exact ⟨this.elim (hlen _) (hlen _), fun _ => this, fun h => (by cases hk.symm.trans h)⟩
  · have := run_write1 hr hc
    exact ⟨this.elim (hlen _) (hlen _), fun h => (by cases hk.symm.trans h), fun _ => this⟩

end

/-- Queries: zero or more records (ok, or warning for a record that cannot be marshalled) and then
    exactly one done or error — also when the iterator was cancelled under the handler. -/
theorem query_replies_shape (op arg : Bytes) (obs : List Obs)
    (hfin : (runPc (.start (.read .query op arg)) obs).1 = .fin) :
    ∃ recs t, tys (runPc (.start (.read .query op arg)) obs).2 = recs ++ [t] ∧
      (∀ x ∈ recs, x = .ok ∨ x = .warning) ∧ (t = .done ∨ t = .error) := by
  obtain ⟨p, hr, hc⟩ := replies_conform_returned _ rfl obs hfin
  exact run_q hr hc

/-- Subscriptions: once the feed is closed (cancel) the loop answers `done` and returns; a returned
    handler never sends again. -/
theorem sub_closed_then_done (op : Bytes) (e : Option Err) (obs : List Obs) :
    runPc (.sloop op) (.closed e :: obs) = (.fin, [{ op := op, ty := .done }]) := by
  have hfin : runPc .fin obs = (.fin, []) := by
    induction obs with
    | nil => rfl
    | cons o os ih => rw [runPc_cons]; exact ih ▸ rfl
  rw [runPc_cons]
  exact hfin ▸ rfl

/-! ### 3. Replies carry the request's operation ID -/

theorem replies_carry_opid (m : Msg) (obs : List Obs) :
    (∀ r ∈ (runPc (.start m) obs).2, r.op = m.op) ∧ (∀ r ∈ syncReplies m, r.op = m.op) := by
  obtain ⟨-, -, -, h⟩ := runPc_legal obs (.start (m := m) rfl)
  exact ⟨h, by cases m <;> simp [syncReplies, errReply, Msg.op]⟩

/-- On the wire: the client reads the operation ID back off every reply built by `send`. -/
theorem wire_carries_opid (op : Bytes) (ty : RType) (k d : Bytes) (h : bar ∉ op) :
    wireOp (send op ty k d) = op := by
  simp [wireOp, send, cut_append, h]

/-! ### 4. Every interleaving of concurrently handled requests -/

/-- For every sequence of message deliveries and handler steps — any number of handlers, any
    interleaving, any observations (cancels, concurrent writes feeding subscriptions, teardown) — the
    trace of requests and replies is accepted: per operation ID the replies can be attributed to the
    requests issued under it such that each request's replies follow its protocol. -/
theorem every_interleaving_accepted (acts : List Act) : Accepted (connRun {} acts).trace := by
  obtain ⟨cfg, hcfg, -⟩ := good_run {} acts good_init
  exact List.ne_nil_of_mem hcfg

/-- A reply handed to the send function is final: whatever is delivered or done afterwards (any messages, any
    handler steps, any observations), the trace so far stays as it is — later activity only appends. In the model
    requests and replies are values; no reply shares storage with the request buffer or with a later reply. The
    correspondence run ties exactly this to the code: the harness' send function keeps the slices it is given and
    reads them again after later operations (`late`), requests arrive in buffers with spare capacity. -/
theorem sent_replies_are_final (c : Conn) (acts : List Act) :
    ∃ more, (connRun c acts).trace = c.trace ++ more := by
  induction acts generalizing c with
  | nil => exact ⟨[], (List.append_nil _).symm⟩
  | cons a as ih =>
    obtain ⟨m2, h2⟩ := ih (connStep c a)
    have h1 : ∃ m1, (connStep c a).trace = c.trace ++ m1 := by
      cases a with
      | deliver msg => exact ⟨_, List.append_assoc ..⟩
      | tstep i o =>
        simp only [connStep]
        cases c.threads[i]? with
        | none => exact ⟨[], (List.append_nil _).symm⟩
        | some t => exact ⟨_, rfl⟩
    obtain ⟨m1, h1⟩ := h1
    exact ⟨m1 ++ m2, by rw [connRun, h2, h1, List.append_assoc]⟩

/-- The executable trace acceptor (run by the tie on recorded traces of the real code) accepts exactly
    the traces that can be explained: every request opens a conversation in its kind's initial phase and
    every reply advances ONE conversation of its own operation ID by a step the protocol allows. -/
theorem acceptor_decides_explanation (es : List Ev) :
    Accepted es ↔ ∃ c', Explained [] es c' := by
  constructor
  · intro h
    obtain ⟨c', hc'⟩ := List.exists_mem_of_ne_nil _ h
    obtain ⟨c, hc, he⟩ := (accRun_iff accInit es c').mp hc'
    cases List.mem_singleton.mp hc
    exact ⟨c', he⟩
  · rintro ⟨c', he⟩
    exact List.ne_nil_of_mem ((accRun_iff accInit es c').mpr ⟨[], .head _, he⟩)

/-- In an explanation every request's phase is the one the protocol automaton reaches over the replies
    attributed to that request (so each request's own replies form a legal conversation prefix). -/
theorem explained_conversations_reachable (es : List Ev) (c' : Config) (h : Explained [] es c') :
    ∀ r ∈ c', ∃ ts, run (init r.kind) ts = some r.ph :=
  explained_reach [] c' es h (by simp)

/-! ### 5. A record written through the API is read back unchanged (plus `_meta`) -/

/-- After an acknowledged create/update of `key` with payload `f :: body` in a key/record store,
    and after any further history of requests that neither write nor delete that key, `get key`
    answers with exactly one reply: the record with the written JSON content (to which MarshalRecord adds
    the `_meta` section) if the payload was a JSON object in JSON format — and an error otherwise. -/
theorem written_record_reads_back (st : St) (msg : Bytes) (an : Annot) (c : WCmd) (op key : Bytes)
    (f b : UInt8) (rest : Bytes)
    (hc : classify msg = .write c op key (f :: b :: rest)) (hci : c ≠ .insert)
    (hack : ({ op := op, ty := .success } : Reply) ∈ (handle st msg an).2)
    (hplain : (slot st.dbs (parseKey key).1 (parseKey key).2).map (·.1) = some .plain)
    (hist : List (Bytes × Annot))
    (hnt : ∀ x ∈ hist, ¬ touches x.1 (parseKey key).1 (parseKey key).2)
    (getMsg : Bytes) (an2 : Annot) (op2 : Bytes) (hg : classify getMsg = .read .get op2 key) :
    (handle (runMsgs (handle st msg an).1 hist) getMsg an2).2 =
      if f = fmtJSON ∧ an.obj = true then
        [{ op := op2, ty := .ok, key := fullKey (parseKey key).1 (parseKey key).2,
           data := some { json := b :: rest, untracked := false } }]
      else [errReply op2 (if f = fmtJSON then .other else .format)] := by
  have h1 := put_ack_slot st msg an c op key f b rest hc hci hack hplain
  have h2 := runMsgs_frame (handle st msg an).1 hist _ _ hnt
  rw [handle_get _ getMsg an2 op2 key hg, getAnswer, getRec_slot, h2.trans h1]
  by_cases hf : f = fmtJSON <;> by_cases ho : an.obj = true <;> simp [permitted, marshal, hf, ho]

/-- A create / update / insert / delete that is answered with an error has changed no record of any
    database (in particular an insert of which a later value is refused leaves nothing of the earlier
    values behind). -/
theorem refused_write_changes_nothing (st : St) (msg : Bytes) (an : Annot) (op : Bytes) (e : Err)
    (hk : (classify msg).kind = .write)
    (herr : (handle st msg an).2 = [errReply op e]) : (handle st msg an).1.dbs = st.dbs := by
  rw [handle_write st msg an hk] at herr ⊢
  cases hw : writeEffect st an (classify msg) with
  | error e' => rfl
  | ok w => rw [hw] at herr; exact absurd herr (append_success_ne_err _ _ _ _)

/-! ### Non-vacuity -/

-- classification of concrete messages: `7|get|db:k`, `7|cancel`, `7|create|db:k|J{}`, `x`, `7|foo|y`, `7|create|db:k`
example : classify [55, 124, 103, 101, 116, 124, 100, 98, 58, 107] = .read .get [55] [100, 98, 58, 107] := by decide
example : classify [55, 124, 99, 97, 110, 99, 101, 108] = .cancel [55] := by decide
example : classify [55, 124, 99, 114, 101, 97, 116, 101, 124, 100, 98, 58, 107, 124, 74, 123, 125] =
    .write .create [55] [100, 98, 58, 107] [74, 123, 125] := by decide
example : classify [120] = .malformed := by decide
example : classify [55, 124, 102, 111, 111, 124, 121] = .unknown [55] := by decide
example : classify [55, 124, 99, 114, 101, 97, 116, 101, 124, 100, 98, 58, 107] = .malformed := by decide

-- a query whose iterator yields a record, a record that cannot be marshalled, and is then closed
example :
    let r1 : RecView := { key := [107], marshal := .ok { json := [123, 125], untracked := false }, deleted := false, isNew := true }
    let r2 : RecView := { key := [108], marshal := .error .format, deleted := false, isNew := true }
    tys (runPc (.start (.read .query [55] [])) [.res (.ok ()), .item r1, .item r2, .closed none]).2 = [.ok, .warning, .done] := by
  decide

-- a qsub: query part, done, then notifications, cancelled (feed closed), done
example :
    let r1 : RecView := { key := [107], marshal := .ok { json := [123, 125], untracked := false }, deleted := false, isNew := false }
    let r2 : RecView := { key := [107], marshal := .ok { json := [], untracked := false }, deleted := true, isNew := false }
    runPc (.start (.read .qsub [55] [])) [.res (.ok ()), .res (.ok ()), .item r1, .closed none, .item r1, .item r2, .closed none]
      = (.fin, [{ op := [55], ty := .ok, key := [107], data := some { json := [123, 125], untracked := false } },
                { op := [55], ty := .done },
                { op := [55], ty := .upd, key := [107], data := some { json := [123, 125], untracked := false } },
                { op := [55], ty := .del, key := [107] },
                { op := [55], ty := .done }]) := by
  decide

-- an interleaving: a query and a get under the same operation ID, their replies interleaved, plus a malformed message
example :
    let r1 : RecView := { key := [107], marshal := .ok { json := [123, 125], untracked := false }, deleted := false, isNew := true }
    (connRun {} [.deliver [55, 124, 113, 117, 101, 114, 121, 124, 113], .deliver [55, 124, 103, 101, 116, 124, 107], .deliver [120],
                 .tstep 0 (.res (.ok ())), .tstep 0 (.item r1), .tstep 1 (.got (.error .notfound)), .tstep 0 (.closed none)]).trace
      = [.req [55] .query, .req [55] .get, .req [] .bad, .rep [] .error, .rep [55] .ok, .rep [55] .error, .rep [55] .done] := by
  decide

-- the acceptor does reject: a second terminator for a query, a reply under a foreign operation ID
example : accRun accInit [.req [55] .query, .rep [55] .done, .rep [55] .done] = [] := by decide
example : accRun accInit [.req [55] .get, .rep [56] .ok] = [] := by decide
example : ¬ Conforms .get [.ok, .ok] := by
  intro ⟨p, h, _⟩
  cases h

-- a refused insert (no accessor: the record is CBOR) answers with one error and changes nothing
example :
    let st : St := { dbs := [{ name := [100, 98], kind := .plain, recs := [([107], { fmt := 67, data := [1] })] }] }
    (handle st [49, 124, 105, 110, 115, 101, 114, 116, 124, 100, 98, 58, 107, 124, 123, 125] {}).2 = [errReply [49] .noacc] := by
  decide

-- read back in a concrete database: create db:k with J{} then get
example :
    let st : St := { dbs := [{ name := [100, 98], kind := .plain }] }
    let st1 := (handle st [49, 124, 99, 114, 101, 97, 116, 101, 124, 100, 98, 58, 107, 124, 74, 123, 125] {}).1
    (handle st1 [50, 124, 103, 101, 116, 124, 100, 98, 58, 107] {}).2 =
      [{ op := [50], ty := .ok, key := [100, 98, 58, 107], data := some { json := [123, 125], untracked := false } }] := by
  decide

end PB.C13
