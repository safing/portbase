import PBProofs.Lemmas.Container
/-
C16 — A container is a faithful byte queue.
Refinement of the concrete representation (compartment list + offset, `PB.Model.Container`) to the
plain byte queue `PB.Spec.ByteQueue`, for every finite operation sequence.
-/
namespace PB.C16
open PB PB.Varint PB.Container
open PB.ByteQueue (Op Out)

/-- Every container built by `New(data...)` satisfies the representation invariant and holds the
    concatenation of the given slices (empty, one slice, many slices, empty slices inside). -/
theorem new_refines (ds : List Bytes) : Inv (new ds) ∧ abs (new ds) = ds.flatten :=
  ⟨inv_new ds, abs_new ds⟩

/-- One public method call: the invariant is kept, the new abstract queue and the observable result
    (bytes, numbers, lengths, success / error kind) are exactly those of the byte-queue operation. -/
theorem refines_step (c : C) (h : Inv c) (op : Op) :
    Inv (step c op).1 ∧ abs (step c op).1 = (PB.ByteQueue.step (abs c) op).1 ∧
    (step c op).2 = (PB.ByteQueue.step (abs c) op).2 := by
  obtain ⟨a, b⟩ := step_refines c h op
  have b1 := congrArg Prod.fst b
  have b2 := congrArg Prod.snd b
  exact ⟨a, b1, b2⟩

/-- Any finite sequence of operations on the container yields the same results as on the byte queue. -/
theorem refines_run (ops : List Op) : ∀ (c : C), Inv c →
    Inv (run c ops).1 ∧ abs (run c ops).1 = (PB.ByteQueue.run (abs c) ops).1 ∧
    (run c ops).2 = (PB.ByteQueue.run (abs c) ops).2 := by
  induction ops with
  | nil => intro c h; exact ⟨h, rfl, rfl⟩
  | cons op ops ih =>
    intro c h
    obtain ⟨a, b, o⟩ := refines_step c h op
    obtain ⟨a', b', o'⟩ := ih (step c op).1 a
    simp only [run, PB.ByteQueue.run]
    rw [b] at b' o'
    exact ⟨a', b', by rw [o, o']⟩

/-- The statement of the property for containers created from any list of slices. -/
theorem container_is_byte_queue (ds : List Bytes) (ops : List Op) :
    (run (new ds) ops).2 = (PB.ByteQueue.run ds.flatten ops).2 ∧
    abs (run (new ds) ops).1 = (PB.ByteQueue.run ds.flatten ops).1 := by
  obtain ⟨_, b, o⟩ := refines_run ops (new ds) (inv_new ds)
  rw [abs_new] at b o
  exact ⟨o, b⟩

/-! ### Several containers: operations that take another container as their argument -/

open PB.ByteQueue (WOp)

/-- `AppendContainer(other)` appends ALL compartments of `other`, whatever `other.offset` is. With `other` in any
    state its history can leave it in (the invariant: consumed slots are empty) the receiver gains exactly the
    bytes `other` still holds — also for `c.AppendContainer(c)`. -/
theorem appendContainer_any_state (c d : C) (hc : Inv c) (hd : Inv d) :
    Inv (appendContainer c d) ∧ abs (appendContainer c d) = abs c ++ abs d ∧
    Inv (appendContainerAsBlock c d) ∧ abs (appendContainerAsBlock c d) = abs c ++ pack64 (abs d).length ++ abs d := by
  obtain ⟨a, b⟩ := appendContainer_spec c d hc hd
  obtain ⟨a', b'⟩ := appendContainerAsBlock_spec c d hc hd
  exact ⟨a, b, a', b'⟩

/-- … and this really depends on consumed slots being emptied (`c.compartments[i] = nil` in `skip` and
    `WriteToSlice`): an argument whose consumed slot still holds its old bytes gives them back. -/
theorem appendContainer_needs_emptied_slots :
    ∃ c d : C, Inv c ∧ ¬ Inv d ∧ d.offset ≤ d.comps.length ∧ abs (appendContainer c d) ≠ abs c ++ abs d :=
  ⟨⟨[[120]], 0⟩, ⟨[[97, 98], [99]], 1⟩, by simp [PB.Container.Inv], by simp [PB.Container.Inv], by decide, by decide⟩

/-- One operation on a world of containers (a single-container call on any of them, or an append of one to
    another — or to itself) keeps every invariant and agrees with the same operation on a world of byte queues. -/
theorem world_refines_step (w : List C) (h : WInv w) (op : WOp) :
    WInv (wstep w op).1 ∧ (wstep w op).1.map abs = (PB.ByteQueue.wstep (w.map abs) op).1 ∧
    (wstep w op).2 = (PB.ByteQueue.wstep (w.map abs) op).2 := wstep_refines w h op

theorem world_refines_run (ops : List WOp) : ∀ (w : List C), WInv w →
    WInv (wrun w ops).1 ∧ (wrun w ops).1.map abs = (PB.ByteQueue.wrun (w.map abs) ops).1 ∧
    (wrun w ops).2 = (PB.ByteQueue.wrun (w.map abs) ops).2 := by
  induction ops with
  | nil => intro w h; exact ⟨h, rfl, rfl⟩
  | cons op ops ih =>
    intro w h
    obtain ⟨a, b, o⟩ := world_refines_step w h op
    obtain ⟨a', b', o'⟩ := ih (wstep w op).1 a
    simp only [wrun, PB.ByteQueue.wrun]
    rw [b] at b' o'
    exact ⟨a', b', by rw [o, o']⟩

/-- Any finite history of any number of containers, with containers handed to each other in whatever state
    they are, yields the results of the same history on plain byte queues. -/
theorem containers_are_byte_queues (ops : List WOp) :
    (wrun [] ops).2 = (PB.ByteQueue.wrun [] ops).2 ∧ (wrun [] ops).1.map abs = (PB.ByteQueue.wrun [] ops).1 := by
  obtain ⟨_, b, o⟩ := world_refines_run ops [] (by intro c hc; simp at hc)
  exact ⟨o, b⟩

/-! ### Corollaries named after the clauses of the statement (about the spec, hence about the container) -/

/-- Every byte comes out exactly once, in order and unmodified (byte-queue side): appending any slices and
    then draining returns exactly the concatenation and leaves nothing. -/
theorem spec_append_then_drain (q : Bytes) (more : List Bytes) :
    (PB.ByteQueue.run q (more.map Op.append ++ [Op.getAll, Op.length])).2.drop more.length
      = [Out.bytes (q ++ more.flatten), Out.num 0] := by
  induction more generalizing q with
  | nil => simp [PB.ByteQueue.run, PB.ByteQueue.step]
  | cons m more ih =>
    simp only [List.map_cons, List.cons_append, PB.ByteQueue.run, PB.ByteQueue.step, List.length_cons,
      List.drop_succ_cons, List.flatten_cons]
    rw [ih (q ++ m)]
    simp

/-- … and therefore for the container, whatever slices it was created from. -/
theorem every_byte_once_in_order (ds more : List Bytes) :
    (run (new ds) (more.map Op.append ++ [Op.getAll, Op.length])).2.drop more.length
      = [Out.bytes (ds.flatten ++ more.flatten), Out.num 0] := by
  rw [(container_is_byte_queue ds _).1]
  exact spec_append_then_drain ds.flatten more

/-- A request for more data than is held fails and leaves the queue as it was. -/
theorem get_too_much_leaves_queue (c : C) (h : Inv c) (n : Int) (hn : n.toNat > (abs c).length) (h0 : 0 < n) :
    (step c (.get n)).2 = .err "notenough" ∧ abs (step c (.get n)).1 = abs c := by
  obtain ⟨_, b, o⟩ := refines_step c h (.get n)
  rw [b, o]
  have : ¬ n ≤ 0 := by omega
  simp [PB.ByteQueue.step, PB.ByteQueue.get, PB.ByteQueue.outGet, this, hn]

/-- A failed number read (truncated or oversized varint) leaves the queue as it was. -/
theorem failed_number_read_leaves_queue (c : C) (h : Inv c) (e : String)
    (he : (step c .getNextN64).2 = .err e) : abs (step c .getNextN64).1 = abs c := by
  obtain ⟨_, b, o⟩ := refines_step c h .getNextN64
  rw [b]
  rw [o] at he
  simp only [PB.ByteQueue.step, PB.ByteQueue.getNextN] at he ⊢
  cases hu : unpack64 (PB.ByteQueue.peek (abs c) 10) with
  | error e' => simp [PB.ByteQueue.outNum]
  | ok p => rw [hu] at he; simp [PB.ByteQueue.outNum] at he

/-- Generic form of `number_roundtrip`: an encoding `p` of at most `k` bytes that the decoder reads back
    exactly (whatever follows it) is read back exactly from the front of the queue and nothing else is consumed. -/
theorem getNextN_roundtrip (unpack : Bytes → Except PB.Varint.Err (Nat × Nat)) (k : Nat) (hk : 0 < k)
    (p q : Bytes) (n : Nat) (hp : p.length ≤ k) (hu : ∀ rest, unpack (p ++ rest) = .ok (n, p.length)) :
    PB.ByteQueue.getNextN unpack (k : Int) (p ++ q) = (q, .ok n) := by
  have hk' : ¬ ((k : Int) ≤ 0) := by omega
  simp only [PB.ByteQueue.getNextN, PB.ByteQueue.peek, hk', if_false, Int.toNat_natCast]
  rw [List.take_append, List.take_of_length_le hp, hu]
  simp

/-- A number that was put in is read back exactly and consumes exactly its own bytes (no continuation
    byte left behind), for every uint64 and whatever follows it. -/
theorem number_roundtrip (q : Bytes) (n : Nat) (hn : n < 2 ^ 64) :
    PB.ByteQueue.step (pack64 n ++ q) .getNextN64 = (q, .num n) :=
  congrArg PB.ByteQueue.outNum (getNextN_roundtrip unpack64 10 (by omega) (pack64 n) q n
    (putUvarint_length_le 9 n (by omega)) (unpack64_put n hn))

/-- Numbers of the narrow widths written with `Pack8/16/32` and put into a container are read back exactly by
    `GetNextN8/16/32`, consuming exactly their own bytes. -/
theorem narrow_number_roundtrip (q : Bytes) (n : Nat) :
    (n < 2 ^ 8 → PB.ByteQueue.step (pack8 n ++ q) .getNextN8 = (q, .num n)) ∧
    (n < 2 ^ 16 → PB.ByteQueue.step (pack16 n ++ q) .getNextN16 = (q, .num n)) ∧
    (n < 2 ^ 32 → PB.ByteQueue.step (pack32 n ++ q) .getNextN32 = (q, .num n)) := by
  refine ⟨fun h => ?_, fun h => ?_, fun h => ?_⟩
  · have hl : (pack8 n).length ≤ 2 := by unfold pack8; split <;> simp
    exact congrArg PB.ByteQueue.outNum (getNextN_roundtrip unpack8 2 (by omega) (pack8 n) q n hl (unpack8_put n h))
  · exact congrArg PB.ByteQueue.outNum (getNextN_roundtrip unpack16 3 (by omega) (pack16 n) q n
      (putUvarint_length_le 2 n (by omega)) (fun rest => unpackW_put 65535 n rest (by omega) (by omega)))
  · exact congrArg PB.ByteQueue.outNum (getNextN_roundtrip unpack32 5 (by omega) (pack32 n) q n
      (putUvarint_length_le 4 n (by omega)) (fun rest => unpackW_put 4294967295 n rest (by omega) (by omega)))

/-- A block whose declared length exceeds what is held is an error (for every declared length up to 2^64-1)
    — never a panic, an empty "successful" block or data that was not put in. -/
theorem oversized_block_is_error (q : Bytes) (sz n : Nat)
    (hu : unpack64 (q.take 10) = .ok (sz, n)) (hbig : sz > (q.drop n).length) :
    PB.ByteQueue.step q .getNextBlock = (q.drop n, .err "notenough") := by
  have h10 : Int.toNat 10 = 10 := rfl
  simp only [PB.ByteQueue.step, PB.ByteQueue.getNextBlock, PB.ByteQueue.getNextN, PB.ByteQueue.peek, h10]
  have h10' : ¬ ((10 : Int) ≤ 0) := by omega
  simp only [h10', if_false, hu, hbig, if_true, PB.ByteQueue.outBlock]

/-! ### Constructors and serialization.go -/

/-- `NewContainer(data...)` ("DEPRECATED … it's the same thing") builds exactly the container `New(data...)`
    builds, so everything proved from `New` holds from `NewContainer`. -/
theorem newContainer_eq_new (ds : List Bytes) : newContainer ds = new ds := rfl

/-- `MarshalJSON` keeps the queue (it only restructures the compartments) and returns the JSON form of
    exactly the bytes held. -/
theorem marshalJSON_keeps_queue (c : C) (h : Inv c) :
    Inv (marshalJSON c).1 ∧ abs (marshalJSON c).1 = abs c ∧ (marshalJSON c).2 = PB.Base64.jsonEnc (abs c) := by
  obtain ⟨a, b, o⟩ := compileData_spec c h
  exact ⟨a, b, by simp [marshalJSON, o]⟩

/-- JSON round trip: the text `MarshalJSON` produces for a container `c` decodes (modelled codec: base64
    in quotes) and `UnmarshalJSON` of it into ANY container `d` — fresh or used, whatever its offset — leaves
    `d` holding exactly the bytes of `c`, in a state satisfying the representation invariant. -/
theorem container_json_roundtrip (c d : C) (h : Inv c) :
    ∃ raw, PB.Base64.jsonDec (marshalJSON c).2 = .ok raw ∧
      (unmarshalJSON d (some raw)).2 = .ok () ∧
      Inv (unmarshalJSON d (some raw)).1 ∧ abs (unmarshalJSON d (some raw)).1 = abs c := by
  obtain ⟨_, _, o⟩ := marshalJSON_keeps_queue c h
  refine ⟨abs c, ?_, rfl, (single_spec _).1, (single_spec _).2⟩
  rw [o]
  exact PB.Base64.jsonDec_jsonEnc (abs c)

/-- The same with the codec as a parameter: for ANY decoder that inverts the encoder on the text produced. -/
theorem container_json_roundtrip_param (enc : Bytes → Bytes) (dec : Bytes → Option Bytes)
    (hcodec : ∀ b, dec (enc b) = some b) (c d : C) (h : Inv c) :
    abs (unmarshalJSON d (dec (enc (compileData c).2))).1 = abs c := by
  obtain ⟨_, _, o⟩ := compileData_spec c h
  rw [hcodec, o]
  simp [unmarshalJSON, abs]

/-- A text the JSON decoder rejects leaves the container exactly as it was (not only its abstract queue). -/
theorem failed_unmarshal_leaves_container (c : C) : unmarshalJSON c none = (c, .error .json) := rfl

/-- `WriteAllTo` into a writer that takes `budget` bytes and then fails: exactly the first `budget` bytes of
    the queue reach the writer, in order; `nil` is returned iff everything fitted; the container is not
    touched (the function does not return a new container state at all). -/
theorem writeAllTo_writes_prefix (c : C) (budget : Nat) :
    writeAllTo c budget = ((abs c).take budget, decide ((abs c).length ≤ budget)) := by
  simp [writeAllTo, wtaLoop_spec, abs]

theorem writeAllTo_complete (c : C) (budget : Nat) (hb : (abs c).length ≤ budget) :
    writeAllTo c budget = (abs c, true) := by
  rw [writeAllTo_writes_prefix, List.take_of_length_le hb]
  simp [hb]

/-- `GetNextN16` / `GetNextN32` hand at most 3 / 5 bytes to the decoder: the "greater than uint64" exit of
    `Unpack16` / `Unpack32` (the `r < 0` branch) cannot be reached through the container — a varint needs
    its tenth byte to overflow. -/
theorem narrow_reads_cannot_overflow (bs : Bytes) (h : bs.length ≤ 9) : uvarint bs ≠ .overflow :=
  uvarintAux_ne_overflow bs 0 0 (by omega)

/-! ### Non-vacuity: a state with spare slots, offset > 0 and consumed (nil) slots -/

example : (run (new [[1, 2], [], [3]]) [.prepend [9], .get 2, .getNextN8, .length]).2
    = [.unit, .bytes [9, 1], .num 2, .num 1] := by decide
example : (run (new [[1, 2], [], [3]]) [.prepend [9], .get 2]).1.offset = 5 ∧
    (run (new [[1, 2], [], [3]]) [.prepend [9], .get 2]).1.comps.length = 8 := by decide
example : Inv (run (new []) [.prepend [1], .getAll, .append [5]]).1 := by
  exact (refines_run _ _ (inv_new _)).1
example : (run (new []) [.peek 3, .get 1, .getNextN16, .getNextBlock]).2
    = [.bytes [], .err "notenough", .err "small", .err "small"] := by decide
example : (run (newContainer [[1, 2], [], [3]]) [.prepend [9], .get 1, .writeAllTo 2, .writeAllTo 3,
      .unmarshalJSON (some [7, 7]), .length, .unmarshalJSON none, .getAll]).2
    = [.unit, .bytes [9], .wts [1, 2] false, .wts [1, 2, 3] true,
       .unit, .num 2, .err "json", .bytes [7, 7]] := by decide
example : (run (newContainer [[1, 2], [], [3]]) [.prepend [9], .get 1, .marshalJSON, .length]).2
    = [.unit, .bytes [9], .bytes [34, 65, 81, 73, 68, 34], .num 3] := by decide +kernel
set_option maxRecDepth 8000 in
example : PB.Base64.jsonDec [34, 65, 81, 73, 68, 34] = .ok [1, 2, 3] := by decide
set_option maxRecDepth 8000 in
example : PB.Base64.jsonDec [34, 65, 81, 61, 68, 34] = .err := by decide
set_option maxRecDepth 8000 in
example : PB.Base64.jsonDec [91, 49, 93] = .delegated := by decide
/- the scenario of a container handed over after part of it was consumed: New("ab","cd","ef"); Get(3);
   x.AppendContainer(it) must give "x" ++ "def" -/
example : (wrun [] [.newc [[97, 98], [99, 100], [101, 102]], .newc [[120]], .on 0 (.get 3), .appendFrom 1 0,
      .on 1 .getAll, .on 0 (.prepend [9]), .appendFrom 0 0, .on 0 .getAll, .on 7 .length]).2
    = [.unit, .unit, .bytes [97, 98, 99], .unit, .bytes [120, 100, 101, 102], .unit, .unit,
       .bytes [9, 100, 101, 102, 9, 100, 101, 102], .err "noslot"] := by decide

end PB.C16
