import PBProofs.Lemmas.Dsd
/-
C09 — DSD dump/load round-trips in every format, compressed or over HTTP.
Property theorems only (helper lemmas live in PBProofs/Lemmas/Dsd.lean, the codec contract `Codec.Sound` and
the independent reading of Accept headers in PB/Spec/Dsd.lean). All theorems hold for every value type `V`,
every codec satisfying the contract, every value, every byte string / header string — and for every value of the
two assignable package variables `DefaultSerializationFormat` / `DefaultCompressionFormat` (`cfg`) on the dumping
side for which AUTO stands for a format of the property (`f = AUTO → cfg.SerOk`, `cm = AUTO → cfg.CompOk`,
`cfg.HttpOk` for wildcard Accept headers), and for EVERY value of them on the loading side (`cfg'`: the other side
of a connection, or the same process after the variables were assigned).
-/
namespace PB.C09
open PB PB.Varint PB.Dsd PB.Gen.Dsd

variable {V : Type}

/-! ### Dump: what is written (identifier = the format actually used, also for AUTO) -/

theorem dump_eq (cfg : Cfg) (c : Codec V) (v : V) (f : Nat) (hf : f ∈ dumpableFormats) (hcfg : f = AUTO → cfg.SerOk) :
    ∃ l, libOf (resolve cfg.defSer f) = some l ∧
      dump cfg c v f = (match c.enc l v with
                    | some p => .ok (pack8 (resolve cfg.defSer f) ++ p)
                    | none => .error .codec) := by
  obtain ⟨hr, hv⟩ := dumpable_table cfg.defSer f hf hcfg
  obtain ⟨l, hl, _, he⟩ := dumpWithoutIdentifier_codec cfg c v hr []
  refine ⟨l, hl, ?_⟩
  simp only [dump, dumpIndent, hv, he, if_neg (fun h : l = .json ∧ ([] : Str) ≠ [] => h.2 rfl)]
  cases c.enc l v <;> rfl

/-! ### Load ∘ Dump, every format, AUTO included: equal value, and the format reported is the one dumped in -/

/-- Through `DumpIndent` with any indent string the JSON encoder round-trips … -/
theorem load_dumpIndent (cfg cfg' : Cfg) (c : Codec V) (hc : c.Sound) (v : V) (f : Nat) (hf : f ∈ dumpableFormats)
    (hcfg : f = AUTO → cfg.SerOk) (indent : Str)
    (blob : Bytes) (hd : dumpIndent cfg c v f indent = .ok blob) : load cfg' c blob = (resolve cfg.defSer f, .ok v) := by
  obtain ⟨p, rfl, hne, hl, h5, hv⟩ := dumpIndent_ok cfg c hc v f hf hcfg indent blob hd
  rw [load_ser cfg' c h5 (Or.inl hne) (hv _), hl]

/-- … in particular through `Dump`, which is `DumpIndent` without indent. -/
theorem load_dump (cfg cfg' : Cfg) (c : Codec V) (hc : c.Sound) (v : V) (f : Nat) (hf : f ∈ dumpableFormats)
    (hcfg : f = AUTO → cfg.SerOk) (blob : Bytes)
    (hd : dump cfg c v f = .ok blob) : load cfg' c blob = (resolve cfg.defSer f, .ok v) :=
  load_dumpIndent cfg cfg' c hc v f hf hcfg [] blob hd

/-! ### Compression -/

theorem dumpAndCompress_eq (cfg : Cfg) (c : Codec V) (v : V) (f cm : Nat) (hcm : cm ∈ compressionFormats)
    (hcc : cm = AUTO → cfg.CompOk) :
    dumpAndCompress cfg c v f cm = (match dump cfg c v f with
                                | .ok data => .ok (pack8 (resolveCompression cfg.defComp cm) ++ c.gz data)
                                | .error e => .error e) := by
  obtain ⟨hr, hv⟩ := compression_table cfg.defComp cm hcm hcc
  simp only [dumpAndCompress, hv, hr]
  cases dump cfg c v f <;> simp [gzip_table.2.1]

theorem load_dumpAndCompress (cfg cfg' : Cfg) (c : Codec V) (hc : c.Sound) (v : V) (f cm : Nat) (hf : f ∈ dumpableFormats)
    (hcfg : f = AUTO → cfg.SerOk) (hcm : cm ∈ compressionFormats) (hcc : cm = AUTO → cfg.CompOk) (blob : Bytes)
    (hd : dumpAndCompress cfg c v f cm = .ok blob) :
    load cfg' c blob = (resolve cfg.defSer f, .ok v) := by
  rw [dumpAndCompress_eq cfg c v f cm hcm hcc, (compression_table cfg.defComp cm hcm hcc).1] at hd
  obtain ⟨_, _, _, g4, g5⟩ := gzip_table
  cases hdump : dump cfg c v f with
  | error e => rw [hdump] at hd; cases hd
  | ok data =>
    rw [hdump] at hd
    cases hd
    obtain ⟨p, rfl, hne, hl, h5, _⟩ := dumpIndent_ok cfg c hc v f hf hcfg [] data hdump
    rw [load_comp cfg' c g4 (hc.gz_ne _) (g5 _), decompressAndLoad_pack8 cfg' c hc h5 (Or.inl hne), hl]

/-- `DecompressAndLoad` called directly on what follows the compression identifier. -/
theorem decompressAndLoad_gz (cfg cfg' : Cfg) (c : Codec V) (hc : c.Sound) (v : V) (f : Nat) (hf : f ∈ dumpableFormats)
    (hcfg : f = AUTO → cfg.SerOk) (data : Bytes) (hd : dump cfg c v f = .ok data) :
    decompressAndLoad cfg' c (c.gz data) GZIP = (resolve cfg.defSer f, .ok v) := by
  obtain ⟨p, rfl, hne, hl, h5, _⟩ := dumpIndent_ok cfg c hc v f hf hcfg [] data hd
  rw [decompressAndLoad_pack8 cfg' c hc h5 (Or.inl hne), hl]

/-! ### RAW: the identifier is reported through ErrIsRaw, the payload is the dumped bytes (also when empty) -/

theorem dump_raw (cfg : Cfg) (c : Codec V) (v : V) :
    dump cfg c v RAW = (match c.asBytes v with
                    | some b => .ok (pack8 RAW ++ b)
                    | none => .error .incompatible) := by
  obtain ⟨h1, h2, _, _⟩ := raw_table
  simp only [dump, dumpIndent, h1, dumpWithoutIdentifier, h2]
  cases c.asBytes v <;> simp

theorem load_dump_raw (cfg' : Cfg) (c : Codec V) (b : Bytes) :
    load cfg' c (pack8 RAW ++ b) = (RAW, .error .israw) ∧ (pack8 RAW ++ b).drop 1 = b := by
  obtain ⟨h1, _, h3, h4⟩ := raw_table
  refine ⟨?_, drop_pack8 _ h4 b⟩
  rw [load_ser cfg' c h4 (Or.inr rfl) (h1 _), loadAsFormat, h3]

theorem load_dumpAndCompress_raw (cfg cfg' : Cfg) (c : Codec V) (hc : c.Sound) (b : Bytes) (cm : Nat)
    (hcm : cm ∈ compressionFormats) (hcc : cm = AUTO → cfg.CompOk) :
    load cfg' c (pack8 (resolveCompression cfg.defComp cm) ++ c.gz (pack8 RAW ++ b)) = (RAW, .error .israw) := by
  obtain ⟨_, _, _, g4, g5⟩ := gzip_table
  obtain ⟨_, _, h3, h4⟩ := raw_table
  rw [(compression_table cfg.defComp cm hcm hcc).1, load_comp cfg' c g4 (hc.gz_ne _) (g5 _),
    decompressAndLoad_pack8 cfg' c hc h4 (Or.inr rfl), loadAsFormat, h3]

/-! ### Ids that are not serialization / compression formats are refused, nothing is written -/

theorem dump_rejects (cfg : Cfg) (c : Codec V) (v : V) (f : Nat) (h : validateSerializationFormat cfg.defSer f = none) (indent : Str) :
    dumpIndent cfg c v f indent = .error .incompatible ∧ dumpWithoutIdentifier cfg c v f indent = .error .incompatible := by
  simp [dumpIndent, dumpWithoutIdentifier, h]

theorem dumpAndCompress_rejects (cfg : Cfg) (c : Codec V) (v : V) (f cm : Nat) (h : validateCompressionFormat cfg.defComp cm = none) :
    dumpAndCompress cfg c v f cm = .error .incompatible := by
  simp [dumpAndCompress, h]

/-! ### Soundness of Load on arbitrary bytes: a value only ever comes from the codec the identifier selects,
applied to exactly the bytes after the identifier (of the blob, or of the decompressed blob) -/

theorem load_sound (cfg : Cfg) (c : Codec V) (blob : Bytes) (f : Nat) (v : V) (h : load cfg c blob = (f, .ok v)) :
    ∃ l, lookup f loadDispatch = some (.lib l) ∧
      ((∃ read, loadFormat blob = .ok (f, read) ∧ (validateSerializationFormat cfg.defSer f).isSome = true ∧
          c.dec l (blob.drop read) = some v) ∨
       (∃ cm read plain read', loadFormat blob = .ok (cm, read) ∧ validateSerializationFormat cfg.defSer cm = none ∧
          (validateCompressionFormat cfg.defComp cm).isSome = true ∧ c.gunz (blob.drop read) = .ok plain ∧
          loadFormat plain = .ok (f, read') ∧ c.dec l (plain.drop read') = some v)) := by
  unfold load at h
  cases hlf : loadFormat blob with
  | error e => simp [hlf] at h
  | ok fr =>
    obtain ⟨fmt, read⟩ := fr
    simp only [hlf] at h
    cases hx : validateSerializationFormat cfg.defSer fmt with
    | some x =>
      simp only [hx, Prod.mk.injEq] at h
      obtain ⟨rfl, h2⟩ := h
      obtain ⟨l, hl, hd⟩ := loadAsFormat_ok h2
      exact ⟨l, hl, Or.inl ⟨read, rfl, by simp [hx], hd⟩⟩
    | none =>
      simp only [hx, decompressAndLoad] at h
      cases hy : validateCompressionFormat cfg.defComp fmt with
      | none => simp [hy] at h
      | some y =>
        simp only [hy] at h
        by_cases hgz : fmt ∈ decompressGzipCases
        · rw [if_pos hgz] at h
          cases hg : c.gunz (blob.drop read) with
          | error e => simp [hg] at h
          | ok plain =>
            simp only [hg] at h
            cases hlf' : loadFormat plain with
            | error e => simp [hlf'] at h
            | ok fr' =>
              obtain ⟨f', read'⟩ := fr'
              simp only [hlf', Prod.mk.injEq] at h
              obtain ⟨rfl, h2⟩ := h
              obtain ⟨l, hl, hd⟩ := loadAsFormat_ok h2
              exact ⟨l, hl, Or.inr ⟨fmt, read, plain, read', rfl, hx, by simp [hy], hg, hlf', hd⟩⟩
        · simp [hgz] at h

/-! ### FormatFromAccept: declarative characterisation, range, fix-point on the mime table -/

/-- The loop, said declaratively: the first element whose cleaned name is in `MimeTypeToFormat` decides; otherwise
    the default (the value of the package variable at the time of the call) if some element cleans to `*`;
    otherwise AUTO; the empty header is the default. -/
theorem formatFromAccept_spec (d : Nat) (a : Str) :
    formatFromAccept d a =
      if a = [] then d
      else match (splitOn 44 a).findSome? (fun e => lookup (cleanMime e) mimeTypeToFormat) with
        | some f => f
        | none => if (splitOn 44 a).any (fun e => cleanMime e == [42]) = true
                  then d else AUTO := by
  by_cases ha : a = []
  · simp [ha, formatFromAccept]
  · rw [if_neg ha]
    exact formatFromAccept_of_ne_nil d ha

theorem formatFromAccept_in_range (d : Nat) (a : Str) :
    formatFromAccept d a = AUTO ∨ formatFromAccept d a ∈ d :: mimeTypeToFormat.map Prod.snd :=
  formatFromAccept_range d a

/-- The mime type written for a format is read back as that format (whole regenerated table), whatever the
    default is on the reading side. -/
theorem formatFromAccept_mime_fixpoint : ∀ p ∈ formatToMimeType, ∀ d, formatFromAccept d p.2 = p.1 :=
  fun p hp => (mime_table p hp).1

/-- Every Accept header with an element that names a supported format or is a wildcard (independent reading of
    the grammar, PB/Spec/Dsd.lean) gets a format, and that format has a mime type — for every default that has one. -/
theorem accept_named_or_wildcard (cfg : Cfg) (hcfg : cfg.HttpOk) (a : Str)
    (h : ∃ e ∈ splitOn 44 a, (∃ f, NamesFormat e f) ∨ IsWildcard e) :
    formatFromAccept cfg.defSer a ≠ AUTO ∧ (lookup (formatFromAccept cfg.defSer a) formatToMimeType).isSome = true := by
  have key : formatFromAccept cfg.defSer a ∈ mimeFormats ++ mimeTypeToFormat.map Prod.snd := by
    rw [formatFromAccept_spec]
    by_cases ha : a = []
    · simp only [ha, ite_true]
      exact List.mem_append_left _ hcfg
    · simp only [ha, ite_false]
      cases hf : (splitOn 44 a).findSome? (fun e => lookup (cleanMime e) mimeTypeToFormat) with
      | some f =>
        obtain ⟨e, _, he⟩ := List.exists_of_findSome?_eq_some hf
        exact List.mem_append_right _ (lookup_snd_mem _ _ _ he)
      | none =>
        have hnone := List.findSome?_eq_none_iff.mp hf
        obtain ⟨e, hmem, hne⟩ := h
        have hw : cleanMime e = [42] := by
          rcases hne with ⟨f, sub, hsub, hl⟩ | hw
          · have := hnone e hmem
            rw [cleanMime_element e sub hsub, hl] at this
            cases this
          · have := cleanMime_element e [42] hw
            simpa [asciiLower] using this
        have : (splitOn 44 a).any (fun e => cleanMime e == [42]) = true :=
          List.any_eq_true.mpr ⟨e, hmem, by simp [hw]⟩
        simp only [this, ite_true]
        exact List.mem_append_left _ hcfg
  exact accept_range_table _ key

/-- An element that names a supported format decides without the default being read: the answer is the same under
    every value of the variable (no hypothesis on `d`). -/
theorem accept_first_named (d : Nat) (e rest : Str) (f : Nat) (hc : 44 ∉ e) (h : NamesFormat e f) :
    formatFromAccept d e = f ∧ formatFromAccept d (e ++ 44 :: rest) = f := by
  obtain ⟨sub, hsub, hl⟩ := h
  have hclean := cleanMime_element e sub hsub
  have hne := element_ne_nil hsub
  constructor
  · rw [formatFromAccept_spec]
    simp [hne, splitOn_single 44 e hc, hclean, hl]
  · rw [formatFromAccept_spec]
    have : e ++ 44 :: rest ≠ [] := by simp
    simp [this, splitOn_append 44 e rest hc, hclean, hl]

/-- Position independence, for lists of every length: in a header of any number of elements the first element that
    names a supported format decides — however many elements that name no supported format precede it (wildcards
    included), whatever follows it, and whatever the default is. (`accept_first_named` is the case `pre = []`.) -/
theorem accept_named_at_any_position (d : Nat) (pre post : List Str) (e : Str) (f : Nat)
    (hpre : ∀ x ∈ pre, 44 ∉ x ∧ lookup (cleanMime x) mimeTypeToFormat = none)
    (hc : 44 ∉ e) (hpost : ∀ x ∈ post, 44 ∉ x) (h : NamesFormat e f) :
    formatFromAccept d (joinComma (pre ++ e :: post)) = f := by
  obtain ⟨sub, hsub, hl⟩ := h
  have hclean := cleanMime_element e sub hsub
  have hne := element_ne_nil hsub
  have hall : ∀ x ∈ pre ++ e :: post, 44 ∉ x := by
    intro x hx
    rcases List.mem_append.mp hx with hx | hx
    · exact (hpre x hx).1
    · rcases List.mem_cons.mp hx with rfl | hx
      · exact hc
      · exact hpost x hx
  have hfind : (pre ++ e :: post).findSome? (fun e => lookup (cleanMime e) mimeTypeToFormat) = some f := by
    have hnone : pre.findSome? (fun e => lookup (cleanMime e) mimeTypeToFormat) = none := by
      rw [List.findSome?_eq_none_iff]
      intro x hx
      exact (hpre x hx).2
    rw [List.findSome?_append, hnone]
    simp [hclean, hl]
  apply formatFromAccept_hit d _ f (joinComma_ne_nil pre post e hne)
  rw [splitOn_joinComma _ (by simp) hall]
  exact hfind

/-- The list of elements `FormatFromAccept` iterates over is `strings.Split(accept, ",")` in the source (regenerated
    on every run; the extractor fails closed on any other call, e.g. `SplitN` with a limit): every element, in order. -/
theorem accept_split_matches_source : PB.Gen.Dsd.acceptSplit = ("strings.Split", [44]) := rfl

/-! ### HTTP: the content type names the encoding actually used; the other side recovers an equal value -/

/-- `MimeDump` returns the format `FormatFromAccept` chose under the CURRENT default, that format's mime type
    (never one remembered from an earlier value of the variable), which every reader maps back to the format, and
    the data of exactly that format. -/
theorem mimeDump_names_encoding (cfg : Cfg) (c : Codec V) (v : V) (a : Str) (data : Bytes) (mime : Str) (f : Nat)
    (h : mimeDump cfg c v a = .ok (data, mime, f)) :
    f = formatFromAccept cfg.defSer a ∧ lookup f formatToMimeType = some mime ∧ (∀ d', formatFromAccept d' mime = f) ∧
      dumpWithoutIdentifier cfg c v f [] = .ok data := by
  unfold mimeDump at h
  simp only at h
  by_cases ha : formatFromAccept cfg.defSer a = AUTO
  · simp [ha] at h
  · cases hm : lookup (formatFromAccept cfg.defSer a) formatToMimeType with
    | none => simp [ha, hm] at h
    | some m =>
      cases hd : dumpWithoutIdentifier cfg c v (formatFromAccept cfg.defSer a) [] with
      | error e => simp [ha, hm, hd] at h
      | ok d =>
        simp only [ha, hm, hd, if_false, Except.ok.injEq, Prod.mk.injEq] at h
        obtain ⟨rfl, rfl, rfl⟩ := h
        exact ⟨rfl, hm, (mime_table_of_lookup hm).1, hd⟩

theorem mimeLoad_mimeDump (cfg cfg' : Cfg) (c : Codec V) (hc : c.Sound) (v : V) (a : Str) (data : Bytes) (mime : Str)
    (f : Nat) (h : mimeDump cfg c v a = .ok (data, mime, f)) : mimeLoad cfg' c data mime = (f, .ok v) := by
  obtain ⟨_, hm, _, hd⟩ := mimeDump_names_encoding cfg c v a data mime f h
  exact mimeLoad_dumpWithoutIdentifier cfg cfg' c hc v hm hd

/-- Response side: whatever Accept header the request carries and whatever the server's default is, if data is
    written then the Content-Type is the mime type of the format used, and `LoadFromHTTPResponse` (under any
    default on the client) returns that format and an equal value. -/
theorem http_response_roundtrip (cfg cfg' : Cfg) (c : Codec V) (hc : c.Sound) (v : V) (r : Req) (w : Resp)
    (h : dumpToHTTPResponse cfg c {} r v = (w, none)) :
    ∃ mime, w.contentType = some mime ∧
      lookup (formatFromAccept cfg.defSer (r.accept.getD [])) formatToMimeType = some mime ∧
      loadFromHTTPResponse cfg' c w = (formatFromAccept cfg.defSer (r.accept.getD []), .ok v) := by
  unfold dumpToHTTPResponse at h
  split at h
  · simp at h
  · rename_i data mime f hmd
    simp only [Prod.mk.injEq, and_true] at h
    subst h
    obtain ⟨hf, hm, _, _⟩ := mimeDump_names_encoding cfg c v _ data mime f hmd
    subst hf
    refine ⟨mime, rfl, hm, ?_⟩
    simpa [loadFromHTTPResponse] using mimeLoad_mimeDump cfg cfg' c hc v _ data mime _ hmd

/-- ... and data *is* written for every Accept header that names a supported format or a wildcard (and every
    value the codecs can encode), for every default that has a mime type. -/
theorem http_response_succeeds (cfg : Cfg) (hcfg : cfg.HttpOk) (c : Codec V) (v : V) (r : Req)
    (henc : ∀ l, (c.enc l v).isSome = true)
    (h : ∃ e ∈ splitOn 44 (r.accept.getD []), (∃ f, NamesFormat e f) ∨ IsWildcard e) :
    ∃ w, dumpToHTTPResponse cfg c {} r v = (w, none) := by
  obtain ⟨h1, h2⟩ := accept_named_or_wildcard cfg hcfg _ h
  exact dumpToHTTPResponse_ok cfg c v r henc h1 h2

/-- ... and for a request WITHOUT Accept header (`Header.Get` gives ""), which the code answers in the default. -/
theorem http_response_succeeds_no_accept (cfg : Cfg) (hcfg : cfg.HttpOk) (c : Codec V) (v : V) (r : Req)
    (henc : ∀ l, (c.enc l v).isSome = true) (h : r.accept.getD [] = []) :
    ∃ w, dumpToHTTPResponse cfg c {} r v = (w, none) ∧ formatFromAccept cfg.defSer (r.accept.getD []) = cfg.defSer := by
  have hf : formatFromAccept cfg.defSer (r.accept.getD []) = cfg.defSer := by simp [h, formatFromAccept]
  obtain ⟨h1, h2⟩ := accept_range_table cfg.defSer (List.mem_append_left _ hcfg)
  obtain ⟨w, hw⟩ := dumpToHTTPResponse_ok cfg c v r henc (by rw [hf]; exact h1) (by rw [hf]; exact h2)
  exact ⟨w, hw, hf⟩

/-- Request side, every format that has a mime type, every value of the defaults on both sides. -/
theorem http_request_roundtrip (cfg cfg' : Cfg) (c : Codec V) (hc : c.Sound) (v : V) (r r' : Req) (f : Nat)
    (h : dumpToHTTPRequest cfg c r v f = (r', none)) :
    ∃ mime, lookup f formatToMimeType = some mime ∧ r'.accept = some mime ∧ r'.contentType = some mime ∧
      (∀ d', formatFromAccept d' mime = f) ∧ loadFromHTTPRequest cfg' c r' = (f, .ok v) := by
  unfold dumpToHTTPRequest at h
  split at h
  · simp at h
  · rename_i mime hm
    simp only at h
    split at h
    · simp at h
    · rename_i data hd
      simp only [Prod.mk.injEq, and_true] at h
      subst h
      exact ⟨mime, hm, rfl, rfl, (mime_table_of_lookup hm).1, mimeLoad_dumpWithoutIdentifier cfg cfg' c hc v hm hd⟩

/-- A format without mime type (AUTO, RAW, GenCode, anything else) is refused and the request is left untouched. -/
theorem http_request_rejects (cfg : Cfg) (c : Codec V) (v : V) (r : Req) (f : Nat) (h : lookup f formatToMimeType = none) :
    dumpToHTTPRequest cfg c r v f = (r, some .incompatible) := by
  simp [dumpToHTTPRequest, h]

/-- The whole cycle: the client (defaults `cfg`) dumps a request in format `f`; the server (defaults `cfg'`) answers
    with the format the request's Accept header asks for; the client loads the answer: format `f`, equal value —
    whatever the two sides' defaults are. -/
theorem http_cycle (cfg cfg' : Cfg) (c : Codec V) (hc : c.Sound) (v v2 : V) (r r' : Req) (w : Resp) (f : Nat)
    (h1 : dumpToHTTPRequest cfg c r v f = (r', none)) (h2 : dumpToHTTPResponse cfg' c {} r' v2 = (w, none)) :
    loadFromHTTPRequest cfg' c r' = (f, .ok v) ∧ loadFromHTTPResponse cfg c w = (f, .ok v2) := by
  obtain ⟨mime, _, ha, _, hfix, hl⟩ := http_request_roundtrip cfg cfg' c hc v r r' f h1
  obtain ⟨_, _, _, hl2⟩ := http_response_roundtrip cfg' cfg c hc v2 r' w h2
  rw [ha] at hl2
  simp only [Option.getD_some, hfix] at hl2
  exact ⟨hl, hl2⟩

/-! ### The package variables and the package's state surface -/

/-- The initialisers of the two variables satisfy every hypothesis used above. -/
theorem init_cfg_ok : Cfg.init.SerOk ∧ Cfg.init.HttpOk ∧ Cfg.init.CompOk := by decide

/-- AUTO with `DefaultSerializationFormat = RAW`: the dump is a RAW dump (identifier RAW, the bytes themselves) and
    loads as `(RAW, ErrIsRaw)` — the RAW clause of the property, reached through AUTO. -/
theorem load_dump_auto_rawDefault (cfg cfg' : Cfg) (hraw : cfg.defSer = RAW) (c : Codec V) (v : V) (b : Bytes)
    (hb : c.asBytes v = some b) :
    dump cfg c v AUTO = .ok (pack8 RAW ++ b) ∧ load cfg' c (pack8 RAW ++ b) = (RAW, .error .israw) := by
  obtain ⟨h1, h2, _, _⟩ := raw_table
  refine ⟨?_, (load_dump_raw cfg' c b).1⟩
  simp only [dump, dumpIndent, validateSer_auto, hraw, dumpWithoutIdentifier, h1, h2, hb]

/-- History: results are values. Whatever sequence of dumps produced the blobs (any values, formats, values of the
    package variables at each dump), every one of them loads, at any later time (any value of the variables, any
    number of other calls in between — there is no state for them to change), to the value it was dumped from and
    reports the format it was dumped in. The "held results" stream of the harness ties exactly this: on the code,
    "a result is a value" means that no two results share storage and nothing is remembered between calls. -/
theorem held_blobs_roundtrip (c : Codec V) (hc : c.Sound) (hist : List (Cfg × V × Nat × Bytes))
    (h : ∀ e ∈ hist, e.2.2.1 ∈ dumpableFormats ∧ (e.2.2.1 = AUTO → e.1.SerOk) ∧ dump e.1 c e.2.1 e.2.2.1 = .ok e.2.2.2)
    (cfg' : Cfg) :
    ∀ e ∈ hist, load cfg' c e.2.2.2 = (resolve e.1.defSer e.2.2.1, .ok e.2.1) := by
  intro e he
  obtain ⟨h1, h2, h3⟩ := h e he
  exact load_dump e.1 cfg' c hc e.2.1 e.2.2.1 h1 h2 e.2.2.2 h3

/-- The package has no package-level variables besides the two defaults and the two mime maps (error values
    excepted) and no `init` function: nothing a result could depend on besides the arguments and `Cfg`, nothing two
    results could share. This is what the model's being a set of pure functions claims about the code; a cache, a
    pool or a value computed at package initialisation changes the regenerated list and breaks this theorem. -/
theorem package_state_surface :
    packageState = ["DefaultCompressionFormat", "DefaultSerializationFormat", "FormatToMimeType", "MimeTypeToFormat"] :=
  rfl

/-! ### Non-vacuity -/

example : dump Cfg.init toy [1, 2] AUTO = .ok (pack8 defaultSerializationFormat ++ [7, 1, 2]) ∧
    load Cfg.init toy (pack8 defaultSerializationFormat ++ [7, 1, 2]) = (defaultSerializationFormat, .ok [1, 2]) ∧
    load Cfg.init toy [74, 7, 1, 2] = (JSON, .ok [1, 2]) := by decide
/-- the variables assigned: AUTO is CBOR now, and the blob loads under any other value of them -/
example : dump ⟨CBOR, GZIP⟩ toy [1, 2] AUTO = .ok [67, 7, 1, 2] ∧ load ⟨YAML, 0⟩ toy [67, 7, 1, 2] = (CBOR, .ok [1, 2]) ∧
    dump ⟨RAW, GZIP⟩ toy [1, 2] AUTO = .ok [1, 1, 2] ∧ load ⟨JSON, GZIP⟩ toy [1, 1, 2] = (RAW, .error .israw) := by decide
example : dumpAndCompress Cfg.init toy [1, 2] CBOR AUTO = .ok [90, 31, 139, 67, 7, 1, 2] ∧
    load Cfg.init toy [90, 31, 139, 67, 7, 1, 2] = (CBOR, .ok [1, 2]) := by decide
/-- a default compression that is no compression: AUTO compression is refused, nothing is written -/
example : dumpAndCompress ⟨JSON, JSON⟩ toy [1, 2] CBOR AUTO = .error .incompatible ∧
    dumpAndCompress ⟨JSON, JSON⟩ toy [1, 2] CBOR GZIP = .ok [90, 31, 139, 67, 7, 1, 2] := by decide
example : dump Cfg.init toy [] RAW = .ok [1] ∧ load Cfg.init toy [1] = (RAW, .error .israw) := by decide
example : load Cfg.init toy [74] = (0, .error .eof) ∧ load Cfg.init toy [] = (0, .error .small) ∧
    load Cfg.init toy [200, 2, 0] = (0, .error .large) ∧ load Cfg.init toy [76, 1] = (0, .error .incompatible) ∧
    load Cfg.init toy [0, 7] = (0, .error .incompatible) ∧ load Cfg.init toy [90, 1] = (0, .error .gunzip) := by decide

example : formatFromAccept JSON (str "application/json;q=0.9, image/webp") = JSON ∧
    formatFromAccept JSON (str "image/webp, application/cbor") = CBOR ∧ formatFromAccept JSON (str " * , yaml ") = YAML := by
  repeat rw [str_ofList]
  decide
example : formatFromAccept JSON (str "text/xml, text/other") = AUTO ∧
    formatFromAccept JSON (str "xml,*") = JSON ∧
    formatFromAccept CBOR (str "text/*") = CBOR ∧
    formatFromAccept YAML [] = YAML ∧ formatFromAccept MsgPack (str "*/*") = MsgPack := by
  repeat rw [str_ofList]
  decide
/-- whitespace before `;` is not accepted (pinned by the package's own test) -/
example : formatFromAccept JSON (str "yaml ;charset") = AUTO := by
  rw [str_ofList]
  decide
-- nine and more elements: the decisive element is the 8th / 9th / 12th, what precedes it names nothing
set_option maxRecDepth 16000 in
example : formatFromAccept JSON (str "text/html,application/xhtml+xml,application/xml;q=0.9,image/avif,image/webp,image/apng,image/svg+xml,application/cbor,*/*;q=0.1") = CBOR := by
  rw [str_ofList]
  decide
set_option maxRecDepth 16000 in
example : formatFromAccept YAML (str "text/html, application/xhtml+xml, application/xml;q=0.9, image/avif, image/webp, image/apng, image/svg+xml, text/plain, */*") = YAML := by
  rw [str_ofList]
  decide
set_option maxRecDepth 16000 in
example : formatFromAccept JSON (str "a/b,c/d,e/f,g/h,i/j,k/l,m/n,o/p,q/r,s/t,u/v,application/msgpack;q=0.5,w/x") = MsgPack ∧
    formatFromAccept JSON (str "a/b,c/d,e/f,g/h,i/j,k/l,m/n,o/p,q/r,s/t,u/v,w/x") = AUTO := by
  repeat rw [str_ofList]
  decide
-- the hypotheses of `accept_named_at_any_position` are satisfiable for every number of preceding elements
example (n : Nat) (d : Nat) :
    formatFromAccept d (joinComma (List.replicate n (str "image/webp;q=0.8") ++ str "application/cbor" :: [str "*/*"])) = CBOR := by
  refine accept_named_at_any_position d _ _ _ _ (fun x hx => ?_) ?_ ?_
    ⟨str "cbor", ⟨[], str "application/", [], ?_, ?_, Or.inr ⟨str "application", ?_, ?_⟩, ?_, ?_, Or.inl ?_⟩, ?_⟩
  · rw [List.eq_of_mem_replicate hx, str_ofList]
    decide
  all_goals
    repeat rw [str_ofList]
    decide
/-- Unicode: KELVIN SIGN lower-cases to `k`; NO-BREAK SPACE and IDEOGRAPHIC SPACE are trimmed -/
example : formatFromAccept JSON (str "application/msgpac\u212a") = MsgPack ∧
    formatFromAccept JSON (str "\u00a0json\u3000") = JSON := by
  repeat rw [str_ofList]
  decide
example : NamesFormat (str " text/yAMl;q=0.5") YAML := by
  refine ⟨str "yAMl", ⟨str " ", str "text/", str ";q=0.5", ?_, ?_, Or.inr ⟨str "text", ?_, ?_⟩, ?_, ?_,
    Or.inr ⟨str "q=0.5", ?_⟩⟩, ?_⟩
  all_goals
    repeat rw [str_ofList]
    decide
example : IsWildcard (str "*/*") := by
  refine ⟨[], str "*/", [], ?_, ?_, Or.inr ⟨str "*", ?_, ?_⟩, ?_, ?_, Or.inl ?_⟩
  all_goals
    repeat rw [str_ofList]
    decide
example : IsWildcard (str "\t* ") := by
  refine ⟨str "\t", [], str " ", ?_, ?_, Or.inl rfl, ?_, ?_, Or.inl ?_⟩
  all_goals
    repeat rw [str_ofList]
    decide
example : dumpToHTTPRequest Cfg.init toy {} [1, 2] CBOR =
    ({ accept := some (str "application/cbor"), contentType := some (str "application/cbor"), body := some [7, 1, 2] }, none) ∧
    dumpToHTTPRequest Cfg.init toy {} [1, 2] AUTO = ({}, some .incompatible) := by
  rw [str_ofList]
  decide
example : dumpToHTTPResponse Cfg.init toy {} { accept := some (str "text/html, application/yaml;q=0.9, */*;q=0.8") } [1, 2] =
    ({ contentType := some (str "application/yaml"), body := [7, 1, 2] }, none) ∧
    loadFromHTTPResponse Cfg.init toy { contentType := some (str "application/yaml"), body := [7, 1, 2] } = (YAML, .ok [1, 2]) := by
  repeat rw [str_ofList]
  decide
/-- the default assigned to MsgPack: a wildcard / missing Accept header is answered in MsgPack and labelled so -/
example : dumpToHTTPResponse ⟨MsgPack, GZIP⟩ toy {} { accept := some (str "*/*") } [1, 2] =
    ({ contentType := some (str "application/msgpack"), body := [7, 1, 2] }, none) ∧
    dumpToHTTPResponse ⟨MsgPack, GZIP⟩ toy {} {} [1, 2] =
    ({ contentType := some (str "application/msgpack"), body := [7, 1, 2] }, none) := by
  repeat rw [str_ofList]
  decide
/-- `HttpOk` is needed: with a default that has no mime type (GenCode) a wildcard cannot be answered; nothing is
    written (no wrong label either) -/
example : dumpToHTTPResponse ⟨GenCode, GZIP⟩ toy {} { accept := some (str "*/*") } [1, 2] = ({}, some .incompatible) ∧
    ¬ (⟨GenCode, GZIP⟩ : Cfg).HttpOk := by
  rw [str_ofList]
  decide

end PB.C09
