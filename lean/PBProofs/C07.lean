import PBProofs.Lemmas.TasksProgress
import PBProofs.Lemmas.TasksDelay
import PBProofs.Lemmas.TasksSlot
/-
C07 — Tasks: no self-overlap, no early or cancelled runs, queue order, nothing lost.

Property theorems only (model: PB/Model/Tasks.lean, invariants and helper lemmas: PBProofs/Lemmas/Tasks*.lean).
All theorems quantify over every state reachable by ANY sequence of actions at non-decreasing clock
readings: any number of tasks, any history of Queue/QueuePrioritized/StartASAP/Schedule/MaxDelay/Cancel calls
(from outside or from inside a running task function — the model does not distinguish callers), any run
times (function begin/end are free actions) and any interleaving with the two handlers, including stale
picks and the slot-watcher timeout.

`Starts s a t`  : step `a` is the locked check section of `runWithLocking` on `t` and enters the executing state.
`Drops s a t`   : step `a` is that section and finds `t` already executing (the pending request is discarded).
-/
namespace PB.C07
open PB.Tasks

/-! ### No self-overlap -/

/-- At most one goroutine is inside the function of a task, whatever the history. -/
theorem no_self_overlap {s : St} (h : Reachable s) (t : Nat) : (s.tasks t).fn ≤ 1 := by
  have := (reachable_inv h).run t; omega

/-- Stronger: per task at most one execution is anywhere between the check section that started it and the
    end of its deferred section, and that is exactly when the `executing` flag is set. -/
theorem one_execution_in_progress {s : St} (h : Reachable s) (t : Nat) :
    preQ s t + preS s t + (s.tasks t).sp + (s.tasks t).fn + (s.tasks t).dn ≤ 1 ∧
    ((s.tasks t).executing = true ↔
      preQ s t + preS s t + (s.tasks t).sp + (s.tasks t).fn + (s.tasks t).dn = 1) :=
  (reachable_inv h).run t

/-- A task is only ever started while it is not executing. -/
theorem start_only_when_not_executing {s : St} {a : Act} {t : Nat} (hs : Starts s a t) :
    (s.tasks t).executing = false :=
  (started_spec hs.2).1

/-! ### Never early -/

/-- A task that was not submitted from outside since its last start (it was "only scheduled") is started only
    after the schedule handler saw a time given to `Schedule` come: some time passed to `Schedule(t, ·)` is
    not later than the clock reading of the start. -/
theorem never_early {s s' : St} {now : Nat} {a : Act} {t : Nat} (h : Reachable s)
    (hstep : step s now a = some s') (hs : Starts (setNow s now) a t) (honly : (s.tasks t).userSub = false) :
    ∃ x, x ∈ (s.tasks t).schedHist ∧ x ≤ now := by
  have he := (inv_setNow (step_some hstep).1 (reachable_inv h)).early
  have hp := he.prom_due (he.prom_of_queued honly (started_spec hs.2).2.2)
  exact ⟨_, hp.2, hp.1⟩

/-- The schedule handler promotes or runs the first scheduled task only when its `executeAt` has come. -/
theorem schedule_handler_acts_only_when_due {s : St} {t : Nat}
    (h : fetchRes s = .asap t ∨ fetchRes s = .run t) : (s.tasks t).executeAt ≤ s.now :=
  h.elim (fun h => (fetchRes_asap h).2.1) (fun h => (fetchRes_run h).2.1)

/-- The same over the model step: whatever the fetch step of the schedule handler takes up — for a direct run
    (`overtime` entry) or for `StartASAP` (scheduled entry) — is due at the clock reading of the step. The order of
    the two tests of the fetch section is `PB.Gen.Tasks.fetchOut`, regenerated from `taskScheduleHandler`: with the
    due test inside only one of the branches this theorem (and `fetchRes_run` / `fetchRes_asap`) does not hold. -/
theorem schedule_handler_step_only_when_due {s s' : St} {now t : Nat} (hstep : step s now .shFetch = some s')
    (h : s'.sh = .holdRun t ∨ s'.sh = .holdAsap t) : (s.tasks t).executeAt ≤ now := by
  have hh := shFetch_holds (step_some hstep).2 t
  exact h.elim (fun h => (fetchRes_run (hh.1.1 h)).2.1) fun h => (fetchRes_asap (hh.2.1 h)).2.1

/-- The flag writes of the two acting branches of the fetch section as the model has them (`overtime := false`
    before the direct run, `overtime := true` before `StartASAP`) are the ones in the source. -/
theorem fetch_section_flag_writes :
    PB.Gen.Tasks.overtimeOnRun = false ∧ PB.Gen.Tasks.overtimeOnAsap = true := by decide

/-! ### Direct starts by the schedule handler (the max-delay exception of the serial queue) -/

/-- A task that waits in a queue is taken out of the schedule for a direct run (not through the queue) only when
    the max delay of its last queueing call has fully elapsed — provided the time in its schedule entry is the
    max-delay deadline, i.e. no time given to `Schedule` has replaced it (the excluded class, see below). -/
theorem direct_run_only_after_max_delay_partial {s s' : St} {now t : Nat} (h : Reachable s)
    (hstep : step s now .shFetch = some s') (hrun : s'.sh = .holdRun t) (hu : (s.tasks t).eaUser = false) :
    (s.tasks t).qAt + (s.tasks t).qMd ≤ now := by
  obtain ⟨hm, hdue, hov⟩ := fetchRes_run ((shFetch_holds (step_some hstep).2 t).1.1 hrun)
  have := invDelay_setNow (n := now) (reachable_invDelay h) t hm hov hu
  simp only [setNow] at this hdue; omega

/-- The excluded class is exactly: the entry holds a time given to `Schedule`, and that time has come. -/
theorem direct_run_at_scheduled_time_only_when_come {s s' : St} {now t : Nat} (h : Reachable s)
    (hstep : step s now .shFetch = some s') (hrun : s'.sh = .holdRun t) (hu : (s.tasks t).eaUser = true) :
    (s.tasks t).executeAt ∈ (s.tasks t).schedHist ∧ (s.tasks t).executeAt ≤ now :=
  ⟨(reachable_inv h).early.ea_hist hu, schedule_handler_step_only_when_due hstep (Or.inl hrun)⟩

/-- The history behind the recorded finding `C07:waiting-task-started-directly-at-scheduled-time`: task 1 is
    started by the queue handler and runs; task 0 is queued behind it with a max delay of 1000 and is then given the
    scheduled time 50; at 50 the schedule handler takes it for a direct run and starts it. -/
def directTrace : List (Nat × Act) :=
  [(1, .maxDelay 1 0), (1, .queue 1), (2, .qhWait), (3, .qhPop), (4, .runQ), (5, .spawnQ), (6, .fnBegin 1),
   (7, .maxDelay 0 1000), (8, .queue 0), (9, .schedule 0 50), (50, .shFetch)]

/-- The full-strength statement "a waiting task is taken for a direct run only after its max delay elapsed" is
    FALSE on the code as it is: the `overtime` flag of a max-delay entry survives `Schedule`. In the witness the
    previously started queue task (task 1) is still inside its function, not cancelled, its watcher has not timed
    out, and task 0 is then started (`runS`) 42 ticks after it was queued with max delay 1000. -/
theorem direct_run_only_after_max_delay_REFUTED :
    ¬ (∀ s s' now t, Reachable s → step s now .shFetch = some s' → s'.sh = .holdRun t →
        (s.tasks t).qAt + (s.tasks t).qMd ≤ now) := by
  intro hall
  obtain ⟨s, s', hr, hs', hf⟩ := runTrace_step_witness directTrace.dropLast 50 .shFetch
    (fun s s' => (decide (s'.sh = .holdRun 0), (s.tasks 0).qAt, (s.tasks 0).qMd)) (true, 8, 1000) (by decide)
  simp only [Prod.mk.injEq, decide_eq_true_eq] at hf
  have := hall s s' 50 0 hr hs' hf.1
  omega

/-! ### Cancel -/

/-- A cancelled task is never started: the check section refuses it. -/
theorem cancelled_not_started {s : St} {a : Act} {t : Nat} (hc : (s.tasks t).canceled = true) :
    ¬ Starts s a t := fun hs => by
  have := (started_spec hs.2).2.1
  rw [hc] at this; cases this

/-- Once cancelled (while waiting in a queue or in the schedule, or at any other time), a task is never
    started again, whatever happens afterwards. -/
theorem never_started_after_cancel {s s' : St} (tr : List (Nat × Act)) (t : Nat)
    (hc : (s.tasks t).canceled = true) (h : runTrace s tr = some s') :
    (s'.tasks t).canceled = true ∧ (s'.tasks t).starts = (s.tasks t).starts := by
  induction tr generalizing s with
  | nil => simp [runTrace] at h; subst h; exact ⟨hc, rfl⟩
  | cons e rest ih =>
    obtain ⟨n, a⟩ := e
    simp only [runTrace] at h
    split at h
    · cases h
    · rename_i s1 hs1
      have h1 := (step_some hs1).2
      obtain ⟨hc', hst⟩ := ih (canceled_mono h1 t hc) h
      exact ⟨hc', hst.trans ((starts_change h1 t).resolve_right fun h2 => cancelled_not_started hc h2.2)⟩

/-! ### Not more often than submitted -/

/-- Every start is paid for by a distinct submission (call of Queue/QueuePrioritized/StartASAP on the active
    task, or its scheduled time coming): starts never exceed submissions. -/
theorem at_most_as_often_as_submitted {s : St} (h : Reachable s) (t : Nat) :
    (s.tasks t).starts ≤ (s.tasks t).subs := by
  have := (reachable_inv h).credit t; omega

/-- The start counter only moves by a start of exactly that task. -/
theorem starts_only_by_start {s s' : St} {now : Nat} {a : Act} (hstep : step s now a = some s') (t : Nat) :
    (s'.tasks t).starts = (s.tasks t).starts ∨
    ((s'.tasks t).starts = (s.tasks t).starts + 1 ∧ Starts (setNow s now) a t) :=
  starts_change (step_some hstep).2 t

/-! ### Queue order -/

/-- The queue handler takes the task with the smallest stamp of the prioritized queue if that queue is not
    empty, else the task with the smallest stamp of the normal queue. -/
theorem pop_takes_minimal_stamp {s s' : St} {now : Nat} (h : Reachable s) (hstep : step s now .qhPop = some s')
    (t : Nat) (ht : s'.qh = .hold t) :
    (t ∈ s.prio ∧ ∀ u, u ∈ s.prio → s.pkey t ≤ s.pkey u) ∨
    (s.prio = [] ∧ t ∈ s.queue ∧ ∀ u, u ∈ s.queue → s.qkey t ≤ s.qkey u) := by
  obtain ⟨hQ, hP, -⟩ := invLists_iff.1 (reachable_inv h).lists
  obtain ⟨v, hs⟩ := stepAt_step (step_some hstep).2
  cases hs with
  | popP _ ps _ hp =>
    cases ht
    have hp : s.prio = t :: ps := hp  -- `setNow` changes only the clock; stated for `s` so that `rw` finds it
    rw [hp] at hP ⊢
    exact Or.inl ⟨List.mem_cons_self, fun u hu => hP.head_le hu⟩
  | popQ _ qs _ hp hq =>
    cases ht
    have hq : s.queue = t :: qs := hq
    rw [hq] at hQ ⊢
    exact Or.inr ⟨hp, List.mem_cons_self, fun u hu => Int.ofNat_le.1 (hQ.head_le hu)⟩
  | popNone => cases ht

/-- Stamps of the prioritized queue: `StartASAP` on an active task gives it a stamp below every stamp in the
    queue (so the latest request is served first, and before every prioritized task). -/
theorem startASAP_stamp_is_smallest {s s' : St} {now : Nat} {t : Nat} {b : Bool} (h : Reachable s)
    (hstep : step s now (.asap t b) = some s') (hact : (s.tasks t).canceled = false)
    (hin : t ∈ s'.prio) (u : Nat) (hu : u ∈ s'.prio) (hne : u ≠ t) : s'.pkey t < s'.pkey u := by
  have hsorted := (reachable_inv (Reachable.step now _ h hstep)).lists.sortP
  obtain ⟨v, hs⟩ := stepAt_step (step_some hstep).2
  have hpr : s'.prio = asapPrio (setNow s now) t := by
    cases hs with
    | asapOff _ hc | asapDrop _ hc => exact Bool.noConfusion (hc.symm.trans hact)
    | asapUser | asapSh => rfl
  obtain ⟨rest, hrest⟩ := asapPrio_head (hpr ▸ hin)
  rw [hpr, hrest] at hsorted hu
  rcases List.mem_cons.1 hu with e | hu
  · exact absurd e hne
  · exact (List.pairwise_cons.1 hsorted).1 u hu

/-- `QueuePrioritized` of an active task that is not yet in the prioritized queue gives it a stamp above
    every stamp in the queue (submission order, after every start-as-soon-as-possible task). -/
theorem queuePrioritized_stamp_is_largest {s s' : St} {now : Nat} {t : Nat} (h : Reachable s)
    (hstep : step s now (.queueP t) = some s') (hact : (s.tasks t).canceled = false)
    (hnew : (s.tasks t).inP = false) (u : Nat) (hu : u ∈ s.prio) :
    t ∈ s'.prio ∧ s'.pkey u < s'.pkey t := by
  have hsort := (reachable_inv (Reachable.step now _ h hstep)).lists.sortP
  obtain ⟨v, hs⟩ := stepAt_step (step_some hstep).2
  cases hs with
  | queuePOff _ hc => exact Bool.noConfusion (hc.symm.trans hact)
  | queueP =>
    simp only [setNow, hnew, Bool.false_eq_true, if_false] at hsort ⊢
    exact ⟨by simp, (List.pairwise_append.1 hsort).2.2 u hu t (List.mem_singleton_self t)⟩

/-- `Queue` of an active task that is not yet in the normal queue gives it a stamp above every stamp in the
    queue (submission order). -/
theorem queue_stamp_is_largest {s s' : St} {now : Nat} {t : Nat} (h : Reachable s)
    (hstep : step s now (.queue t) = some s') (hact : (s.tasks t).canceled = false)
    (hnew : (s.tasks t).inQ = false) (u : Nat) (hu : u ∈ s.queue) :
    t ∈ s'.queue ∧ s'.qkey u < s'.qkey t := by
  have hsort := (reachable_inv (Reachable.step now _ h hstep)).lists.sortQ
  obtain ⟨v, hs⟩ := stepAt_step (step_some hstep).2
  cases hs with
  | queueOff _ hc => exact Bool.noConfusion (hc.symm.trans hact)
  | queue =>
    simp only [setNow, hnew, Bool.false_eq_true, if_false] at hsort ⊢
    exact ⟨by simp, (List.pairwise_append.1 hsort).2.2 u hu t (List.mem_singleton_self t)⟩

/-- One after the other: whenever the queue handler is past its wait (ready to pick, holding a picked task, or
    between the check section and the goroutine start), every execution it started earlier has returned, or
    its task was cancelled, or its slot watcher gave up after the execution-wait limit. -/
theorem queue_serial {s : St} (h : Reachable s) (hq : qhPast s.qh) (u : Nat)
    (hby : (s.tasks u).byQh = true) (hrun : 0 < (s.tasks u).sp + (s.tasks u).fn) :
    (s.tasks u).ctxDone = true ∨ (s.tasks u).tmo = true := by
  have hw := (reachable_inv h).watch
  refine Bool.or_of_not_both_false fun hc ht => ?_
  obtain ⟨w, hw1, _, _, hw4⟩ := hw.watcher hby hrun hc ht
  rw [hw.past hq hw1] at hw4; cases hw4

/-- The queue handler only picks a task while it is past its wait on `queueWg`. -/
theorem pop_requires_free_slot {s s' : St} {now : Nat} (hstep : step s now .qhPop = some s') : s.qh = .ready := by
  obtain ⟨u, hs⟩ := stepAt_step (step_some hstep).2
  cases hs with
  | popP _ _ hq | popQ _ _ hq | popNone _ hq => exact hq

/-! ### Every started execution occupies the queue, whoever started it -/

/-- The end of `runWithLocking` as it stands in the source, per call site (`direct` = the schedule handler's call for
    a waiting task whose max delay is over, else the queue handler's call): every start raises `queueCnt` once,
    starts one executor and one watcher that lowers `queueCnt` again. This is what the model's `spawnQ` / `spawnS`
    do (see `spawn_takes_slot`); the three numbers are regenerated from the source on every run. -/
theorem every_start_takes_a_queue_slot (direct : Bool) :
    PB.Gen.Tasks.slotsTaken direct = 1 ∧ PB.Gen.Tasks.executorsStarted direct = 1 ∧
      PB.Gen.Tasks.watchersStarted direct = 1 := by
  cases direct <;> decide

/-- The model's goroutine-start step of either handler changes the slot count and the number of watchers by what
    the source does at that call site. -/
theorem spawn_takes_slot {s s' : St} {now : Nat} :
    (step s now .spawnQ = some s' → s'.wg = s.wg + PB.Gen.Tasks.slotsTaken false ∧
      s'.watchers.length = s.watchers.length + PB.Gen.Tasks.watchersStarted false) ∧
    (step s now .spawnS = some s' → s'.wg = s.wg + PB.Gen.Tasks.slotsTaken true ∧
      s'.watchers.length = s.watchers.length + PB.Gen.Tasks.watchersStarted true) := by
  have hq := every_start_takes_a_queue_slot false
  have hd := every_start_takes_a_queue_slot true
  rw [hq.1, hq.2.2, hd.1, hd.2.2]
  constructor
  · intro hstep; obtain ⟨v, hs⟩ := stepAt_step (step_some hstep).2; cases hs; exact ⟨rfl, rfl⟩
  · intro hstep; obtain ⟨v, hs⟩ := stepAt_step (step_some hstep).2; cases hs; exact ⟨rfl, rfl⟩

/-- An execution started through `runWithLocking` — by the queue handler or directly by the schedule handler — that
    has not returned, whose task was not cancelled and whose watcher did not give up after the execution-wait
    limit, still holds its queue slot: its watcher exists and the slot count is positive. -/
theorem started_run_holds_slot {s : St} (h : Reachable s) (u : Nat)
    (hrun : 0 < (s.tasks u).sp + (s.tasks u).fn) (hc : (s.tasks u).ctxDone = false) (ht : (s.tasks u).tmo = false) :
    0 < s.wg ∧ ∃ w, w ∈ s.watchers ∧ w.t = u ∧ w.gen = (s.tasks u).gen := by
  obtain ⟨w, hw, h1, h2⟩ := reachable_invSlot h u hrun hc ht
  refine ⟨?_, w, hw, h1, h2⟩
  rw [(reachable_inv h).watch.count]
  exact List.length_pos_of_mem hw

/-- The queue handler does not pass its wait while any started execution (also one the schedule handler started
    directly) has not returned, was not cancelled and is within the execution-wait limit. -/
theorem queue_handler_waits_for_every_started_run {s s' : St} {now : Nat} (h : Reachable s)
    (hstep : step s now .qhWait = some s') (u : Nat)
    (hrun : 0 < (s.tasks u).sp + (s.tasks u).fn) (hc : (s.tasks u).ctxDone = false) (ht : (s.tasks u).tmo = false) :
    s'.qh = .waiting := by
  have hpos := (started_run_holds_slot h u hrun hc ht).1
  obtain ⟨v, hs⟩ := stepAt_step (step_some hstep).2
  cases hs with
  | qhWait => exact if_neg (Nat.ne_of_gt hpos)

/-- The wait of the queue handler ends only at a moment at which every started execution, whoever started it, has
    returned, was cancelled or exceeded the execution-wait limit. -/
theorem wait_ends_only_when_every_started_run_is_over {s s' : St} {now : Nat} {a : Act} (h : Reachable s)
    (hstep : step s now a = some s') (hq : s.qh = .waiting) (hr : s'.qh = .ready) (u : Nat)
    (hrun : 0 < (s'.tasks u).sp + (s'.tasks u).fn) :
    (s'.tasks u).ctxDone = true ∨ (s'.tasks u).tmo = true := by
  have hz := waitEnd_step hstep hq hr
  have hr' : Reachable s' := Reachable.step now a h hstep
  refine Bool.or_of_not_both_false fun hc ht => ?_
  have := (started_run_holds_slot hr' u hrun hc ht).1
  omega

/-- While the queue handler is past its wait, an execution that still holds its slot was started directly by the
    schedule handler (`queue_serial` for the remaining case): the only way two queued tasks run side by side after a
    pick is a direct start that took its slot after the handler's wait had ended. -/
theorem unfinished_run_at_pick_is_a_direct_start {s s' : St} {now : Nat} (h : Reachable s)
    (hstep : step s now .qhPop = some s') (u : Nat)
    (hrun : 0 < (s.tasks u).sp + (s.tasks u).fn) (hc : (s.tasks u).ctxDone = false) (ht : (s.tasks u).tmo = false) :
    (s.tasks u).byQh = false := by
  cases hb : (s.tasks u).byQh
  · rfl
  · have := queue_serial h (Or.inl (pop_requires_free_slot hstep)) u hb hrun
    simp [hc, ht] at this

/-- Witness: task 1 runs (started through the queue, no max delay), task 0 waits with max delay 20 and task 2 behind it;
    task 1 returns at 40 and the handler's wait ends; the schedule handler, which took task 0 out of the schedule at
    28 (max delay over), starts it only now; the queue handler picks task 2. -/
def raceTrace : List (Nat × Act) :=
  [(1, .maxDelay 1 0), (1, .queue 1), (2, .qhWait), (3, .qhPop), (4, .runQ), (5, .spawnQ), (6, .fnBegin 1),
   (7, .maxDelay 0 20), (8, .queue 0), (9, .queue 2), (10, .qhWait), (28, .shFetch), (29, .runS),
   (40, .fnEnd 1), (41, .finish 1), (42, .slotFree 1 false), (43, .spawnS), (44, .fnBegin 0)]

/-- The full-strength statement "the queue handler picks the next task only when every started queued task has
    returned, was cancelled or exceeded the execution-wait limit" is FALSE on the code as it is: the schedule
    handler's direct start raises `queueCnt` after the queue handler has read it as zero (recorded finding
    `C07:queue-pick-raced-by-direct-start`). -/
theorem pick_waits_for_every_started_run_REFUTED :
    ¬ (∀ s s' now, Reachable s → step s now .qhPop = some s' → ∀ u, 0 < (s.tasks u).sp + (s.tasks u).fn →
        (s.tasks u).ctxDone = true ∨ (s.tasks u).tmo = true) := by
  intro hall
  obtain ⟨s, s', hr, hs', hf⟩ := runTrace_step_witness raceTrace 45 .qhPop
    (fun s _ => ((s.tasks 0).fn, (s.tasks 0).sp, (s.tasks 0).ctxDone, (s.tasks 0).tmo)) (1, 0, false, false) (by decide)
  simp only [Prod.mk.injEq] at hf
  have := hall s s' 45 hr hs' 0 (by omega)
  simp [hf] at this

/-! ### Nothing lost -/

/-- Where a still owed task is: in a run queue, held by the queue handler that has just taken it out, or about
    to be put at the front of the prioritized queue by the schedule handler. -/
def Tracked (s : St) (t : Nat) : Prop :=
  t ∈ s.queue ∨ t ∈ s.prio ∨ s.qh = .hold t ∨ s.sh = .holdAsap t

/-- Nothing lost, with the one excluded class made explicit: a task that was submitted (or whose scheduled
    time came) and was neither started since, nor cancelled, nor withdrawn by `Schedule(zero)`, is still
    tracked — unless its request was dropped because it was dequeued while it was executing. -/
theorem nothing_lost_partial {s : St} (h : Reachable s) (t : Nat)
    (ho : (s.tasks t).owed = true) (hc : (s.tasks t).canceled = false) (hd : (s.tasks t).dropped = false) :
    Tracked s t := by
  have hi := reachable_inv h
  rcases hi.owed t ho hc hd with hq | hp | hs
  · rcases (hi.hold t).1 hq with h1 | h1
    · exact Or.inl h1
    · exact Or.inr (Or.inr (Or.inl h1))
  · rcases (hi.hold t).2 hp with h1 | h1
    · exact Or.inr (Or.inl h1)
    · exact Or.inr (Or.inr (Or.inl h1))
  · exact Or.inr (Or.inr (Or.inr hs))

/-- The excluded class is exactly: the check section of `runWithLocking` found the task executing. -/
theorem dropped_only_when_dequeued_while_executing {s s' : St} {now : Nat} {a : Act} (t : Nat)
    (hstep : step s now a = some s') (hd : (s'.tasks t).dropped = true) (hd0 : (s.tasks t).dropped = false) :
    Drops (setNow s now) a t :=
  (dropped_change (step_some hstep).2 t hd).resolve_left fun h => Bool.noConfusion (h.symm.trans hd0)

/-- The history that refutes the full statement: MaxDelay(10 ms), Queue, the task starts and runs, Queue again
    while it runs, the max delay expires during the run, the schedule handler runs the check section. -/
def lostTrace : List (Nat × Act) :=
  [(0, .maxDelay 0 10), (1, .queue 0), (2, .qhWait), (3, .qhPop), (4, .runQ), (5, .spawnQ), (6, .fnBegin 0),
   (7, .queue 0), (20, .shFetch), (21, .runS)]

/-- The full-strength statement "every owed, non-cancelled task is tracked" is FALSE on the code as it is:
    the request of a task that is submitted again while it executes is discarded when the task is dequeued
    during that execution (recorded finding `C07:resubmitted-while-executing-dropped`). -/
theorem nothing_lost_REFUTED :
    ¬ (∀ s, Reachable s → ∀ t, (s.tasks t).owed = true → (s.tasks t).canceled = false → Tracked s t) := by
  intro hall
  obtain ⟨s, hr, hf⟩ := runTrace_witness lostTrace (fun s =>
      ((s.tasks 0).owed, (s.tasks 0).canceled, s.queue, s.prio, decide (s.qh = .hold 0), decide (s.sh = .holdAsap 0)))
      (true, false, [], [], false, false) (by decide)
  simp only [Prod.mk.injEq, decide_eq_false_iff_not] at hf
  obtain ⟨h1, h2, h3, h4, h5, h6⟩ := hf
  have := hall s hr 0 h1 h2
  simp [Tracked, h3, h4, h5, h6] at this

/-! ### The handlers are never stuck (steps towards execution; eventual execution under fairness is not proved) -/

/-- The task at the head of the prioritized queue (of the normal queue, if the prioritized one is empty) is
    picked and started by the queue handler's next two steps as soon as the handler is past its wait, provided
    the task is neither cancelled nor executing. -/
theorem head_of_queue_is_started {s : St} (h : Reachable s) (now : Nat) (hn : s.now ≤ now) (t : Nat)
    (hq : s.qh = .ready)
    (hhead : (∃ ps, s.prio = t :: ps) ∨ (s.prio = [] ∧ ∃ qs, s.queue = t :: qs))
    (hc : (s.tasks t).canceled = false) (hx : (s.tasks t).executing = false) :
    ∃ s1 s2, step s now .qhPop = some s1 ∧ step s1 now .runQ = some s2 ∧ Starts (setNow s1 now) .runQ t ∧
      (s2.tasks t).starts = (s.tasks t).starts + 1 := by
  have hi := (reachable_inv h).lists
  have hflag : (s.tasks t).inQ = true ∨ (s.tasks t).inP = true := by
    rcases hhead with ⟨ps, hp⟩ | ⟨_, qs, hqq⟩
    · exact Or.inr (hi.memP t (by simp [hp]))
    · exact Or.inl (hi.memQ t (by simp [hqq]))
  have hlt : ¬ now < s.now := by omega
  have hpop : ∃ s1, step s now .qhPop = some s1 ∧ s1.qh = .hold t ∧ s1.tasks = s.tasks ∧ s1.now = now := by
    rcases hhead with ⟨ps, hp⟩ | ⟨hp, qs, hqq⟩
    · exact ⟨{ setNow s now with prio := ps, qh := .hold t }, by simp [step, hlt, stepAt, setNow, hq, hp],
        rfl, rfl, rfl⟩
    · exact ⟨{ setNow s now with queue := qs, qh := .hold t }, by simp [step, hlt, stepAt, setNow, hq, hp, hqq],
        rfl, rfl, rfl⟩
  obtain ⟨s1, h1, h1q, h1t, h1n⟩ := hpop
  obtain ⟨s2, h2, h2s, h2c⟩ := held_is_started (s := s1) now (by omega) t h1q (by simpa [h1t] using hflag)
    (by simpa [h1t] using hc) (by simpa [h1t] using hx)
  exact ⟨s1, s2, h1, h2, h2s, by simpa [h1t] using h2c⟩

/-- A waiting queue handler cannot wait for ever: it waits only while a slot watcher exists, and every slot
    watcher gives up (releases its slot) at the latest `maxExecutionWait` after it was started. -/
theorem waiting_queue_handler_is_released {s : St} (h : Reachable s) (hq : s.qh = .waiting) :
    s.watchers ≠ [] ∧
    ∀ w, w ∈ s.watchers → ∀ now, s.now ≤ now → w.tm + maxExecutionWait ≤ now →
      ∃ s', step s now (.slotFree w.t true) = some s' ∧ s'.wg = s.wg - 1 := by
  have hwg := reachable_invWait h hq
  have hw := (reachable_inv h).watch.count
  refine ⟨?_, ?_⟩
  · intro he
    rw [he, List.length_nil] at hw  -- no watcher: the count is 0, yet positive
    omega
  · intro w hwm now hn ht; exact watcher_times_out now hn w hwm hwg ht

/-- The schedule handler, when idle, takes up the first scheduled task as soon as its time has come. -/
theorem due_task_is_taken_up {s s' : St} {now : Nat} {t : Nat} {rest : List Nat}
    (hstep : step s now .shFetch = some s') (hs : s.sched = t :: rest) (hdue : (s.tasks t).executeAt ≤ now) :
    s'.sh = .holdRun t ∨ s'.sh = .holdAsap t := by
  have hf := fetchRes_of_due (s := setNow s now) hs hdue
  have hh := shFetch_holds (step_some hstep).2 t
  cases ho : (s.tasks t).overtime <;> rw [show ((setNow s now).tasks t).overtime = _ from ho] at hf
  · exact Or.inr (hh.2.2 hf)
  · exact Or.inl (hh.1.2 hf)

/-! ### Non-vacuity -/

/-- A history with a waiting order of three classes: task 0 runs, 1 is queued, 2 prioritized, 3 start-asap. -/
def orderTrace : List (Nat × Act) :=
  [(1, .queue 0), (2, .qhWait), (3, .qhPop), (4, .runQ), (5, .spawnQ), (6, .fnBegin 0),
   (7, .queue 1), (8, .queueP 2), (9, .asap 3 false), (10, .queueP 4), (11, .asap 5 false)]

example : (runTrace init orderTrace).map (fun s => (s.queue, s.prio, (s.tasks 0).fn, decide (s.qh = .idle)))
    = some ([1], [5, 3, 2, 4], 1, true) := by decide

/-- Pops happen in the order of the statement once the running task has finished. -/
example : (runTrace init (orderTrace ++
    [(12, .fnEnd 0), (13, .finish 0), (14, .qhWait), (15, .slotFree 0 false), (16, .qhPop)])).map
      (fun s => (decide (s.qh = .hold 5), s.prio)) = some (true, [3, 2, 4]) := by decide

/-- A scheduled task is promoted only when due, then started; `never_early` applies (no outside submission). -/
example : (runTrace init [(1, .schedule 0 100), (50, .shFetch), (100, .shFetch), (101, .asap 0 true),
    (102, .qhWait), (103, .qhPop), (104, .runQ)]).map
      (fun s => ((s.tasks 0).executing, (s.tasks 0).starts, (s.tasks 0).schedHist)) = some (true, 1, [100]) := by decide

/-- The hypotheses of `queue_serial` are satisfiable: the queue handler is past its wait while an execution
    it started is still running — because that task was cancelled. -/
example : (runTrace init [(1, .queue 0), (2, .qhWait), (3, .qhPop), (4, .runQ), (5, .spawnQ), (6, .fnBegin 0),
    (7, .cancel 0), (8, .qhWait), (9, .slotFree 0 false)]).map
      (fun s => (decide (s.qh = .ready), (s.tasks 0).byQh, (s.tasks 0).fn, (s.tasks 0).ctxDone)) = some (true, true, 1, true) := by decide

/-- The witness of the finding continues to a direct start next to the running queue task: after `runS` task 0 is
    executing, started by the schedule handler, while task 1 (started by the queue handler) is inside its function,
    not cancelled and not timed out. -/
example : (runTrace init (directTrace ++ [(51, .runS)])).map
    (fun s => ((s.tasks 0).executing, (s.tasks 0).starts, (s.tasks 1).fn, (s.tasks 1).byQh, (s.tasks 1).ctxDone, (s.tasks 1).tmo))
    = some (true, 1, 1, true, false, false) := by decide

/-- `direct_run_only_after_max_delay_partial` is not vacuous: a queued task whose max delay (20) elapses while the
    queue is occupied is taken for a direct run at 28 = 8 + 20, and not before (the fetch at 27 leaves the handler idle). -/
example : (runTrace init [(1, .maxDelay 1 0), (1, .queue 1), (2, .qhWait), (3, .qhPop), (4, .runQ), (5, .spawnQ),
    (6, .fnBegin 1), (7, .maxDelay 0 20), (8, .queue 0), (27, .shFetch)]).map
      (fun s => (decide (s.sh = .idle), (s.tasks 0).eaUser, (s.tasks 0).qAt + (s.tasks 0).qMd)) = some (true, false, 28) := by decide
example : (runTrace init [(1, .maxDelay 1 0), (1, .queue 1), (2, .qhWait), (3, .qhPop), (4, .runQ), (5, .spawnQ),
    (6, .fnBegin 1), (7, .maxDelay 0 20), (8, .queue 0), (27, .shFetch), (28, .shFetch)]).map
      (fun s => decide (s.sh = .holdRun 0)) = some true := by decide

/-- A cancelled waiting task is refused by the check section. -/
example : (runTrace init [(1, .queue 0), (2, .cancel 0), (3, .qhWait), (4, .qhPop), (5, .runQ)]).map
    (fun s => ((s.tasks 0).executing, (s.tasks 0).starts, decide (s.qh = .idle))) = some (false, 0, true) := by decide

end PB.C07
