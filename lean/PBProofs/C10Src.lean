import PBProofs.C10
import PB.Gen.VarintSrc
/-
C10, translator tie: every function of formats/varint, translated from the Go source on every run
(`PB.Gen.VarintSrc`, harness/cmd/extract/golean.go), never panics and computes exactly what the hand-written
model `PB.Model.Varint` computes (including the error message returned). The property theorems of
`PBProofs/C10.lean` therefore hold for the translated source; a change to the Go code that alters behaviour
breaks one of these theorems on the next run.
-/
namespace PB.C10Src
open PB PB.Varint
open PB.Go (Res wrapU mkBytes putUvarintInto len inIdx byteAt inSlice slice wrapI64)

/-- How a model result appears at the Go level: `(value, count, nil)` or `(0, 0, err)`, with one message for `.large`
    (enough for `Unpack8`; `Unpack16/32` have two, see `goUnpackW`). -/
def goNK (largeMsg : String) : Except PB.Varint.Err (Nat × Nat) → Int × Int × PB.Go.Err
  | .ok (v, n) => ((v : Int), (n : Int), none)
  | .error .small => (0, 0, some "ErrBufTooSmall")
  | .error .large => (0, 0, some largeMsg)
  | .error .nodata => (0, 0, some "varint: not enough data for given block length")

def msg64 : String := "varint: encoded integer greater than 18446744073709551615 (uint64)"

theorem ofNat_toNat_natCast (n : Nat) : UInt8.ofNat (Int.toNat (n : Int)) = UInt8.ofNat n := by simp

theorem Pack8_eq (n : Nat) (h : n < 2 ^ 8) : PB.Gen.VarintSrc.Pack8 (n : Int) = .ok (pack8 n) := by
  unfold PB.Gen.VarintSrc.Pack8 pack8
  by_cases hn : n < 128
  · have : ((n : Int) < 128) := by omega
    simp [hn, this, mkBytes]
  · have : ¬ ((n : Int) < 128) := by omega
    simp [hn, this, mkBytes]

theorem wrapU_natCast (bits v : Nat) (h : v < 2 ^ bits) : wrapU bits (v : Int) = (v : Int) := by
  unfold wrapU
  have : (v : Int) < (2 : Int) ^ bits := by exact_mod_cast h
  exact Int.emod_eq_of_lt (by omega) this

theorem putUvarintInto_ok (cap n : Nat) (hl : (putUvarint n).length ≤ cap) :
    putUvarintInto (cap : Int) (n : Int) = .ok (putUvarint n) := by
  unfold putUvarintInto
  have h1 : ¬ ((cap : Int) < 0) := by omega
  have h2 : (((putUvarint n).length : Int) ≤ (cap : Int)) := by omega
  simp only [h1, if_false, Int.toNat_natCast, h2, if_true]

theorem Pack16_eq (n : Nat) (h : n < 2 ^ 16) : PB.Gen.VarintSrc.Pack16 (n : Int) = .ok (pack16 n) := by
  unfold PB.Gen.VarintSrc.Pack16 pack16
  rw [wrapU_natCast 64 n (by omega)]
  exact putUvarintInto_ok 3 n (putUvarint_length_le 2 n (by omega))

theorem Pack32_eq (n : Nat) (h : n < 2 ^ 32) : PB.Gen.VarintSrc.Pack32 (n : Int) = .ok (pack32 n) := by
  unfold PB.Gen.VarintSrc.Pack32 pack32
  rw [wrapU_natCast 64 n (by omega)]
  exact putUvarintInto_ok 5 n (putUvarint_length_le 4 n (by omega))

theorem Pack64_eq (n : Nat) (h : n < 2 ^ 64) : PB.Gen.VarintSrc.Pack64 (n : Int) = .ok (pack64 n) := by
  unfold PB.Gen.VarintSrc.Pack64 pack64
  exact putUvarintInto_ok 10 n (putUvarint_length_le 9 n (by omega))

theorem Unpack8_eq (b : Bytes) :
    PB.Gen.VarintSrc.Unpack8 b = .ok (goNK "varint: encoded integer greater than 255 (uint8)" (unpack8 b)) := by
  unfold PB.Gen.VarintSrc.Unpack8
  cases b with
  | nil => simp [len, unpack8, goNK]
  | cons b0 rest =>
    have hl1 : ¬ ((rest.length : Int) + 1 < 1) := by omega
    by_cases h0 : b0.toNat < 128
    · have : ((b0.toNat : Int) < 128) := by omega
      simp [len, inIdx, byteAt, unpack8, goNK, h0, this, hl1]
    · have hn : ¬ ((b0.toNat : Int) < 128) := by omega
      cases rest with
      | nil => simp [len, inIdx, byteAt, unpack8, goNK, h0, hn]
      | cons b1 rest' =>
        have hl2 : ¬ ((rest'.length : Int) + 1 + 1 < 2) := by omega
        have hl3 : ¬ ((rest'.length : Int) + 1 + 1 < 1) := by omega
        have hl4 : ((1 : Int) < (rest'.length : Int) + 1 + 1) := by omega
        have hl5 : ((0 : Int) < (rest'.length : Int) + 1 + 1) := by omega
        by_cases h1 : b1 = 1
        · subst h1
          simp [len, inIdx, byteAt, unpack8, goNK, h0, hn, hl2, hl3, hl4, hl5]
        · have : ¬ ((b1.toNat : Int) = 1) := by
            intro hh
            apply h1
            have h' : b1.toNat = 1 := by omega
            exact UInt8.toNat_inj.mp (by simpa using h')
          simp [len, inIdx, byteAt, unpack8, goNK, h0, hn, h1, this, hl2, hl3, hl4, hl5]

/-- Go-level result of the three `UnpackW` functions built on `binary.Uvarint`, as a function of what
    `binary.Uvarint` returns (the two "too large" messages differ, so this is stated on the intrinsic). -/
def goUnpackW (limit : Option Nat) (msgW : String) (b : Bytes) : Int × Int × PB.Go.Err :=
  match uvarint b with
  | .small => (0, 0, some "ErrBufTooSmall")
  | .overflow => (0, 0, some msg64)
  | .ok v n => match limit with
    | some l => if v > l then (0, 0, some msgW) else ((v : Int), (n : Int), none)
    | none => ((v : Int), (n : Int), none)

/-- Forgetting the message text gives the model's result. -/
def forget : Int × Int × PB.Go.Err → Except PB.Varint.Err (Nat × Nat)
  | (v, n, none) => .ok (v.toNat, n.toNat)
  | (_, _, some m) => if m = "ErrBufTooSmall" then .error .small else .error .large

/-- `forget` recognises `ErrBufTooSmall` by its text, hence `hm`. -/
theorem forget_goUnpackW_some (l : Nat) (msgW : String) (hm : msgW ≠ "ErrBufTooSmall") (b : Bytes) :
    forget (goUnpackW (some l) msgW b) = unpackW l b := by
  unfold goUnpackW unpackW
  cases uvarint b with
  | small => simp [forget]
  | overflow => simp [forget, msg64]
  | ok v n => by_cases h : v > l <;> simp [forget, h, hm]

theorem forget_goUnpackW_none (b : Bytes) : forget (goUnpackW none "" b) = unpack64 b := by
  unfold goUnpackW unpack64
  cases uvarint b with
  | small => simp [forget]
  | overflow => simp [forget, msg64]
  | ok v n => simp [forget]

theorem Unpack16_eq (b : Bytes) : PB.Gen.VarintSrc.Unpack16 b =
    .ok (goUnpackW (some 65535) "varint: encoded integer greater than 65535 (uint16)" b) := by
  unfold PB.Gen.VarintSrc.Unpack16 PB.Go.uvarint goUnpackW
  cases hu : uvarint b with
  | small => simp
  | overflow => simp [msg64]
  | ok v n =>
    have hn := (uvarint_ok hu).1
    have h1 : n ≠ 0 := by omega
    by_cases hl : v > 65535
    · have : ((65535 : Int) < (v : Int)) := by omega
      simp [h1, hl, this]
    · have : ¬ ((65535 : Int) < (v : Int)) := by omega
      have hw := wrapU_natCast 16 v (by omega)
      simp [h1, hl, this, hw]

theorem Unpack32_eq (b : Bytes) : PB.Gen.VarintSrc.Unpack32 b =
    .ok (goUnpackW (some 4294967295) "varint: encoded integer greater than 4294967295 (uint32)" b) := by
  unfold PB.Gen.VarintSrc.Unpack32 PB.Go.uvarint goUnpackW
  cases hu : uvarint b with
  | small => simp
  | overflow => simp [msg64]
  | ok v n =>
    have hn := (uvarint_ok hu).1
    have h1 : n ≠ 0 := by omega
    by_cases hl : v > 4294967295
    · have : ((4294967295 : Int) < (v : Int)) := by omega
      simp [h1, hl, this]
    · have : ¬ ((4294967295 : Int) < (v : Int)) := by omega
      have hw := wrapU_natCast 32 v (by omega)
      simp [h1, hl, this, hw]

theorem Unpack64_eq (b : Bytes) : PB.Gen.VarintSrc.Unpack64 b = .ok (goUnpackW none "" b) := by
  unfold PB.Gen.VarintSrc.Unpack64 PB.Go.uvarint goUnpackW
  cases hu : uvarint b with
  | small => simp
  | overflow => simp [msg64]
  | ok v n =>
    have hn := (uvarint_ok hu).1
    have h1 : n ≠ 0 := by omega
    simp [h1]

theorem wrapI64_natCast (v : Nat) (h : v < 2 ^ 63) : wrapI64 (v : Int) = (v : Int) :=
  toInt64_ofInt64 v (by omega) (by omega)

theorem PrependLength_eq (data : Bytes) (h : data.length < 2 ^ 64) :
    PB.Gen.VarintSrc.PrependLength data = .ok (prependLength data) := by
  unfold PB.Gen.VarintSrc.PrependLength prependLength
  simp only [len]
  rw [wrapU_natCast 64 _ h, Pack64_eq _ h]

/-- Go-level result of `GetNextBlock` given the model's result. -/
def goBlock : Except PB.Varint.Err (Bytes × Nat) → Bytes × Int × PB.Go.Err
  | .ok (blk, tot) => (blk, (tot : Int), none)
  | .error .small => ([], 0, some "ErrBufTooSmall")
  | .error .large => ([], 0, some msg64)
  | .error .nodata => ([], 0, some "varint: not enough data for given block length")

/-- `GetNextBlock` translated from the source never panics and computes the model's result, for every input
    slice of fewer than 2^63 - 10 bytes (every slice a Go program can hold) and every declared length. -/
theorem GetNextBlock_eq (data : Bytes) (h : data.length + 10 < 2 ^ 63) :
    PB.Gen.VarintSrc.GetNextBlock data = .ok (goBlock (getNextBlock data)) := by
  unfold PB.Gen.VarintSrc.GetNextBlock
  rw [Unpack64_eq]
  unfold goUnpackW getNextBlock unpack64
  cases hu : uvarint data with
  | small => simp [goBlock]
  | overflow => simp [goBlock, msg64]
  | ok l n =>
    obtain ⟨hn0, hnl, hn10, _, _⟩ := uvarint_ok hu
    have hlen : wrapU 64 (len data) = (data.length : Int) := by
      unfold len; exact wrapU_natCast 64 _ (by omega)
    simp only [hlen]
    by_cases hbig : l > data.length
    · simp [goBlock, hbig]
    · have hnb : ¬ ((l : Int) > (data.length : Int)) := by omega
      have hw1 : wrapI64 (l : Int) = (l : Int) := wrapI64_natCast l (by omega)
      have hw2 : wrapI64 ((l : Int) + (n : Int)) = (l : Int) + (n : Int) := by
        have := wrapI64_natCast (l + n) (by omega)
        simpa using this
      by_cases htot : l + n > data.length
      · have : (len data < (l : Int) + (n : Int)) := by unfold len; omega
        simp [goBlock, hbig, hnb, hw1, hw2, htot, this]
      · have h3 : ¬ (len data < (l : Int) + (n : Int)) := by unfold len; omega
        have hs : inSlice data (n : Int) ((l : Int) + (n : Int)) = true := by
          unfold inSlice; simp; omega
        have hsl : slice data (n : Int) ((l : Int) + (n : Int)) = (data.drop n).take l := by
          unfold slice
          have : ((l : Int) + (n : Int) - (n : Int)).toNat = l := by omega
          simp [this]
        simp [goBlock, hbig, hnb, hw1, hw2, htot, h3, hs, hsl]

/-- The advertised size computed by the translated `EncodedSize` is the length of the packed form. -/
theorem EncodedSize_eq (n : Nat) (h : n < 2 ^ 64) :
    PB.Gen.VarintSrc.EncodedSize (n : Int) = .ok ((pack64 n).length : Int) := by
  rw [PB.C10.pack_length_eq_encodedSize n h]
  unfold PB.Gen.VarintSrc.EncodedSize PB.Gen.Varint.encodedSize
  -- the same table with every comparison and every answer cast to `Int`
  simp only [decide_eq_true_eq, apply_ite (fun x : Nat => Res.ok (x : Int)), ← Int.ofNat_lt]
  rfl

/-- No translated function of the package can panic on any input of its parameter types
    (slices shorter than 2^63 - 10 bytes). -/
theorem varint_package_never_panics (b : Bytes) (hb : b.length + 10 < 2 ^ 63) (n8 n16 n32 n64 : Nat)
    (h8 : n8 < 2 ^ 8) (h16 : n16 < 2 ^ 16) (h32 : n32 < 2 ^ 32) (h64 : n64 < 2 ^ 64) :
    PB.Gen.VarintSrc.Pack8 n8 ≠ .panic ∧ PB.Gen.VarintSrc.Pack16 n16 ≠ .panic ∧ PB.Gen.VarintSrc.Pack32 n32 ≠ .panic ∧
    PB.Gen.VarintSrc.Pack64 n64 ≠ .panic ∧ PB.Gen.VarintSrc.Unpack8 b ≠ .panic ∧ PB.Gen.VarintSrc.Unpack16 b ≠ .panic ∧
    PB.Gen.VarintSrc.Unpack32 b ≠ .panic ∧ PB.Gen.VarintSrc.Unpack64 b ≠ .panic ∧
    PB.Gen.VarintSrc.PrependLength b ≠ .panic ∧ PB.Gen.VarintSrc.GetNextBlock b ≠ .panic ∧
    PB.Gen.VarintSrc.EncodedSize n64 ≠ .panic := by
  rw [Pack8_eq n8 h8, Pack16_eq n16 h16, Pack32_eq n32 h32, Pack64_eq n64 h64, Unpack8_eq, Unpack16_eq, Unpack32_eq,
    Unpack64_eq, PrependLength_eq b (by omega), GetNextBlock_eq b hb, EncodedSize_eq n64 h64]
  simp

end PB.C10Src
