import PBProofs.Lemmas.StopProto
/-!
# C05 — Stopping a module waits for all of its managed work

Theorems about `PB.StopProto` (model of `modules/modules.go`, `worker.go`, `tasks.go`, `microtasks.go`,
`status.go`, `stop.go`): all reachable states = every dependency graph, every number and kind of running work
items, every number of finishing goroutines, every interleaving of their atomic steps with the stop sequence,
any number of start/stop cycles and of failed start attempts (the module returns to `Offline` without having been
stopped, its work and its context live on), work started before the first start (prep phase), restarts after a stop
that timed out. Timeouts are a nondeterministic action; the statement's proviso ("as long as each returns within
the stop timeout") is the hypothesis `tmo = 0`.

On the pinned tree the full-strength safety statement was FALSE (two straggler races across phases: a check parked
between its counter reads and the CAS across a restart; the start routine's goroutine clearing `ctrlFuncRunning`
after the stopper had set it). Both were first reproduced on the implementation by forced schedules, then repaired
by two `fix:` commits; this file proves the full-strength statement about the model of the repaired code, and keeps
the two former counterexample schedules as `example`s that the repaired protocol rejects.
-/
namespace PB.C05
open PB.StopProto PB.Gen.StopProto

/-- The model's stop sequence and check sequence are the ones written in the source (regenerated every run),
    and the status order used by `readyToStop` (`> StatusOffline`) is the source's. -/
theorem gen_matches_model :
    stopSeq = ["ctrlFuncRunning.Set", "stopFlag.Set", "cancelCtx", "startCtrlFn", "<-m.stopComplete", "<-stopFnError",
               "<-time.After(moduleStopTimeout)", "time.After(moduleStopTimeout)", "<-stopFnError",
               "status=StatusOffline", "reports<-"] ∧
    checkSeq = ["stopFlag.IsSet", "Lock", "defer", "Unlock", "stopFlag.IsSet", "ctrlFuncRunning.IsNotSet",
                "workerCnt==0", "taskCnt==0", "microTaskCnt==0", "stopCompleted.SetToIf(false,true)",
                "close(stopComplete)"] ∧
    revDepWaitCond = "revDep.Status() > StatusOffline" ∧ onlineSoonResult = "!m.stopFlag.IsSet()" ∧
    serviceWorkerLoopHead = "if m.IsStopping() { return }" ∧
    -- between two runs of its function a service worker waits only in the back-off select, which the cancellation of
    -- `m.Ctx` ends by leaving the loop (the extractor fails on any other waiting statement in the restart loop)
    backoffWait = ["<-time.After(sleepFor):", "<-m.Ctx.Done():return"] ∧
    backoffEndsOnCancel = true ∧ backoffHasTimer = true ∧
    -- `start()`: status, then cancel the current context, install a fresh one, clear the stop flag (`startOps`),
    -- all inside one locked section; its goroutine only writes the status (`online` / `startFail`); `prep()` only
    -- writes the status; nothing else in the package replaces or cancels a module context
    startSeq = ["m.Lock()", "if m.status != StatusOffline { return }", "m.status = StatusStarting",
                "if m.cancelCtx != nil { m.cancelCtx() }",
                "m.Ctx, m.cancelCtx = context.WithCancel(context.Background())", "m.stopFlag.UnSet()",
                "m.Unlock()", "go"] ∧
    startOps = [.cancelCur, .renew, .unsetFlag] ∧
    startResultSeq = ["err:status=StatusOffline", "ok:status=StatusOnline", "ok:close(m.startComplete)"] ∧
    prepSeq = ["status=StatusPreparing", "status=StatusOffline"] ∧
    ctxWriters = ["start:m.Ctx", "initNewModule:literal"] ∧ ctxCancellers = ["start", "stopAllTasks"] ∧
    statusDead < statusOffline ∧ statusPreparing < statusOffline ∧ statusOffline < statusStopping ∧
    statusStopping < statusStarting ∧ statusStarting < statusOnline :=
  ⟨rfl, rfl, rfl, rfl, rfl, rfl, by decide, by decide, rfl, rfl, rfl, rfl, rfl, rfl, by decide, by decide, by decide,
    by decide, by decide⟩

/-- The context is cancelled no later than the moment the stop routine is invoked: whenever the stopper starts the
    stop routine (`ctrlSet` / nil branch while `Stopping`) the context is already cancelled, the stop routine body
    observes a cancelled context, and it stays cancelled until the module is started again. -/
theorem cancel_before_stopfn {s : St} (h : Reach s) :
    (∀ s', s.status = statusStopping → step s .ctrlSet = some s' → s.ctx = 1) ∧
    (∀ s', step s .ctrlUnsetNil = some s' → s.ctx = 1) ∧
    (∀ c s', s.status = statusStopping ∨ s.stopped → step s (.fnEnter c) = some s' → c = true) ∧
    (s.stopped → s.ctx = 1) := by
  have hi := h.invariant
  refine ⟨fun s' hst hs => ?_, fun s' hs => hi.ctx_done (Nat.le_of_eq (guarded hs).1.symm), fun c s' hst hs => ?_,
    fun hst => hi.ctx_done (Nat.le_trans (by decide) (spc_of_stopped hst))⟩
  · exact hi.ctx_done (Nat.le_of_eq (ctrlSet_of_stopping hst hs).symm)
  · obtain ⟨⟨gf, gc⟩, _⟩ := guarded hs
    refine gc.mpr (hi.ctx_done ?_)
    rcases hst with hst | hst
    · -- the routine runs, so the status is `Starting` or `Preparing`, or `5 ≤ spc`; `Stopping` is neither
      have := hi.fn_alive (.inl gf)
      simp only [hst, statusStopping, statusStarting, statusPreparing] at this
      omega
    · exact Nat.le_trans (by decide) (spc_of_stopped hst)

/-- Safety, full strength: a module that its stopper reported `Offline` in a cycle whose wait did not time out has:
    stop routine returned (and its goroutine cleared the control flag), every item that was counted when the stop
    flag was set has decremented (= its function returned), completion was signalled on the channel.
    For all reachable states: any number of cycles, items, finishing goroutines, any interleaving. -/
theorem offline_only_after_work_returned {s : St} (h : Reach s) (hstop : s.stopped) (hto : s.tmo = 0) :
    s.status = statusOffline ∧ s.fnpc = 3 ∧ s.aW = 0 ∧ s.aT = 0 ∧ s.aM = 0 ∧ s.closed = 1 := by
  have hi := h.invariant
  have h7 := spc_of_stopped hstop
  have hc := hi.woke hto (by omega)
  have hcomp : s.completed = 1 := by have := hi.not_completed; have := hi.completed_le; omega
  have hd := hi.completed_done (by omega) hcomp
  exact ⟨hi.offline h7, hd.2.1, hd.2.2.1, hd.2.2.2.1, hd.2.2.2.2, hc⟩

/-- `Offline` is written by the stopper only (after a start): status `Offline` with a started module means stopped. -/
theorem status_tracks_stopper {s : St} (h : Reach s) :
    (s.stopped → s.status = statusOffline) ∧
    (1 ≤ s.spc → s.spc ≤ 6 → s.status = statusStopping) ∧
    (s.status = statusStopping → 1 ≤ s.spc ∧ s.spc ≤ 6) :=
  have hi := h.invariant
  ⟨fun hst => hi.offline (spc_of_stopped hst), hi.stopping, hi.spc_of_stopping⟩

/-- former counterexample 1 (pinned tree): a finisher of cycle 1 stalls between its last read and the CAS and wins
    the CAS of cycle 2. In the repaired protocol the stalled check holds the module lock, so the first cycle's
    `Offline` write (and every later `stop()`) has to wait for it: the schedule is not a run. -/
def staleCheckerRun : List Act :=
  [.startBegin, .online, .inc .w, .stopBegin, .sCtrl, .sFlag, .sCancel, .ctrlUnsetNil, .dec .w true,
   .cFast true, .cLock, .cFlag true, .cCtrl true, .cW true, .cT true, .cM true,   -- parked before the CAS
   .cFast true]                                                                  -- the other finisher …

example : (run prepped staleCheckerRun).isSome = true := by decide
example : (run prepped (staleCheckerRun ++ [.cLock])).isSome = false := by decide     -- … cannot enter the check
example : (run prepped (staleCheckerRun ++ [.sTimeout, .sOffline])).isSome = false := by decide  -- nor can Offline be written

/-- former counterexample 2 (pinned tree): the start routine's goroutine performs its deferred `UnSet` only after
    the stopper's manual `Set`. In the repaired code the module goes `Online` only after that goroutine has cleared
    the flag and finished its check, so the schedule is not a run. -/
def lateStartUnsetRun : List Act := [.startBegin, .ctrlSet, .fnExit, .online]

example : (run prepped lateStartUnsetRun).isSome = false := by decide
example : (run prepped [.startBegin, .ctrlSet, .fnExit, .ctrlUnset, .online]).isSome = true := by decide

/-- The completion channel is closed at most once per cycle: no double-close panic, in every reachable state. -/
theorem single_close {s : St} (h : Reach s) : s.dbl = 0 ∧ s.k7 + s.closed ≤ 1 :=
  ⟨h.invariant.no_dbl, h.invariant.close_once⟩

/-- "quiet": stopper waiting or later, stop routine's goroutine done, all three counters zero,
    completion not yet signalled on the channel. -/
def Quiet (s : St) : Prop :=
  5 ≤ s.spc ∧ s.fnpc = 3 ∧ s.aW + s.bW = 0 ∧ s.aT + s.bT = 0 ∧ s.aM + s.bM = 0 ∧ s.closed = 0

/-- No lost completion: in a quiet state some goroutine still has a `checkIfStopComplete` step pending, and that
    step is enabled (the protocol cannot be stuck before the close; the lock is only ever held by a check that can
    move). -/
theorem no_lost_completion {s : St} (h : Reach s) (hq : Quiet s) :
    ∃ a : Act, a.isCheck = true ∧ (step s a).isSome = true := by
  have hi := h.invariant
  obtain ⟨h5, hfn, hw, ht, hm, hcl⟩ := hq
  -- whoever holds the lock can move
  by_cases hd : 0 < s.kd
  · exact ⟨.cUnlock, rfl, isSome_ite hd⟩
  by_cases h7 : 0 < s.k7
  · exact ⟨.cClose, rfl, by simp only [step, h7, if_true]; split <;> rfl⟩
  have hc : s.completed = 0 := by have := hi.completed_closed; have := hi.completed_le; omega
  by_cases h6 : 0 < s.k6
  · exact ⟨.cCas true, rfl, isSome_ite ⟨h6, hc⟩⟩
  by_cases h5' : 0 < s.k5
  · exact ⟨.cM true, rfl, isSome_ite ⟨h5', hm⟩⟩
  by_cases h4 : 0 < s.k4
  · exact ⟨.cT true, rfl, isSome_ite ⟨h4, ht⟩⟩
  by_cases h3 : 0 < s.k3
  · exact ⟨.cW true, rfl, isSome_ite ⟨h3, hw⟩⟩
  by_cases h2 : 0 < s.k2
  · exact ⟨.cCtrl true, rfl, isSome_ite ⟨h2, (hi.ctrl_fn h5).2.2 hfn⟩⟩
  have hf := hi.flag_set (Nat.le_trans (by decide) h5)
  by_cases h1 : 0 < s.k1
  · exact ⟨.cFlag true, rfl, isSome_ite ⟨h1, hf⟩⟩
  -- nobody holds it: one waiting for it can take it, and one exists (`no_lost`)
  have hlk : s.lk = 0 := by have := hi.lock; omega
  by_cases hkf : 0 < s.kf
  · exact ⟨.cLock, rfl, isSome_ite ⟨hkf, hlk⟩⟩
  have := hi.no_lost h5 hfn hw ht hm hc
  exact ⟨.cFast true, rfl, isSome_ite ⟨by omega, hf⟩⟩

/-- A check step taken in a quiet state never gives up: afterwards the channel is closed or the state is still quiet
    (no pending check aborts on a stale or inconsistent read). -/
theorem quiet_preserved {s s' : St} {a : Act} (h : Reach s) (hq : Quiet s) (ha : a.isCheck = true)
    (hs : step s a = some s') : s'.closed = 1 ∨ Quiet s' := by
  -- no check step but `cClose` writes a field that `Quiet` reads; `h` is unused, which the `have` tells the linter
  have _ := h
  obtain ⟨_, hc, e1, e2, e3, e4, e5, e6, e7, e8⟩ := (step_frame hs).2 ha
  exact hc.imp_right fun e => by unfold Quiet; rw [e1, e2, e3, e4, e5, e6, e7, e8, e]; exact hq

/-- Promptness: from a quiet state, every sequence of check steps (the finishing goroutines running, no new work,
    no timeout) has length at most `mu s` (10 per pending check), and ends with the channel closed or in a quiet state
    where a further check step is enabled. Hence completion is signalled after finitely many steps of the finishing
    goroutines themselves — nobody waits for the stop timeout. -/
theorem prompt_completion {s : St} (h : Reach s) (hq : Quiet s) :
    ∀ (as : List Act) (s' : St), (∀ a ∈ as, a.isCheck = true) → run s as = some s' →
      as.length + mu s' ≤ mu s ∧
      (s'.closed = 1 ∨ (Quiet s' ∧ ∃ a : Act, a.isCheck = true ∧ (step s' a).isSome = true)) := by
  intro as s' hall hr
  -- once closed the channel stays closed; until then the state stays quiet
  have hq' : s'.closed = 1 ∨ Quiet s' :=
    run_preserves (P := fun s => Reach s ∧ (s.closed = 1 ∨ Quiet s))
      (fun ha h1 hp => ⟨hp.1.step h1, hp.2.elim (fun hc => .inl (((step_frame h1).2 ha).2.1.elim id (·.trans hc)))
        fun hq => quiet_preserved hp.1 hq ha h1⟩) hall hr ⟨h, .inr hq⟩ |>.2
  exact ⟨mu_run hall hr, hq'.imp_right fun q => ⟨q, no_lost_completion (reach_run h hr) q⟩⟩

/-- … and once the channel is closed the waiting stopper's wake-up is enabled (no timeout needed). -/
theorem closed_wakes_stopper {s : St} (hc : s.closed = 1) (hw : s.spc = 5) : (step s .sWake).isSome = true :=
  isSome_ite ⟨hw, hc⟩

/-- A worker / microtask / hook whose function starts on a module that is past the stopper's cancel (stopping or
    stopped, no start attempt since) receives an already cancelled context — whichever of the module's contexts it is
    handed (the current one, or for a task a child of an earlier one). -/
theorem late_work_sees_cancelled_ctx {s s' : St} {g : Nat} {c : Bool} (h : Reach s) (hlate : 4 ≤ s.spc)
    (hs : step s (.workEnter g c) = some s') : c = true :=
  cancelled_seen (oldLive_reach h) (h.invariant.ctx_done hlate) (guarded hs).1

/-- **Clause 1 for every history.** (a) At every moment every context the module ever had, except the current one,
    is cancelled: `start()` cancels the context it replaces, whether the module was stopped before or not (failed
    start, work started in the prep phase, repeated attempts). (b) When the stopper invokes the stop routine (either
    branch of `startCtrlFn`), while the stop routine runs and while the module stays stopped, the current one is
    cancelled too — so *every* context ever handed to a piece of work of the module is cancelled, and (c) a running
    work function that looks at its context (`ctxObs`) from the stopper's cancel on sees it cancelled, whatever
    generation it holds. -/
theorem every_context_cancelled_at_stopfn {s : St} (h : Reach s) :
    (∀ g, g < s.gen → s.genCancelled g = true) ∧
    (∀ s', s.status = statusStopping → step s .ctrlSet = some s' → ∀ g, g ≤ s.gen → s.genCancelled g = true) ∧
    (∀ s', step s .ctrlUnsetNil = some s' → ∀ g, g ≤ s.gen → s.genCancelled g = true) ∧
    (4 ≤ s.spc → ∀ g, g ≤ s.gen → s.genCancelled g = true) ∧
    (∀ g c s', 4 ≤ s.spc → step s (.ctxObs g c) = some s' → c = true) := by
  have ho := oldLive_reach h
  have all : 4 ≤ s.spc → ∀ g, g ≤ s.gen → s.genCancelled g = true :=
    fun h4 g _ => genCancelled_of_ctx ho (h.invariant.ctx_done h4) g
  refine ⟨fun g hg => genCancelled_of_oldLive_nil ho g (by omega), fun s' hst hs => ?_,
    fun s' hs => all (Nat.le_of_eq (guarded hs).1.symm), all, fun g c s' h4 hs => ?_⟩
  · exact all (Nat.le_of_eq (ctrlSet_of_stopping hst hs).symm)
  · exact cancelled_seen ho (h.invariant.ctx_done h4) (guarded hs).1

/-- `start()` — first start, restart after a stop, retry after a failed attempt alike — leaves every earlier context
    cancelled and installs a fresh live one with the next number. -/
theorem start_cancels_every_earlier_context {s s' : St} (h : Reach s) (hs : step s .startBegin = some s') :
    s'.gen = s.gen + 1 ∧ s'.genCancelled s'.gen = false ∧ s'.flag = 0 ∧
    ∀ g, g ≤ s.gen → s'.genCancelled g = true := by
  have ho := oldLive_reach (h.step hs)
  obtain ⟨_, rfl⟩ := guarded hs
  exact ⟨rfl, by simp [St.genCancelled, startCtx_startOps], rfl,
    fun g hg => genCancelled_of_oldLive_nil ho g (by simp only [startCtx_startOps]; omega)⟩

/-- What is true of a module that is not stopped: its current context is live until its stopper cancels it. In
    particular after a **failed start** (status back to `Offline`, `spc = 0`) the context handed to the work that the
    failed attempt left behind stays live — that work is told to stop only by the next `start()` (retry), and if
    there is none, by nobody: the module is `Offline`, so neither module management nor `Shutdown` stops it. -/
theorem unstopped_module_context_is_live {s : St} (h : Reach s) (hns : s.spc ≤ 3) :
    s.genCancelled s.gen = false := by
  simp [St.genCancelled, h.invariant.ctx_live hns]

/-- … and a failed start changes nothing but the status: counters, context and flags stay as the attempt left
    them; the module can be started again at once (`startBegin` enabled when no check holds the lock). -/
theorem failed_start_leaves_work_and_context {s s' : St} (hs : step s .startFail = some s') :
    s'.status = statusOffline ∧ s'.gen = s.gen ∧ s'.ctx = s.ctx ∧ s'.flag = s.flag ∧
    s'.aW = s.aW ∧ s'.aT = s.aT ∧ s'.aM = s.aM ∧ (step s' .startBegin).isSome = true ∧
    (step s' .stopBegin).isSome = false := by
  obtain ⟨g, rfl⟩ := guarded hs
  exact ⟨rfl, rfl, rfl, rfl, rfl, rfl, rfl, isSome_ite ⟨rfl, .inl g.2.1, .inr g.2.2.1, g.2.2.2⟩, rfl⟩

/-- `OnlineSoon()` is false from the stopper's `stopFlag.Set` until the module is started again, so `NewTask`
    returns a cancelled task, `Queue/StartASAP/Schedule` and `runWithLocking` (`isActive`) do nothing,
    `TriggerEvent` does not start hooks and hooks of the stopped module are skipped. -/
theorem stopped_module_runs_no_new_task_or_event {s s' : St} {o : Bool} (h : Reach s) (hflag : 3 ≤ s.spc)
    (hs : step s (.gate o) = some s') : o = false := by
  have hf := h.invariant.flag_set hflag
  have := (guarded hs).1
  cases o
  · rfl
  · exact absurd (this.mp rfl) (by omega)

/-- A service worker is not re-run on a stopping module: while the stop flag stays set (= until the module is started
    again), along every run the number of times a service worker's function is run again is bounded by the number of
    service workers that were already back at the head of their restart loop before the flag was set (`swTop0`, each at
    most once); a service worker whose function returns after the flag was set — whatever it returns, `ErrRestartNow`
    included — leaves its loop. Hence its counter decrement follows its return without another execution, and
    `prompt_completion` applies: a worker answering the cancellation with "restart me" cannot keep the stop waiting. -/
theorem stopping_service_worker_not_rerun {s : St} :
    ∀ (as : List Act) (s' : St), s.flag = 1 → (∀ a ∈ as, a ≠ Act.startBegin) → run s as = some s' →
      s'.flag = 1 ∧ (as.map Act.rerun).sum + s'.swTop0 ≤ s.swTop0 := by
  intro as
  induction as generalizing s with
  | nil => intro s' hf _ hr; cases hr; exact ⟨hf, Nat.le_of_eq (Nat.zero_add _)⟩
  | cons a as ih =>
    intro s' hf hall hr
    obtain ⟨s1, h1, hr⟩ := run_cons.mp hr
    have h := rerun_step h1 hf (hall a (List.mem_cons_self ..))
    have := ih s' h.1 (fun b hb => hall b (List.mem_cons_of_mem _ hb)) hr
    exact ⟨this.1, by simp only [List.map_cons, List.sum_cons]; omega⟩

/-- … in particular a function return while the flag is set never adds a re-runnable service worker. -/
theorem return_while_stopping_leaves_loop {s s' : St} (h : Reach s) (hstop : 3 ≤ s.spc)
    (hs : step s .swReturn = some s') : s'.swTop0 = s.swTop0 ∧ s'.swTop1 = s.swTop1 + 1 := by
  rcases ite_some_cases hs with ⟨_, ⟨⟩⟩ | ⟨g, _⟩
  · exact ⟨rfl, rfl⟩
  · exact absurd (h.invariant.flag_set hstop) g

/-- ends of a back-off wait that need no timer: the `<-m.Ctx.Done()` case of the select -/
def _root_.PB.StopProto.Act.isBackoffCancel : Act → Bool
  | .swCtxDone _ => true
  | _ => false

/-- **The stop ends a back-off wait.** A service worker that waits in the back-off between two runs of its function
    (its function has returned, it is still counted in `workerCnt`) is released by the cancellation, not by its timer:
    from the stopper's cancel on (until the module is started again) — and at any time for a waiter whose select
    holds a context that a later `start()` replaced — the `<-m.Ctx.Done()` case of every waiter is enabled; taking it
    leaves the restart loop (the counter decrement follows) without another execution and without touching the
    waiters at the loop head. For every reachable state: any number of waiters, any history of restarts. -/
theorem backoff_ends_on_cancel {s : St} (h : Reach s) (g : Nat) (hg : s.swBk.contains g = true)
    (hc : 4 ≤ s.spc ∨ g ≠ s.gen) :
    ∃ s', step s (.swCtxDone g) = some s' ∧ s'.swBk = s.swBk.erase g ∧ s'.swBk.length + 1 = s.swBk.length ∧
      s'.swTop0 = s.swTop0 ∧ s'.swTop1 = s.swTop1 ∧ s'.spc = s.spc ∧ (Act.swCtxDone g).rerun = 0 := by
  have ho := oldLive_reach h
  have hcan : s.genCancelled g = true :=
    hc.elim (fun hc => genCancelled_of_ctx ho (h.invariant.ctx_done hc) g) (genCancelled_of_oldLive_nil ho g)
  have hmem : g ∈ s.swBk := List.contains_iff_mem.mp hg
  refine ⟨{ s with swBk := s.swBk.erase g }, ?_, rfl, ?_, rfl, rfl, rfl, rfl⟩
  · exact if_pos ⟨(by decide : backoffEndsOnCancel = true), hg, hcan⟩
  · have := List.length_pos_of_mem hmem
    simp only [List.length_erase_of_mem hmem]; omega

/-- … hence after the cancellation all back-off waits end within as many steps as there are waiters, none of them a
    timer step: every sequence of `Ctx.Done()` steps from a state past the stopper's cancel shortens the list of
    waiters by one per step, and ends with no waiter left or with a further such step enabled. Together with
    `prompt_completion` (the decrements and checks that follow): a service worker that is in its back-off when the
    stop begins, or enters it as its answer to the cancellation, does not keep the module `Stopping` for the length
    of the back-off. -/
theorem backoff_drains_without_timer {s : St} (h : Reach s) (hc : 4 ≤ s.spc) :
    ∀ (as : List Act) (s' : St), (∀ a ∈ as, a.isBackoffCancel = true) → run s as = some s' →
      as.length + s'.swBk.length = s.swBk.length ∧ (as.map Act.rerun).sum = 0 ∧
      (s'.swBk = [] ∨ ∃ g, s'.swBk.contains g = true ∧ (step s' (.swCtxDone g)).isSome = true) := by
  intro as
  induction as generalizing s with
  | nil =>
    intro s' _ hr
    cases hr
    refine ⟨Nat.zero_add _, rfl, ?_⟩
    cases hb : s.swBk with
    | nil => exact .inl rfl
    | cons g gs =>
      have hg : s.swBk.contains g = true := by simp [hb]
      obtain ⟨s1, h1, _⟩ := backoff_ends_on_cancel h g hg (.inl hc)
      exact .inr ⟨g, hb ▸ hg, by rw [h1]; rfl⟩
  | cons a as ih =>
    intro s' hall hr
    obtain ⟨s1, h1, hr1⟩ := run_cons.mp hr
    -- `isBackoffCancel` is false of every action but `swCtxDone`
    match a, hall a (List.mem_cons_self ..), h1 with
    | .swCtxDone g, _, h1 =>
      obtain ⟨s2, h2, _, hlen, _, _, hspc, _⟩ := backoff_ends_on_cancel h g (guarded h1).1.2.1 (.inl hc)
      cases h1.symm.trans h2
      have := ih (h.step h1) (hspc ▸ hc) s' (fun b hb => hall b (List.mem_cons_of_mem _ hb)) hr1
      refine ⟨?_, ?_, this.2.2⟩
      · simp only [List.length_cons]; omega
      · simpa only [List.map_cons, List.sum_cons, Act.rerun, Nat.zero_add] using this.2.1

/-- The other way out of the back-off, the timer, leads to the head of the restart loop, where `IsStopping()` is
    read: a timer that fires while the module is stopping adds no re-runnable service worker (so
    `stopping_service_worker_not_rerun` covers the waiters too: its bound does not mention them). -/
theorem backoff_timer_while_stopping_leaves_loop {s s' : St} {g : Nat} (h : Reach s) (hstop : 3 ≤ s.spc)
    (hs : step s (.swTimer g) = some s') :
    s'.swTop0 = s.swTop0 ∧ s'.swTop1 = s.swTop1 + 1 ∧ s'.swBk = s.swBk.erase g := by
  obtain ⟨_, hs⟩ := of_ite_some hs
  rcases ite_some_cases hs with ⟨_, ⟨⟩⟩ | ⟨g, _⟩
  · exact ⟨rfl, rfl, rfl⟩
  · exact absurd (h.invariant.flag_set hstop) g

/-- Dependencies wait: the manager begins stopping module `d` only while every module `r` that depends on `d`
    is at most `Offline`; and if such an `r` was stopped without timeout, its stop routine has
    returned and all its work counted at flag time has returned. -/
theorem dependencies_wait {n : Nat} {deps : List (List Nat)} {S S' : Sys} {d : Nat}
    (h : SReach n deps S) (hs : sstep S (.mod d .stopBegin) = some S') :
    ∀ (r : Nat) (sr : St), S.mods[r]? = some sr → d ∈ S.depsOf r →
      sr.status ≤ statusOffline ∧
      (sr.stopped → sr.tmo = 0 → sr.fnpc = 3 ∧ sr.aW = 0 ∧ sr.aT = 0 ∧ sr.aM = 0) := by
  intro r sr hr hd
  have hreach := (sinv_reach h).2.1 sr (List.mem_of_getElem? hr)
  refine ⟨?_, fun hst ht => ?_⟩
  · simp only [sstep] at hs
    split at hs
    · cases hs
    · have hall := (of_ite_some hs).1.2
      simp only [Sys.revDepsDown, List.all_eq_true, List.mem_range] at hall
      obtain ⟨hlt, _⟩ := List.getElem?_eq_some_iff.mp hr
      have hst : S.statusOf r = sr.status := by
        simp only [Sys.statusOf, List.getD_eq_getElem?_getD, hr, Option.getD_some]
      -- `r` depends on `d`: of `revDepsDown`'s `!contains || decide (… ≤ Offline)` the second disjunct holds
      simpa only [List.contains_iff_mem.mpr hd, Bool.not_true, Bool.false_or, decide_eq_true_eq, hst] using hall r hlt
  · have := offline_only_after_work_returned hreach hst ht
    exact ⟨this.2.1, this.2.2.1, this.2.2.2.1, this.2.2.2.2.1⟩

/-- Shutdown waits: `stopModules` (hence `Shutdown`) returns only when every stopper it launched has reported:
    no module is between `stop()` and its report, so every module stopped in this pass is `Offline`, and (no timeout) its stop routine has returned and all its work counted at flag time has returned. -/
theorem shutdown_waits {n : Nat} {deps : List (List Nat)} {S S' : Sys}
    (h : SReach n deps S) (hm : S.mode = 1) (hs : sstep S .passEnd = some S') :
    ∀ (i : Nat) (s : St), S.mods[i]? = some s →
      (s.spc = 0 ∨ s.spc = 8) ∧
      (s.spc = 8 → s.status = statusOffline ∧
        (s.tmo = 0 → s.fnpc = 3 ∧ s.aW = 0 ∧ s.aT = 0 ∧ s.aM = 0 ∧ s.closed = 1)) := by
  intro i s hi
  have hinv := sinv_reach h
  have hreach := hinv.2.1 s (List.mem_of_getElem? hi)
  have hcnt := hinv.2.2.1 hm
  have hend : S.reportCnt = S.execCnt := by
    rcases ite_some_cases hs with ⟨g, _⟩ | ⟨_, hs⟩
    · exact g.2
    · have := (guarded hs).1; omega
  -- every stopper launched in the pass has reported: none is active
  have hnone : nActive S.mods = 0 := by omega
  have ha := nActive_zero_of S.mods i s hi hnone
  have hspc : s.spc = 0 ∨ s.spc = 8 := by
    have := hreach.invariant.spc_le
    simp only [St.active] at ha
    split at ha <;> omega
  refine ⟨hspc, fun h8 => ?_⟩
  have hst : s.stopped := .inr h8
  exact ⟨(status_tracks_stopper hreach).1 hst, fun ht => (offline_only_after_work_returned hreach hst ht).2⟩

/-! ## non-vacuity -/

/-- one complete check by a goroutine that finds everything done -/
def chk : List Act := [.cFast true, .cLock, .cFlag true, .cCtrl true, .cW true, .cT true, .cM true]

/-- two workers, a task and a microtask running, start and stop routine present; a microtask arrives during the
    stop; everything returns; the last finisher's check completes the stop; late work after `Offline`. -/
def cleanRun : List Act :=
  [.startBegin, .ctrlSet, .fnEnter false, .inc .w, .workEnter 1 false, .fnExit, .ctrlUnset, .cFast false, .online,
   .inc .w, .inc .t, .inc .m, .workEnter 1 false, .gate true,
   .stopBegin, .sCtrl, .dec .w true, .cFast false, .sFlag, .gate false, .sCancel, .ctrlSet, .fnEnter true,
   .inc .m, .workEnter 1 true, .dec .m false, .cFast true, .cLock, .cFlag true, .cCtrl false, .cUnlock,
   .dec .t true, .dec .m true, .fnExit, .ctrlUnset,
   .cFast true, .cFast true, .cFast true, .cLock, .cFlag true, .cCtrl true, .cW false, .cUnlock,
   .dec .w true] ++ chk ++ [.cCas true, .cClose, .sWake, .cUnlock, .sOffline, .sReport,
   .cLock, .cFlag true, .cCtrl true, .cW true, .cT true, .cM true, .cCas false, .cUnlock,
   .inc .w, .workEnter 1 true, .gate false, .dec .w false] ++ chk ++ [.cCas false, .cUnlock]

def cleanEnd : St := (run prepped cleanRun).getD init

example : run prepped cleanRun = some cleanEnd ∧ (cleanEnd.spc = 7 ∨ cleanEnd.spc = 8) ∧
    cleanEnd.tmo = 0 ∧ cleanEnd.closed = 1 ∧ cleanEnd.fnpc = 3 := by decide

/-- a quiet state with pending checks exists (hypotheses of `no_lost_completion` / `prompt_completion`). -/
def quietMid : St := (run prepped (cleanRun.take 44)).getD init

example : run prepped (cleanRun.take 44) = some quietMid ∧ 5 ≤ quietMid.spc ∧ quietMid.fnpc = 3 ∧
    quietMid.aW + quietMid.bW = 0 ∧ quietMid.aT + quietMid.bT = 0 ∧ quietMid.aM + quietMid.bM = 0 ∧
    quietMid.closed = 0 ∧ 0 < mu quietMid := by decide

/-- a service worker that answers the cancellation with `ErrRestartNow` leaves its loop; running it again is not a run
    of the model; before the flag is set it may be run again. -/
example : (run prepped [.startBegin, .online, .inc .w, .workEnter 1 false, .stopBegin, .sCtrl, .sFlag, .sCancel, .swReturn,
    .swExit true, .dec .w true]).isSome = true := by decide
example : (run prepped [.startBegin, .online, .inc .w, .workEnter 1 false, .stopBegin, .sCtrl, .sFlag, .sCancel, .swReturn,
    .swRerun]).isSome = false := by decide
example : (run prepped [.startBegin, .online, .inc .w, .workEnter 1 false, .swReturn, .swRerun, .workEnter 1 false,
    .stopBegin, .sCtrl, .swReturn, .sFlag, .swRerun, .workEnter 1 false, .swReturn, .swExit true]).isSome = true := by decide

/-! ### the back-off wait of a service worker -/

/-- a service worker whose function fails shortly before the stop is in its back-off when the stop begins: before the
    cancel only its timer can end the wait, after the cancel the `Ctx.Done()` case is enabled and leaves the loop -/
def backoffAtStop : List Act :=
  [.startBegin, .online, .inc .w, .workEnter 1 false, .swReturn, .swBackoff false, .stopBegin, .sCtrl, .sFlag]

example : (run prepped (backoffAtStop ++ [.swCtxDone 1])).isSome = false := by decide
example : (run prepped (backoffAtStop ++ [.sCancel, .swCtxDone 1, .dec .w true])).isSome = true := by decide
example : ((run prepped (backoffAtStop ++ [.sCancel])).getD init).swBk = [1] ∧
    ((run prepped (backoffAtStop ++ [.sCancel, .swCtxDone 1])).getD init).swBk = [] := by decide
/-- its timer firing while the module stops puts it at the loop head with `IsStopping()` true: no re-run -/
example : (run prepped (backoffAtStop ++ [.swTimer 1, .swExit true, .dec .w true])).isSome = true := by decide
example : (run prepped (backoffAtStop ++ [.swTimer 1, .swRerun])).isSome = false := by decide
/-- before the stop the timer leads to a re-run -/
example : (run prepped [.startBegin, .online, .inc .w, .workEnter 1 false, .swReturn, .swBackoff false, .swTimer 1, .swRerun,
    .workEnter 1 false]).isSome = true := by decide
/-- a service worker that answers the cancellation with a plain error (or a panic) enters the back-off with the
    context already cancelled and leaves through `Ctx.Done()` -/
example : (run prepped [.startBegin, .online, .inc .w, .workEnter 1 false, .stopBegin, .sCtrl, .sFlag, .sCancel, .swReturn,
    .swBackoff true, .swCtxDone 1, .dec .w true]).isSome = true := by decide
/-- a waiter that outlives a timed-out stop and a restart holds the replaced context 1: its wait can end at once -/
example : (run prepped [.startBegin, .online, .inc .w, .workEnter 1 false, .stopBegin, .sCtrl, .sFlag, .sCancel, .swReturn,
    .swBackoff true, .ctrlUnsetNil, .cFast true, .cLock, .cFlag true, .cCtrl true, .cW false, .cUnlock, .sTimeout, .sOffline,
    .sReport, .startBegin, .online, .swCtxDone 1, .dec .w true]).isSome = true := by decide

/-! ### other life cycles: prep work, failed starts, retries, restart after a timed-out stop -/

example : run init [.prepBegin, .prepDone] = some prepped := by decide

/-- A worker started in the prep phase (context 0), a first start that launches a worker (context 1) and fails, a
    second failing attempt, a third that succeeds; the stop. Each `start()` cancels the context it replaces: the
    prep worker sees context 0 cancelled from the first start on, the worker of the first attempt sees context 1
    live after the failure and cancelled from the retry on; at the stop routine's entry every context is cancelled. -/
def failedStartRun : List Act :=
  [.prepBegin, .ctrlSet, .fnEnter false, .inc .w, .workEnter 0 false, .fnExit, .ctrlUnset, .cFast false, .prepDone,
   .startBegin, .ctxObs 0 true, .ctrlSet, .fnEnter false, .inc .w, .workEnter 1 false, .fnExit, .ctrlUnset, .cFast false,
   .startFail, .ctxObs 1 false, .inc .m, .workEnter 1 false,
   .startBegin, .ctxObs 1 true, .ctxObs 2 false, .ctrlSet, .fnExit, .ctrlUnset, .cFast false, .startFail,
   .startBegin, .ctxObs 2 true, .ctrlSet, .fnExit, .ctrlUnset, .cFast false, .online, .inc .w, .workEnter 3 false,
   .inc .t, .workEnter 2 true,                                                  -- a task created during attempt 2
   .stopBegin, .sCtrl, .sFlag, .sCancel, .ctrlSet, .fnEnter true,
   .ctxObs 0 true, .ctxObs 1 true, .ctxObs 2 true, .ctxObs 3 true]

example : (run init failedStartRun).isSome = true := by decide
/-- … the leftovers are counted: three workers, a task and a microtask are running when the stop routine is entered -/
example : ((run init failedStartRun).getD init).aW = 3 ∧ ((run init failedStartRun).getD init).aM = 1 ∧
    ((run init failedStartRun).getD init).aT = 1 ∧ ((run init failedStartRun).getD init).gen = 3 := by decide
/-- observing context 1 live after the retry, or any context live in the stop routine, is not a run of the model -/
example : (run init (failedStartRun.take 24 ++ [.ctxObs 1 false])).isSome = false := by decide
example : (run init (failedStartRun ++ [.ctxObs 1 false])).isSome = false := by decide
/-- a module whose start failed is not stopped: neither `stop()` nor a cancel is enabled, its context stays live -/
example : (run init (failedStartRun.take 19 ++ [.stopBegin])).isSome = false := by decide
example : (run init (failedStartRun.take 19 ++ [.sCancel])).isSome = false := by decide
example : (run init (failedStartRun.take 19 ++ [.ctxObs 1 false, .workEnter 1 false])).isSome = true := by decide

/-- Sensitivity to the shape of `start()`: with the cancel dropped, or performed after the renewal (on the NEW
    context), the context of a failed attempt is replaced while live — it can never be cancelled afterwards —
    respectively the fresh context is born cancelled. The model's `startOps` is the source's order (pinned in
    `gen_matches_model`). -/
def afterFailedStart : St := (run init (failedStartRun.take 19)).getD init

example : afterFailedStart.status = statusOffline ∧ afterFailedStart.ctx = 0 ∧ afterFailedStart.gen = 1 := by decide
example : (startCtx startOps afterFailedStart).oldLive = [] ∧ (startCtx startOps afterFailedStart).ctx = 0 := by decide
example : (startCtx [.renew, .unsetFlag] afterFailedStart).oldLive = [1] := by decide
example : (startCtx [.renew, .cancelCur, .unsetFlag] afterFailedStart).oldLive = [1] ∧
    (startCtx [.renew, .cancelCur, .unsetFlag] afterFailedStart).ctx = 1 := by decide

/-- restart after a stop that timed out: the worker of the first cycle is still running (context 1, cancelled) when
    the module is started again and stopped a second time. -/
example : (run prepped [.startBegin, .online, .inc .w, .workEnter 1 false, .stopBegin, .sCtrl, .sFlag, .sCancel,
    .ctrlUnsetNil, .cFast true, .cLock, .cFlag true, .cCtrl true, .cW false, .cUnlock, .sTimeout, .sOffline, .sReport,
    .startBegin, .online, .ctxObs 1 true, .inc .w, .workEnter 2 false, .stopBegin, .sCtrl, .sFlag, .sCancel,
    .ctxObs 1 true, .ctxObs 2 true]).isSome = true := by decide

/-- a timeout run is accepted by the model (the proviso is a hypothesis, not a restriction of the model). -/
example : (run prepped [.startBegin, .online, .inc .w, .stopBegin, .sCtrl, .sFlag, .sCancel, .ctrlUnsetNil,
    .cFast true, .cLock, .cFlag true, .cCtrl true, .cW false, .cUnlock, .sTimeout, .sOffline, .sReport]).isSome = true := by
  decide

/-- three modules, 2 depends on 1 depends on 0: a shutdown pass in dependency order is a run of the system,
    and stopping module 0 first is rejected. -/
def chain3 : List (List Nat) := [[], [0], [1]]

def upActs (i : Nat) : List SAct := [.mod i .prepBegin, .mod i .prepDone, .mod i .startBegin, .mod i .online]
def downActs (i : Nat) : List SAct :=
  [.mod i .stopBegin, .mod i .sCtrl, .mod i .sFlag, .mod i .sCancel, .mod i .ctrlUnsetNil, .mod i (.cFast true),
   .mod i .cLock, .mod i (.cFlag true),
   .mod i (.cCtrl true), .mod i (.cW true), .mod i (.cT true), .mod i (.cM true), .mod i (.cCas true), .mod i .cClose,
   .mod i .cUnlock, .mod i .sWake, .mod i .sOffline, .mod i .sReport]

example : (srun (Sys.init 3 chain3)
    ([.passBegin false] ++ upActs 0 ++ upActs 1 ++ upActs 2 ++ [.passEnd, .passBegin true] ++
      downActs 2 ++ downActs 1 ++ downActs 0 ++ [.passEnd])).isSome = true := by decide

example : (srun (Sys.init 3 chain3)
    ([.passBegin false] ++ upActs 0 ++ upActs 1 ++ upActs 2 ++ [.passEnd, .passBegin true, .mod 0 .stopBegin])).isSome
      = false := by decide

example : (srun (Sys.init 3 chain3)
    ([.passBegin false] ++ upActs 0 ++ upActs 1 ++ upActs 2 ++ [.passEnd, .passBegin true] ++
      (downActs 2).take 5 ++ [.passEnd])).isSome = false := by decide

end PB.C05
