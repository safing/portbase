import PBProofs.Lemmas.Paths
import PB.Gen.Paths
/-
C18 — Externally supplied names never reach files outside the component's root.
Property theorems and two model facts they share (`unpackDst_error`, `copyFromZip_path`); lemmas: Lemmas/Paths.lean.

`Inside root p` (PB/Spec/Paths.lean): `p` is absolute and its lexical resolution (skip "" and ".", ".." goes up,
"/.." = "/") passes through the directory `root` resolves to.  All theorems hold for every name — every byte
string — and every absolute root.
-/
namespace PB.C18
open PB PB.Paths

/-! ### fstree: database keys and query prefixes -/

/-- Whatever `buildFilePath` accepts lies inside the base path, and it is the file the key denotes
    when resolved from the base directory. -/
theorem fstree_contained (base key : Path) (chk : Bool) (dst : Path) (hb : isAbs base = true)
    (h : buildFilePath base key chk = .ok dst) :
    Inside base dst ∧ resolve dst = resolveFrom (resolve base) key := by
  obtain ⟨rfl, hsc, _⟩ := buildFilePath_ok h
  refine ⟨?_, resolve_join2 hb key⟩
  rcases hsc with hp | ⟨_, he⟩
  · exact (cleanAbs_join2 hb key).inside hp
  · rw [he]; exact inside_refl hb

/-- A key that would leave the base directory is rejected with an error (no path is produced, so nothing is accessed). -/
theorem fstree_rejects_before_access (base key : Path) (chk : Bool) (hb : isAbs base = true)
    (hesc : ¬ resolve base <+: resolveFrom (resolve base) key) :
    ∃ e, buildFilePath base key chk = .error e := by
  cases h : buildFilePath base key chk with
  | error e => exact ⟨e, rfl⟩
  | ok dst =>
    have := fstree_contained base key chk dst hb h
    exact absurd (this.2 ▸ this.1.2) hesc

/-- The check does not over-reject: every clean relative key (proper names joined by `/`) is accepted below a
    clean base path, and the file is literally `base/key`. -/
theorem fstree_accepts_inside (base : Path) (chk : Bool) (hb : isAbs base = true) (hc : clean base = base)
    (hroot : base ≠ [47]) (x : Path) (xs : List Path) (hn : ∀ s ∈ x :: xs, Normal s) :
    buildFilePath base (joinSep (x :: xs)) chk = .ok (base ++ 47 :: joinSep (x :: xs)) := by
  have hj := join2_below (cleanAbs_of_clean_eq hb hc) hroot (resolveFrom_joinSep hn (resolve base))
  have hlen : ¬ (joinSep (x :: xs)).length < 1 := by
    simpa using joinSep_ne_nil (by simp) hn
  simp [buildFilePath, hlen, hj, hasPrefix]

/-- An accepted record key names exactly the file `base/key`: different keys, different files. -/
theorem fstree_key_is_literal_path (base key dst : Path) (h : buildFilePath base key true = .ok dst) :
    dst = base ++ 47 :: key :=
  (buildFilePath_ok h).2.2 rfl

/-- Record keys (Get / Put / Delete) never address the base directory itself: the file is strictly below it. -/
theorem fstree_key_strictly_inside (base key dst : Path) (hb : isAbs base = true)
    (h : buildFilePath base key true = .ok dst) : StrictlyInside base dst := by
  obtain ⟨rfl, hp | ⟨h0, _⟩, _⟩ := buildFilePath_ok h
  · exact (cleanAbs_join2 hb key).strictlyInside (ne_nil_of_isAbs hb) hp
  · cases h0

/-- The directory `Query` walks is inside the base path — for every query prefix and **every** answer of
    `os.Stat` (whatever exists or does not exist below, at, or around the base path). -/
theorem fstree_query_walk_contained (base pre wr : Path) (stat : Path → StatKind) (hb : isAbs base = true)
    (h : queryWalkRoot base pre stat = .ok (some wr)) : Inside base wr := by
  obtain ⟨wp, hbf, rfl | ⟨rfl, hne⟩⟩ := queryWalkRoot_some h
  · exact (fstree_contained base pre false _ hb hbf).1
  · -- the parent of an accepted walk prefix other than the base path is still inside the base path
    obtain ⟨rfl, hp | ⟨_, he⟩, _⟩ := buildFilePath_ok hbf
    · exact inside_dirOf (cleanAbs_join2 hb pre) (ne_nil_of_isAbs hb) hp
    · exact absurd he hne

/-- **Everything a query touches is inside the base path — for every state of the file system.**
    Whatever exists below, at, next to or above the database directory when `Query` runs (the directory removed or
    replaced by a file behind the back of the open storage, intermediate directories missing, siblings whose names
    extend the directory's name, ...): every `stat`, every directory listing and every file read of `Query` and its
    walk lies inside the base path; and every record delivered carries as key the name, relative to the base
    path, of a file that was read there (resolving the key from the base directory leads to that file). -/
theorem fstree_query_reads_contained (fs : Ents) (hfs : fs.NamesNormal) (base pre : Path) (hb : isAbs base = true)
    (r : WalkRes) (h : queryRun fs base pre = .ok r) :
    (∀ a ∈ r.acc, Inside base a.path) ∧
    (∀ k ∈ r.keys, ∃ p, Access.read p ∈ r.acc ∧ Inside base p ∧ relOf base p = some k ∧
      resolveFrom (resolve base) k = resolve p) := by
  suffices H : WalkGood base r by
    refine ⟨H.1, fun k hk => ?_⟩
    obtain ⟨p, h1, h2, h3⟩ := H.2 k hk
    exact ⟨p, h1, H.1 _ h1, h2, h3⟩
  unfold queryRun at h
  cases hbf : buildFilePath base pre false with
  | error e => rw [hbf] at h; cases h
  | ok wp =>
    rw [hbf] at h
    dsimp only at h
    have hstat : WalkGood base { acc := [Access.stat wp] } :=
      walkGood_accOnly (fstree_contained base pre false wp hb hbf).1 (by simp [Access.path])
    cases hq : queryWalkRoot base pre (statKindOf fs) with
    | error e => rw [hq] at h; cases h
    | ok o =>
      rw [hq] at h
      cases o with
      | none => cases h; exact hstat
      | some wr =>
        cases h
        -- the walk root is a cleaned path: the walk prefix itself or its `Dir`
        have hcl : CleanAbs wr := by
          obtain ⟨wp', hbf', hwr⟩ := queryWalkRoot_some hq
          obtain ⟨rfl, _⟩ := buildFilePath_ok hbf'
          rcases hwr with rfl | ⟨rfl, _⟩
          · exact cleanAbs_join2 hb pre
          · exact cleanAbs_dirOf (cleanAbs_join2 hb pre)
        exact walkGood_andThen hstat
          (walkTop_good hb pre hfs (fstree_query_walk_contained base pre wr _ hb hq) hcl)

/-! ### Directory-structure helper: requested paths -/

/-- Every directory `EnsureAbsPath` creates / chmods for an accepted path lies inside the structure's root. -/
theorem dirstructure_contained (root dirPath : Path) (dirs : List Path) (hr : isAbs root = true)
    (h : ensureAbsPath root dirPath = .ok dirs) : ∀ d ∈ dirs, Inside root d :=
  ensureAbsPath_contained hr h

/-- A requested path that leaves the root is rejected with an error before anything is created. -/
theorem dirstructure_rejects_before_access (root dirPath : Path) (hr : isAbs root = true) (hd : isAbs dirPath = true)
    (hesc : ¬ resolve root <+: resolve dirPath) : ∃ e, ensureAbsPath root dirPath = .error e :=
  ⟨.outside, ensureAbsPath_escape hr hd hesc⟩

/-- `EnsureRelPath` and `EnsureRelDir` join the supplied name(s) below the root and go through the same check. -/
theorem dirstructure_rel_contained (root : Path) (hr : isAbs root = true) :
    (∀ rel dirs, ensureRelPath root rel = .ok dirs → ∀ d ∈ dirs, Inside root d) ∧
    (∀ names dirs, ensureRelDir root names = .ok dirs → ∀ d ∈ dirs, Inside root d) :=
  ⟨fun _ dirs h => dirstructure_contained root _ dirs hr h, fun _ dirs h => dirstructure_contained root _ dirs hr h⟩

/-! ### Directory-structure helper as a stateful object: histories of calls on one tree

`dhistory (newDirStructure root perm) calls` is everything handed to `EnsureDirectory` (created / chmod-ed /
a file of that name replaced) while the calls `ChildDir`, `Ensure`, `EnsureAbsPath`, `EnsureRelPath`, `EnsureRelDir`
are made in any order on any node of the tree, with arbitrary names. -/

/-- **Containment for every history.**  Whatever sequence of `ChildDir` / `Ensure*` calls is made on the nodes of
    one `DirStructure` tree, with whatever names, every directory that is created, chmod-ed or put in place of a
    file lies inside the root of the tree. -/
theorem dirstructure_history_contained (root : Path) (perm : Nat) (hr : isAbs root = true) (calls : List DCall) :
    ∀ d ∈ dhistory (newDirStructure root perm) calls, Inside root d.1 := by
  suffices H : ∀ t, DWF t root → ∀ d ∈ dhistory t calls, Inside root d.1 from H _ (dwf_new root perm)
  induction calls with
  | nil => intro t _ d hd; simp [dhistory] at hd
  | cons c cs ih =>
    intro t hw d hd
    unfold dhistory at hd
    dsimp only at hd
    rcases List.mem_append.mp hd with hd | hd
    · rcases dcall_snd t c with h0 | ⟨h, p, hh, he⟩
      · simp [h0] at hd
      · rw [he] at hd
        cases hr' : ensureAbsPathT t h p with
        | error e => simp [hr'] at hd
        | ok ds => exact ensureAbsPathT_contained hw hr hh p ds hr' d (by simpa [hr'] using hd)
    · exact ih _ (dwf_dcall hw c) d hd

/-- What the code guarantees about the registered children, in every reachable tree: a child's path is the
    parent's path joined with the very name it is registered (and looked up) under. -/
theorem dirstructure_children_registered_as_named (root : Path) (perm : Nat) (calls : List DCall) (i p : Nat) (n : DNode)
    (hn : (treeAfter (newDirStructure root perm) calls)[i]? = some n) (hp : n.parent = some p) :
    p < i ∧ n.path = join2 ((treeAfter (newDirStructure root perm) calls).pathOf p) n.key :=
  (dwf_treeAfter (dwf_new root perm) calls).2.2.2 i n hn p hp

/-- The source still has the shape the invariant above is read from (facts regenerated from `utils/structure.go`
    on every run): `ChildDir` registers and builds the path from the same, unmodified name parameter, and `ensure`
    finds children only by `Children[pathDirs[0]]`. -/
theorem dirstructure_source_registers_children_as_named :
    PB.Gen.Paths.childDirKeyIsGivenName = true ∧ PB.Gen.Paths.childDirPathJoinsGivenName = true ∧
      PB.Gen.Paths.ensureLooksUpByElement = true := ⟨rfl, rfl, rfl⟩

/-- In every reachable tree, on every node: a requested absolute path that leaves the root is refused
    (so a child registered under an escaping name, e.g. `ChildDir("../evil")`, can never be ensured itself). -/
theorem dirstructure_history_rejects (root : Path) (perm : Nat) (hr : isAbs root = true) (calls : List DCall) (h : Nat)
    (hh : h < (treeAfter (newDirStructure root perm) calls).length) (dirPath : Path) (hd : isAbs dirPath = true)
    (hesc : ¬ resolve root <+: resolve dirPath) :
    ensureAbsPathT (treeAfter (newDirStructure root perm) calls) h dirPath = .error .outside := by
  -- the tree touches what the plain structure touches
  have hfst := ensureAbsPathT_fst (dwf_treeAfter (dwf_new root perm) calls) hh dirPath
  rw [ensureAbsPath_escape hr hd hesc] at hfst
  cases hT : ensureAbsPathT (treeAfter (newDirStructure root perm) calls) h dirPath with
  | error e => rw [hT] at hfst; cases hfst; rfl
  | ok v => rw [hT] at hfst; cases hfst

/-! ### Archive unpacking: zip entry names -/

theorem unpackDst_error {tmp name : Path} {e : Err} (h : unpackDst tmp name = .error e) : e = .insecure := by
  rw [unpackDst_eq] at h
  split at h <;> cases h
  rfl

/-- The destination of an accepted entry lies inside the unpack directory and is what the entry name denotes there. -/
theorem unpack_contained (tmp name dst : Path) (ht : isAbs tmp = true) (h : unpackDst tmp name = .ok dst) :
    Inside tmp dst ∧ resolve dst = resolveFrom (resolve tmp) name := by
  obtain ⟨rfl, hp⟩ := unpackDst_ok h
  exact ⟨(cleanAbs_join2 ht name).inside hp, resolve_join2 ht name⟩

theorem unpack_rejects_before_access (tmp name : Path) (ht : isAbs tmp = true)
    (hesc : ¬ resolve tmp <+: resolveFrom (resolve tmp) name) : unpackDst tmp name = .error .insecure := by
  rw [unpackDst_eq, if_neg]
  intro hp
  exact hesc (resolve_join2 ht name ▸ ((cleanAbs_join2 ht name).inside hp).2)

theorem unpack_accepts_inside (tmp name : Path) (ht : isAbs tmp = true) (hc : clean tmp = tmp) (hroot : tmp ≠ [47])
    (x : Path) (xs : List Path) (hin : resolveFrom (resolve tmp) name = resolve tmp ++ x :: xs) :
    unpackDst tmp name = .ok (join2 tmp name) := by
  rw [unpackDst_eq, if_pos (hasPrefix_join2_of_strict ht hc hroot hin)]

/-- The whole loop over an archive: every destination written is inside the unpack directory. -/
theorem unpackAll_contained (tmp : Path) (names : List Path) (ht : isAbs tmp = true) :
    ∀ d ∈ (unpackAll tmp names).1, Inside tmp d := by
  induction names with
  | nil => simp [unpackAll]
  | cons n ns ih =>
    unfold unpackAll
    cases h : unpackDst tmp n with
    | error e => simp
    | ok d =>
      simp only
      intro x hx
      rcases List.mem_cons.mp hx with rfl | hx
      · exact (unpack_contained tmp n x ht h).1
      · exact ih x hx

/-- An archive with an escaping entry is rejected, and neither that entry nor any later one is written:
    the destinations written are those of a proper initial part of the archive. -/
theorem unpackAll_rejects (tmp : Path) (names : List Path) (ht : isAbs tmp = true) (n : Path) (hn : n ∈ names)
    (hesc : ¬ resolve tmp <+: resolveFrom (resolve tmp) n) :
    (unpackAll tmp names).2 = some .insecure ∧ (unpackAll tmp names).1.length < names.length := by
  induction names with
  | nil => simp at hn
  | cons m ms ih =>
    unfold unpackAll
    cases h : unpackDst tmp m with
    | error e => simp [unpackDst_error h]
    | ok d =>
      have hm : n ∈ ms := by
        rcases List.mem_cons.mp hn with rfl | hn
        · rw [unpack_rejects_before_access tmp n ht hesc] at h
          cases h
        · exact hn
      have := ih hm
      simp only
      exact ⟨this.1, by simpa using this.2⟩

/-! ### Archive unpacking: the archive as a sequence of entries, and the calls `copyFromZipArchive` makes -/

theorem copyFromZip_path (e : ZEntry) (dst : Path) : (copyFromZip e dst).path = dst := by
  unfold copyFromZip; split <;> rfl

/-- Every file-system call the loop makes — granted or refused, whatever entries came before (directory entries,
    duplicates, names that extend earlier names) and however the operating system answers — is the `Mkdir` /
    `OpenFile` of one entry of the archive on exactly the destination the scope check accepted **for that entry's own
    name**: the verdict on an entry never depends on the entries before it, and the operating system is handed the
    validated path and nothing else. -/
theorem unpackLoop_ops_validated (os : List FsOp → FsOp → Bool) (tmp : Path) (es : List ZEntry) :
    ∀ (done : List FsOp), ∀ op ∈ (unpackLoop os tmp done es).1,
      op ∈ done ∨ ∃ e ∈ es, ∃ dst, unpackDst tmp e.name = .ok dst ∧ op = copyFromZip e dst := by
  induction es with
  | nil => intro done op h; exact Or.inl (by simpa [unpackLoop] using h)
  | cons e es ih =>
    intro done op h
    unfold unpackLoop at h
    cases hd : unpackDst tmp e.name with
    | error err => rw [hd] at h; exact Or.inl (by simpa using h)
    | ok dst =>
      rw [hd] at h
      dsimp only at h
      have key : op ∈ done ++ [copyFromZip e dst] →
          op ∈ done ∨ ∃ e' ∈ e :: es, ∃ dst', unpackDst tmp e'.name = .ok dst' ∧ op = copyFromZip e' dst' := by
        intro hm
        rcases List.mem_append.mp hm with hm | hm
        · exact Or.inl hm
        · exact Or.inr ⟨e, by simp, dst, hd, by simpa using hm⟩
      split at h
      · rcases ih _ op h with h' | ⟨e', he', dst', hd', hop⟩
        · exact key h'
        · exact Or.inr ⟨e', by simp [he'], dst', hd', hop⟩
      · exact key h

/-- Sequences of entries: for every archive (any entries in any order, with any directory flags), every unpack
    directory and every behaviour of the operating system, each path handed to `os.Mkdir` / `os.OpenFile` lies
    strictly below the unpack directory and is what the name of the entry it belongs to denotes there. -/
theorem unpackLoop_contained (os : List FsOp → FsOp → Bool) (tmp : Path) (ht : isAbs tmp = true) (es : List ZEntry) :
    ∀ op ∈ (unpackLoop os tmp [] es).1,
      StrictlyInside tmp op.path ∧ ∃ e ∈ es, resolve op.path = resolveFrom (resolve tmp) e.name := by
  intro op h
  rcases unpackLoop_ops_validated os tmp es [] op h with h' | ⟨e, he, dst, hd, rfl⟩
  · simp at h'
  · rw [copyFromZip_path]
    refine ⟨?_, e, he, (unpack_contained tmp e.name dst ht hd).2⟩
    obtain ⟨rfl, hp⟩ := unpackDst_ok hd
    exact (cleanAbs_join2 ht e.name).strictlyInside (ne_nil_of_isAbs ht) hp

/-- An archive with an escaping entry anywhere in it never unpacks successfully, and no file-system call is made for
    that entry or for any entry after it — whatever precedes it (in particular an in-scope directory entry whose name
    the escaping name extends textually) and however the operating system answers; if the operating system grants
    every call, the error is the scope error. -/
theorem unpackLoop_rejects (os : List FsOp → FsOp → Bool) (tmp : Path) (ht : isAbs tmp = true)
    (pre post : List ZEntry) (e : ZEntry) (hesc : ¬ resolve tmp <+: resolveFrom (resolve tmp) e.name) :
    ∀ (done : List FsOp),
      (unpackLoop os tmp done (pre ++ e :: post)).2 ≠ none ∧
      (unpackLoop os tmp done (pre ++ e :: post)).1.length ≤ done.length + pre.length ∧
      ((∀ d op, os d op = true) → (unpackLoop os tmp done (pre ++ e :: post)).2 = some .insecure) := by
  induction pre with
  | nil =>
    intro done
    simp only [List.nil_append]
    unfold unpackLoop
    rw [unpack_rejects_before_access tmp e.name ht hesc]
    simp
  | cons p ps ih =>
    intro done
    simp only [List.cons_append]
    unfold unpackLoop
    cases hd : unpackDst tmp p.name with
    | error err => simp [unpackDst_error hd]
    | ok dst =>
      dsimp only
      by_cases hos : os done (copyFromZip p dst) = true
      · simp only [hos, if_true]
        obtain ⟨h1, h2, h3⟩ := ih (done ++ [copyFromZip p dst])
        refine ⟨h1, ?_, h3⟩
        simp only [List.length_append, List.length_cons, List.length_nil] at h2 ⊢
        omega
      · simp only [hos]
        exact ⟨by simp, by simp, fun hall => absurd (hall _ _) hos⟩

/-- No over-rejection, for whole archives: if every entry name stays strictly below a clean unpack directory and the
    operating system grants the calls, the archive is unpacked completely, entry by entry, each at `Join(tmpDir, name)`. -/
theorem unpackLoop_accepts_inside (os : List FsOp → FsOp → Bool) (hos : ∀ d op, os d op = true) (tmp : Path)
    (ht : isAbs tmp = true) (hc : clean tmp = tmp) (hroot : tmp ≠ [47]) (es : List ZEntry)
    (hin : ∀ e ∈ es, ∃ x xs, resolveFrom (resolve tmp) e.name = resolve tmp ++ x :: xs) :
    ∀ (done : List FsOp),
      unpackLoop os tmp done es = (done ++ es.map (fun e => copyFromZip e (join2 tmp e.name)), none) := by
  induction es with
  | nil => intro done; simp [unpackLoop]
  | cons e es ih =>
    intro done
    obtain ⟨x, xs, hx⟩ := hin e (by simp)
    unfold unpackLoop
    rw [unpack_accepts_inside tmp e.name ht hc hroot x xs hx]
    simp only [hos, if_true]
    rw [ih (fun e' he' => hin e' (by simp [he'])) (done ++ [copyFromZip e (join2 tmp e.name)])]
    simp

/-- The name alphabet: a name without the separator byte `/` (and other than "", ".", "..") is ONE file name, whatever
    else it is made of — backslashes, colons, NUL, CR/LF, a full-width solidus, `%2e%2e`, trailing dots and spaces are
    ordinary bytes on POSIX.  Such an entry is accepted and its destination is literally `tmpDir/<name>`, the one
    path `copyFromZipArchive` gets: nothing later may read the name's bytes as separators. -/
theorem unpack_name_without_separator_is_literal (tmp name : Path) (ht : isAbs tmp = true) (hc : clean tmp = tmp)
    (hroot : tmp ≠ [47]) (hn : Normal name) (isDir : Bool) :
    unpackDst tmp name = .ok (tmp ++ 47 :: name) ∧
    (unpackLoop (fun _ _ => true) tmp [] [⟨name, isDir⟩]).1 = [copyFromZip ⟨name, isDir⟩ (tmp ++ 47 :: name)] := by
  have hin : resolveFrom (resolve tmp) name = resolve tmp ++ name :: [] := by
    rw [resolveFrom_of_not_mem hn.2.2.2, stepSeg_normal hn]
  have h1 := unpack_accepts_inside tmp name ht hc hroot name [] hin
  rw [join2_below (cleanAbs_of_clean_eq ht hc) hroot hin] at h1
  exact ⟨h1, by simp [unpackLoop, h1, joinSep]⟩

/-- The same for the file-tree backend: a key without `/` names the one file `base/<key>`, whatever its bytes. -/
theorem fstree_key_without_separator_is_literal (base key : Path) (chk : Bool) (hb : isAbs base = true)
    (hc : clean base = base) (hroot : base ≠ [47]) (hn : Normal key) :
    buildFilePath base key chk = .ok (base ++ 47 :: key) := by
  have := fstree_accepts_inside base chk hb hc hroot key [] (by simpa using hn)
  simpa [joinSep] using this

/-- The regenerated shape of the source (go/ast, `harness/cmd/extract/paths.go`): the loop over the archive entries
    checks every entry unconditionally on the path computed from that entry's own name and passes that path on;
    `copyFromZipArchive` hands its path parameter unchanged to `os.Mkdir` / `os.OpenFile`; and the scope checks of the
    components are the prefix comparisons (with separator) the model states. -/
theorem unpack_source_checks_every_entry_and_uses_the_checked_path :
    PB.Gen.Paths.unpackLoopChecksEveryEntry = true ∧ PB.Gen.Paths.copyUsesGivenPath = true ∧
    PB.Gen.Paths.unpackScopeCond = "!strings.HasPrefix(dstPath, tmpDir+string(filepath.Separator))" := ⟨rfl, rfl, rfl⟩

theorem scope_checks_as_modelled :
    PB.Gen.Paths.fstreeScopeCond =
      "!strings.HasPrefix(dstPath, fst.basePath+string(filepath.Separator)) && (checkKeyLength || dstPath != fst.basePath)" ∧
    PB.Gen.Paths.fstreeCleanCond =
      "checkKeyLength && dstPath != fst.basePath+string(filepath.Separator)+filepath.FromSlash(key)" ∧
    PB.Gen.Paths.scanScopeCond =
      "root != reg.storageDir.Path && !strings.HasPrefix(root, reg.storageDir.Path+string(filepath.Separator))" ∧
    PB.Gen.Paths.dirStructureScopeCond = "!strings.HasPrefix(dirPath, slashedPath)" ∧
    PB.Gen.Paths.bridgeScopeCond = "!strings.HasPrefix(requestURL, apiV1Path)" := ⟨rfl, rfl, rfl, rfl, rfl⟩

/-! ### Storage scan: the scan root -/

/-- The directory handed to `filepath.Walk` is inside the storage directory, and it is the directory the
    supplied root denotes (relative roots are taken from the working directory). -/
theorem scan_contained (storage cwd root r : Path) (hs : isAbs storage = true) (hc : isAbs cwd = true)
    (h : scanRoot storage cwd root = .ok r) :
    Inside storage r ∧
      (root ≠ [] → resolve r = if isAbs root = true then resolve root else resolveFrom (resolve cwd) root) := by
  unfold scanRoot at h
  split at h
  · rename_i h0
    cases h
    exact ⟨inside_refl hs, fun hne => absurd h0 hne⟩
  · dsimp only at h
    split at h
    · cases h
    · rename_i hchk
      cases h
      refine ⟨?_, fun _ => resolve_absOf hc root⟩
      by_cases hp : hasPrefix (absOf cwd root) (storage ++ [47]) = true
      · exact (cleanAbs_absOf hc root).inside hp
      · -- passed without the prefix: the root is the storage directory itself
        simp [hp] at hchk
        rw [hchk]; exact inside_refl hs

theorem scan_rejects_before_access (storage cwd root : Path) (hs : isAbs storage = true) (hc : isAbs cwd = true)
    (hne : root ≠ [])
    (hesc : ¬ resolve storage <+: (if isAbs root = true then resolve root else resolveFrom (resolve cwd) root)) :
    scanRoot storage cwd root = .error .outside := by
  cases h : scanRoot storage cwd root with
  | error e =>
    unfold scanRoot at h
    simp only [hne, if_false] at h
    split at h
    · cases h; rfl
    · cases h
  | ok r =>
    have := scan_contained storage cwd root r hs hc h
    exact absurd (this.2 hne ▸ this.1.2) hesc

/-! ### API bridge: URL path of a bridged request (same pattern; constant regenerated from the source) -/

/-- For every API prefix that ends in a separator, an accepted URL path lies below the prefix directory. -/
theorem bridge_contained (api r p u : Path) (hr : api = r ++ [47]) (ha : isAbs api = true)
    (h : bridgeURL api p = .ok u) : Inside r u ∧ resolve u = resolveFrom (resolve r) p := by
  unfold bridgeURL at h
  dsimp only at h
  split at h
  · cases h
  · rename_i hc
    cases h
    simp at hc
    refine ⟨(cleanAbs_join2 ha p).inside (hr ▸ hc), ?_⟩
    rw [resolve_join2 ha, hr, resolve_append_slash]

/-- The same for the prefix the source actually uses (`apiV1Path`, regenerated on every run). -/
theorem bridge_contained_apiV1 (p u : Path) (h : bridgeURL PB.Gen.Paths.apiV1Path p = .ok u) :
    Inside PB.Gen.Paths.apiV1Path.dropLast u :=
  (bridge_contained PB.Gen.Paths.apiV1Path PB.Gen.Paths.apiV1Path.dropLast p u rfl rfl h).1

/-! ### The regression the string-prefix checks are prone to -/

/-- A sibling directory whose name merely extends the root's name is not inside the root. -/
theorem sibling_prefix_not_inside (parent name ext : Path) (hn : Normal name) (hx : Normal (name ++ ext))
    (he : ext ≠ []) : ¬ Inside (parent ++ 47 :: name) (parent ++ 47 :: (name ++ ext)) := by
  intro h
  have h2 := h.2
  rw [resolve_append_sep, resolve_append_sep] at h2
  rw [resolveFrom_of_not_mem hn.2.2.2, resolveFrom_of_not_mem hx.2.2.2, stepSeg_normal hn, stepSeg_normal hx] at h2
  have hlen := List.IsPrefix.eq_of_length h2 (by simp)
  have := List.append_cancel_left hlen
  simp at this
  exact he this

/-- The concrete regression (DESIGN §7 #21): `/a/root-other/x` is not inside `/a/root`. -/
theorem sibling_prefix_not_inside_example : ¬ Inside (B "/a/root") (B "/a/root-other/x") := by decide_paths

/-! ### Non-vacuity: the observed attack inputs are rejected, ordinary names are accepted with the expected path -/

-- fstree (#21): sibling sharing the name prefix, parent references, the base directory itself
example : buildFilePath (B "/a/root") (B "../root-other/evil") true = .error .integrity := by decide_paths
example : buildFilePath (B "/a/root") (B "d/../../rootx") true = .error .integrity := by decide_paths
example : buildFilePath (B "/a/root") (B ".") true = .error .integrity := by decide_paths
example : buildFilePath (B "/a/root") (B "") true = .error .tooShort := by decide_paths
example : buildFilePath (B "/a/root") (B "d/../x//y/.") true = .error .unclean := by decide_paths
example : buildFilePath (B "/a/root") (B "../root/k") true = .error .unclean := by decide_paths
example : buildFilePath (B "/a/root") (B "x/y") true = .ok (B "/a/root/x/y") := by decide_paths
example : buildFilePath (B "/a/root") (B "d/../x//y/.") false = .ok (B "/a/root/x/y") := by decide_paths
example : buildFilePath (B "/a/root") (B "a/") true = .error .unclean := by decide_paths
example : buildFilePath (B "/a/root") (B "") false = .ok (B "/a/root") := by decide_paths
example : queryWalkRoot (B "/a/root") (B "d/b") (fun p => if p = B "/a/root/d/b" then .file else .dir) = .ok (some (B "/a/root/d")) := by decide_paths
example : queryWalkRoot (B "/a/root") (B "../root-other") (fun _ => .dir) = .error .integrity := by decide_paths
example : queryWalkRoot (B "/a/root") (B "d") (fun _ => .dir) = .ok (some (B "/a/root")) := by decide_paths
example : queryWalkRoot (B "/a/root") (B "d/") (fun _ => .dir) = .ok (some (B "/a/root/d")) := by decide_paths
example : queryWalkRoot (B "/a/root") (B "d/..") (fun _ => .dir) = .ok (some (B "/a/root")) := by decide_paths
example : queryWalkRoot (B "/a/root") (B "") (fun _ => .dir) = .ok (some (B "/a/root")) := by decide_paths
-- the database directory removed / replaced by a file behind the back of the open storage: no walk at all
example : queryWalkRoot (B "/a/root") (B "") (fun _ => .absent) = .ok none := by decide_paths
example : queryWalkRoot (B "/a/root") (B "../root") (fun _ => .file) = .ok none := by decide_paths
example : queryWalkRoot (B "/a/root") (B "x") (fun _ => .absent) = .ok (some (B "/a/root")) := by decide_paths
example : queryWalkRoot (B "/a/root") (B "a/x") (fun _ => .other) = .error .statErr := by decide_paths
example : buildFilePath (B "/a/root") (joinSep [B "x", B "y"]) true = .ok (B "/a/root" ++ 47 :: joinSep [B "x", B "y"]) :=
  fstree_accepts_inside (B "/a/root") true (by decide_paths) (by decide_paths) (by decide_paths) (B "x") [B "y"]
    (by intro s hs; simp at hs; rcases hs with rfl | rfl <;> (unfold Normal; decide_paths))
-- fstree on a file-system state: `/x` holds the database directory `db` (or not) and a sibling `db-old` with a record
private def fsWith (db : Ents → Ents) : Ents :=
  Ents.dir (B "x") (db (Ents.dir (B "db-old") (Ents.file (B "secret") true Ents.nil) (Ents.file (B "note.txt") false Ents.nil))) Ents.nil
private def fsDb : Ents := fsWith (Ents.dir (B "db") (Ents.file (B "a") true (Ents.dir (B "d") (Ents.file (B "b") true Ents.nil) Ents.nil)))
example : queryRun fsDb (B "/x/db") (B "") = .ok ⟨[.stat (B "/x/db"), .stat (B "/x/db"), .list (B "/x/db"),
    .stat (B "/x/db/a"), .read (B "/x/db/a"), .stat (B "/x/db/d"), .list (B "/x/db/d"), .stat (B "/x/db/d/b"), .read (B "/x/db/d/b")],
    [B "a", B "d/b"], false⟩ := by decide_paths
example : queryRun fsDb (B "/x/db") (B "d") = .ok ⟨[.stat (B "/x/db/d"), .stat (B "/x/db"), .list (B "/x/db"),
    .stat (B "/x/db/a"), .read (B "/x/db/a"), .stat (B "/x/db/d"), .list (B "/x/db/d"), .stat (B "/x/db/d/b"), .read (B "/x/db/d/b")],
    [B "d/b"], false⟩ := by decide_paths
-- the database directory removed behind the back of the open storage: prefixes that resolve to it are answered without a walk
example : queryRun (fsWith id) (B "/x/db") (B "") = .ok { acc := [.stat (B "/x/db")] } := by decide_paths
example : queryRun (fsWith id) (B "/x/db") (B "../db") = .ok { acc := [.stat (B "/x/db")] } := by decide_paths
example : queryRun (fsWith (Ents.file (B "db") true)) (B "/x/db") (B ".") = .ok { acc := [.stat (B "/x/db")] } := by decide_paths
example : queryRun (fsWith id) (B "/x/db") (B "k") = .ok { acc := [.stat (B "/x/db/k"), .stat (B "/x/db")] } := by decide_paths
example : queryRun (fsWith id) (B "/x/db") (B "../db-old") = .error .integrity := by decide_paths
-- what the defect was (fixed in the repo): a walk that starts at the parent lists it before the callback can say SkipDir
example : walkTop (fsWith id) (B "/x/db") (B "") (B "/x") = { acc := [.stat (B "/x"), .list (B "/x")] } := by decide_paths
-- DirStructure (#22): parent references behind a matching prefix
example : ensureAbsPath (B "/a/root") (B "/a/root/../outside/x") = .error .outside := by decide_paths
example : ensureAbsPath (B "/a/root") (B "/a/root-other/x") = .error .outside := by decide_paths
example : ensureAbsPath (B "/a/root/") (B "/a/root/tmp/../k//m") = .ok [B "/a/root/", B "/a/root/k", B "/a/root/k/m"] := by decide_paths
example : ensureAbsPath (B "/a/root") (B "/a/root/") = .ok [B "/a/root"] := by decide_paths
example : ensureRelPath (B "/a/root") (B "../other/k") = .error .outside := by decide_paths
example : ensureRelDir (B "/a/root") [B "..", B "root", B "k"] = .ok [B "/a/root", B "/a/root/k"] := by decide_paths
-- DirStructure histories (seeded C18-r2-2 class): a child registered under an escaping name is inert
example : (childDir (newDirStructure (B "/a/root") 0o755) 0 (B "../evil") 0o700) =
    ([⟨none, [], B "/a/root", 0o755⟩, ⟨some 0, B "../evil", B "/a/evil", 0o700⟩], 1) := by decide_paths
example : dhistory (newDirStructure (B "/a/root") 0o755)
    [.childDir 0 (B "../evil") 0o700, .ensure 1, .ensureRel 0 (B "evil/sub")] =
    [(B "/a/root", 0o755), (B "/a/root/evil", 0o755), (B "/a/root/evil/sub", 0o755)] := by decide_paths
example : dhistory (newDirStructure (B "/a/root") 0o755)
    [.childDir 0 (B "tmp") 0o700, .childDir 1 (B "sub") 0o750, .childDir 0 (B "tmp") 0o710, .ensureAbs 2 (B "/a/root/tmp/sub/k/m")] =
    [(B "/a/root", 0o755), (B "/a/root/tmp", 0o710), (B "/a/root/tmp/sub", 0o750), (B "/a/root/tmp/sub/k", 0o750), (B "/a/root/tmp/sub/k/m", 0o750)] := by decide_paths
example : ensureT (childDir (newDirStructure (B "/a/root") 0o755) 0 (B "../root-old") 0o700).1 1 = .error .outside := by decide_paths
example : ensureRelPathT (childDir (newDirStructure (B "/a/root") 0o755) 0 (B "x/../../evil") 0o700).1 1 (B "k") = .error .outside := by decide_paths
-- unpacking (#24): zip slip
example : unpackDst (B "/s/tmp/thing_v1-0-0") (B "../../../root-other/evil") = .error .insecure := by decide_paths
example : unpackDst (B "/s/tmp/thing_v1-0-0") (B "/abs") = .ok (B "/s/tmp/thing_v1-0-0/abs") := by decide_paths
example : unpackAll (B "/s/tmp/t") [B "ok.txt", B "d/", B "../x", B "later"] = ([B "/s/tmp/t/ok.txt", B "/s/tmp/t/d"], some .insecure) := by decide_paths
-- sequences of entries (seeded C18-r3-1: an in-scope directory entry, then a name that extends it textually and climbs out)
example : unpackLoop (osFresh (B "/s/tmp/t")) (B "/s/tmp/t") [] [⟨B "sub/", true⟩, ⟨B "sub/../../../../x", false⟩, ⟨B "later", false⟩] =
    ([.mkdir (B "/s/tmp/t/sub")], some .insecure) := by decide_paths
example : unpackLoop (osFresh (B "/s/tmp/t")) (B "/s/tmp/t") [] [⟨B "a/", true⟩, ⟨B "a/b/", true⟩, ⟨B "a/b/../../../../../dir/", true⟩] =
    ([.mkdir (B "/s/tmp/t/a"), .mkdir (B "/s/tmp/t/a/b")], some .insecure) := by decide_paths
example : unpackLoop (osFresh (B "/s/tmp/t")) (B "/s/tmp/t") [] [⟨B "sub", true⟩, ⟨B "sub/f", false⟩, ⟨B "sub/f", false⟩, ⟨B "sub/../g", false⟩] =
    ([.mkdir (B "/s/tmp/t/sub"), .create (B "/s/tmp/t/sub/f"), .create (B "/s/tmp/t/sub/f"), .create (B "/s/tmp/t/g")], none) := by decide_paths
example : unpackLoop (osFresh (B "/s/tmp/t")) (B "/s/tmp/t") [] [⟨B "f", false⟩, ⟨B "f/x", false⟩, ⟨B "../../x", false⟩] =
    ([.create (B "/s/tmp/t/f"), .create (B "/s/tmp/t/f/x")], some .copyFailed) := by decide_paths
example : unpackLoop (osFresh (B "/s/tmp/t")) (B "/s/tmp/t") [] [⟨B "d/", true⟩, ⟨B "d", true⟩] =
    ([.mkdir (B "/s/tmp/t/d"), .mkdir (B "/s/tmp/t/d")], some .copyFailed) := by decide_paths
-- the name alphabet (seeded C18-r3-3): backslashes, colons, look-alikes are bytes of one file name
example : unpackDst (B "/s/tmp/t") (B "..\\..\\..\\x") = .ok (B "/s/tmp/t/..\\..\\..\\x") := by decide_paths
example : unpackDst (B "/s/tmp/t") (B "sub/..\\..\\..\\..\\x") = .ok (B "/s/tmp/t/sub/..\\..\\..\\..\\x") := by decide_paths
example : unpackDst (B "/s/tmp/t") (B "..:..:x") = .ok (B "/s/tmp/t/..:..:x") := by decide_paths
example : unpackDst (B "/s/tmp/t") (B "%2e%2e/%2e%2e/x") = .ok (B "/s/tmp/t/%2e%2e/%2e%2e/x") := by decide_paths
example : unpackDst (B "/s/tmp/t") (B ".. /.. /x") = .ok (B "/s/tmp/t/.. /.. /x") := by decide_paths
example : unpackDst (B "/s/tmp/t") (B "..\\../../../x") = .error .insecure := by decide_paths
example : buildFilePath (B "/a/root") (B "..\\..\\x") true = .ok (B "/a/root/..\\..\\x") := by decide_paths
-- names built from the root's own absolute path (seeded C18-r3-2): a foreign tree that embeds the root's path
example : buildFilePath (B "/T/inside/db") (B "../../backup-inside-db/T/inside/db/victim") true = .error .integrity := by decide_paths
example : buildFilePath (B "/T/inside/db") (B "../../mirror/T/inside/db/") false = .error .integrity := by decide_paths
example : unpackDst (B "/s/tmp/t") (B "../../../mirror/s/tmp/t/x") = .error .insecure := by decide_paths
example : scanRoot (B "/s/storage") (B "/s") (B "/s/mirror/s/storage/x") = .error .outside := by decide_paths
example : scanRoot (B "/s/storage") (B "/s") (B "mirror/s/storage") = .error .outside := by decide_paths
example : ensureAbsPath (B "/a/root") (B "/a/mirror/a/root/x") = .error .outside := by decide_paths
example : ensureRelPath (B "/a/root") (B "../mirror/a/root/x") = .error .outside := by decide_paths
-- a sibling that differs from the root in letter case only (seeded C18-r5-1: scope comparison that folds case): a different directory
example : buildFilePath (B "/T/data/cache") (B "../Cache/sec") false = .error .integrity := by decide_paths
example : buildFilePath (B "/T/data/cache") (B "../Cache/sub/") false = .error .integrity := by decide_paths
example : buildFilePath (B "/T/data/cache") (B "../Cache") false = .error .integrity := by decide_paths
example : buildFilePath (B "/T/data/cache") (B "../Cache/secret") true = .error .integrity := by decide_paths
example : buildFilePath (B "/T/data/cache") (B "../cache/sec") false = .ok (B "/T/data/cache/sec") := by decide_paths
example : unpackDst (B "/s/tmp/t") (B "../../../S/evil") = .error .insecure := by decide_paths
example : scanRoot (B "/s/storage") (B "/s") (B "/s/Storage/sub") = .error .outside := by decide_paths
example : ensureAbsPath (B "/a/root") (B "/a/Root/sub/new") = .error .outside := by decide_paths
example : ensureRelPath (B "/a/root") (B "../Root/k") = .error .outside := by decide_paths
-- ScanStorage (#23): sibling sharing the name prefix, relative roots
example : scanRoot (B "/s/storage") (B "/s") (B "/s/storage-other") = .error .outside := by decide_paths
example : scanRoot (B "/s/storage") (B "/s") (B "storage-other/x") = .error .outside := by decide_paths
example : scanRoot (B "/s/storage") (B "/s") (B "storage/all/../pkg") = .ok (B "/s/storage/pkg") := by decide_paths
example : scanRoot (B "/s/storage") (B "/s") (B "") = .ok (B "/s/storage") := by decide_paths
-- api bridge
example : bridgeURL PB.Gen.Paths.apiV1Path (B "../v1x/ping") = .error .scope := by decide_paths
example : bridgeURL PB.Gen.Paths.apiV1Path (B "") = .error .scope := by decide_paths
example : bridgeURL PB.Gen.Paths.apiV1Path (B "core/../ping") = .ok (B "/api/v1/ping") := by decide_paths

end PB.C18
