import PBProofs.Lemmas.Modules
/-
C01 — Modules start after their dependencies, stop before them, and all get stopped.

Property theorems only (helper lemmas live in PBProofs/Lemmas/Modules.lean and ModulesClosure.lean).
They speak about every history `tr` of the manager model `PB.Modules.step` from a fresh registry
`init n deps mgmt`: any number `n` of modules, any dependency function, any interleaving of callback
begins/ends (`beg`/`fin`), any set of failing callbacks (`fin … false`), any sequence of Start /
ManageModules / Shutdown / Enable / Disable calls (also ManageModules before Start, Start and ManageModules
after Shutdown, repeated calls), with or without a global prep function, a global shutdown function and a
command-line operation (`setGlob`/`glob`). History vocabulary (`lifeOf`, `prepBegun`, `startsOk`, `Wanted`, `Acyclic` …) is defined in
PB/Spec/Modules.lean without reference to the manager's state.
-/
namespace PB.C01
open PB.Modules PB.Modules.Spec PB.Gen.Lifecycle

attribute [local simp] statusDead statusPreparing statusOffline statusStopping statusStarting statusOnline

/-! ### (a) A start routine begins only after every dependency has finished starting successfully -/

/-- Whenever the start routine of `m` begins, every dependency `d` of `m` is in run state 2: the last
    start/stop event of `d` in the history is "start finished successfully" (see `lifeOf_eq_two_iff`). -/
theorem start_after_deps (n : Nat) (deps : Nat → List Nat) (mgmt : Bool) (tr : List Ev) (s s' : St) (m : Nat)
    (hrun : run (init n deps mgmt) tr = some s) (hbeg : step s (.beg .start m) = some s') :
    ∀ d ∈ deps m, lifeOf tr d = 2 := by
  have hr := runs_of_run hrun
  have h1 := inv1_of_runs hr
  obtain ⟨⟨_, _, hready⟩, _⟩ := stepBeg_some hbeg
  intro d hd
  have hge := (readyToStart_ready.mp hready).2.2 d (by rw [h1.hdeps]; exact hd)
  have hle := h1.range d
  rw [(inv2_of_runs hr).life d, Nat.le_antisymm hle hge]
  rfl

/-! ### (b) A stop routine begins only after every started dependent has completely stopped -/

/-- Whenever the stop routine of `d` begins, every registered module `r` that depends on `d` is in run
    state 0: it was never started, its last start failed, or its stop routine has ended. -/
theorem stop_before_deps (n : Nat) (deps : Nat → List Nat) (mgmt : Bool) (tr : List Ev) (s s' : St) (d : Nat)
    (hrun : run (init n deps mgmt) tr = some s) (hbeg : step s (.beg .stop d) = some s') :
    ∀ r, r < n → d ∈ deps r → lifeOf tr r = 0 := by
  have hr := runs_of_run hrun
  have h1 := inv1_of_runs hr
  obtain ⟨⟨_, _, hready⟩, _⟩ := stepBeg_some hbeg
  intro r hrn hdr
  have hle := (readyToStop_ready.mp hready).2.2 r (by rw [h1.hn]; exact hrn) (by rw [h1.hdeps]; exact hdr)
  rw [(inv2_of_runs hr).life r, lifeCode_of_le hle]

/-- At every moment, every module that is starting, online or stopping has all its dependencies online. -/
theorem deps_online_while_started (n : Nat) (deps : Nat → List Nat) (mgmt : Bool) (tr : List Ev) (s : St)
    (hrun : run (init n deps mgmt) tr = some s) (m : Nat) (hm : m < n) (hup : statusOffline < s.status m) :
    ∀ d ∈ deps m, s.status d = statusOnline := by
  have h1 := inv1_of_runs (runs_of_run hrun)
  intro d hd
  exact h1.deps_on m (by rw [h1.hn]; exact hm) hup d (by rw [h1.hdeps]; exact hd)

/-! ### (c) Prep runs once per module, after the prep of its dependencies, before any start -/

/-- When the prep routine of `m` begins it has never begun before, the prep of every dependency has
    finished successfully, and no start routine has begun yet. -/
theorem prep_once_and_ordered (n : Nat) (deps : Nat → List Nat) (mgmt : Bool) (tr : List Ev) (s s' : St) (m : Nat)
    (hrun : run (init n deps mgmt) tr = some s) (hbeg : step s (.beg .prep m) = some s') :
    prepBegun tr m = 0 ∧ (∀ d ∈ deps m, prepOk tr d) ∧ ¬ startBegun tr := by
  have hr := runs_of_run hrun
  have h1 := inv1_of_runs hr
  have h2 := inv2_of_runs hr
  obtain ⟨⟨_, hk, hready⟩, _⟩ := stepBeg_some hbeg
  obtain ⟨hdead, hdeps⟩ := readyToPrep_ready.mp hready
  refine ⟨(h2.prep0 m).mpr hdead, fun d hd => h2.prepok d (hdeps d (by rw [h1.hdeps]; exact hd)), fun hs => ?_⟩
  exact (h2.nostart hs).2.1 ((passKind_prep hk).mpr rfl)

/-- In every history the prep routine of a module begins at most once. -/
theorem prep_at_most_once (n : Nat) (deps : Nat → List Nat) (mgmt : Bool) (tr : List Ev) (s : St)
    (hrun : run (init n deps mgmt) tr = some s) (m : Nat) : prepBegun tr m ≤ 1 :=
  (inv2_of_runs (runs_of_run hrun)).prep1 m

/-- When any start routine begins, the module's own prep has finished successfully and no prep routine
    of any module is still running. -/
theorem start_after_all_prep (n : Nat) (deps : Nat → List Nat) (mgmt : Bool) (tr : List Ev) (s s' : St) (x : Nat)
    (hrun : run (init n deps mgmt) tr = some s) (hbeg : step s (.beg .start x) = some s') :
    prepOk tr x ∧ ∀ m, prepBegun tr m = prepEnded tr m := by
  have h2 := inv2_of_runs (runs_of_run hrun)
  obtain ⟨⟨_, hk, hready⟩, _⟩ := stepBeg_some hbeg
  refine ⟨h2.prepok x (by rw [(readyToStart_ready.mp hready).2.1]; simp), fun m => ?_⟩
  have hne : s.pc ≠ .prep := by intro hp; simp [hp, passKind] at hk
  simpa [hne] using h2.popen m

/-! ### (d) After Start or a management pass returned nil, exactly the wanted modules are online -/

/-- Start returned nil ⇒ a registered module is online iff it is wanted: every module, or with module
    management the enabled modules and their transitive dependencies. -/
theorem start_ok_wanted_online (n : Nat) (deps : Nat → List Nat) (mgmt : Bool) (hac : Acyclic n deps)
    (tr : List Ev) (s s' : St)
    (hrun : run (init n deps mgmt) tr = some s) (hret : step s (.ret .start true) = some s') :
    ∀ m, m < n → (s.status m = statusOnline ↔ Wanted deps mgmt (enabledOf tr) m) := by
  obtain ⟨hreg, rank, hrank⟩ := hac
  have hr := runs_of_run hrun
  have h1 := inv1_of_runs hr
  have h2 := inv2_of_runs hr
  have h3 := inv3_of_runs hreg rank hrank hr
  obtain ⟨hpc, _⟩ := stepRet_some hret
  intro m hm
  rw [h3.okS (Or.inl hpc) m (by rw [h1.hn]; exact hm)]
  have hlk : s.locked = true := h1.pass_locked (by simp [inStart, hpc])
  exact wanted_iff_spec h1 h2 (h3.asdep (Or.inr (Or.inr (Or.inr (Or.inl hpc)))) hlk) m

/-- A management pass (ManageModules with module management enabled) returned nil ⇒ a registered module
    is online iff it is enabled or a transitive dependency of an enabled module. This includes a
    ManageModules call before Start (it can only return nil when no module is enabled: nothing is online and
    nothing is wanted) and after Shutdown. -/
theorem manage_ok_wanted_online (n : Nat) (deps : Nat → List Nat) (hac : Acyclic n deps)
    (tr : List Ev) (s s' : St)
    (hrun : run (init n deps true) tr = some s) (hret : step s (.ret .manage true) = some s') :
    ∀ m, m < n → (s.status m = statusOnline ↔ Wanted deps true (enabledOf tr) m) := by
  obtain ⟨hreg, rank, hrank⟩ := hac
  have hr := runs_of_run hrun
  have h1 := inv1_of_runs hr
  have h2 := inv2_of_runs hr
  have h3 := inv3_of_runs hreg rank hrank hr
  obtain ⟨hpc, _⟩ := stepRet_some hret
  have hokS := h3.okS (Or.inr ⟨hpc, h1.hmgmt⟩)
  intro m hm
  cases hlk : s.locked
  · -- before Start: every module is Dead, so (by the start pass's verdict) none is enabled
    have hdead := h1.fresh (Or.inl hlk)
    have hnoen : ∀ x, enabledOf tr x = false := by
      intro x
      rw [← h2.en]
      cases hx : s.enabled x
      · rfl
      · have := (hokS x (h2.en_lt x hx)).mpr (by simp [wanted, hx])
        simp [hdead x] at this
    simp [hdead m, Wanted, hnoen]
  · rw [hokS m (by rw [h1.hn]; exact hm)]
    exact wanted_iff_spec h1 h2 (h3.asdep (Or.inr (Or.inr (Or.inr (Or.inr ⟨hpc, h1.hmgmt⟩)))) hlk) m

/-- `buildEnabledTree` marks exactly the transitive dependencies of the enabled modules. -/
theorem enabled_tree_is_transitive_closure (s : St) (hreg : ∀ m, m < s.n → ∀ d ∈ s.deps m, d < s.n) (m : Nat) :
    (buildEnabledTree s).asDep m = true ↔ ∃ e, e < s.n ∧ s.enabled e = true ∧ TransDep s.deps e m :=
  buildEnabledTree_spec hreg m

/-! ### (e) When Shutdown returns everything is stopped — whatever failed before -/

/-- Shutdown returned (with or without error) ⇒ no module is online, every module's stop routine was
    invoked exactly once per successful run of its start routine, and no callback is still running. No
    hypothesis about failures: prep, start and stop routines may have failed in any combination before.
    The history is one the property quantifies over: Shutdown is final (`ShutdownFinal`: no Start or
    ManageModules call follows a Shutdown call — the code does not refuse them, see
    `shutdown_not_final_witness`). -/
theorem shutdown_stops_everything (n : Nat) (deps : Nat → List Nat) (mgmt : Bool) (hac : Acyclic n deps)
    (tr : List Ev) (s s' : St) (ok : Bool) (hdom : ShutdownFinal tr)
    (hrun : run (init n deps mgmt) tr = some s) (hret : step s (.ret .shutdown ok) = some s') :
    (∀ m, s.status m ≠ statusOnline) ∧ (∀ m, stopsBegun tr m = startsOk tr m) ∧ begun tr = ended tr := by
  obtain ⟨hreg, rank, hrank⟩ := hac
  have hr := runs_of_run hrun
  have h1 := inv1_of_runs hr
  have h2 := inv2_of_runs hr
  obtain ⟨hpc, _⟩ := stepRet_some hret
  have hoff := ((inv3_of_runs hreg rank hrank hr).down hdom (h1.sd_set (by simp [inShutdown, hpc]))).off
    (by simp [hpc]) (by simp [hpc])
  exact ⟨hoff, h2.stops_eq_starts hoff, h2.begun_eq_ended (h1.idle_run (by simp [hpc, passKind]))⟩

/-- The Shutdown call that does the work (the first one: it returns from the stop pass, any later one
    returns "shutdown already initiated") stops everything in EVERY history, whatever was called before:
    the state reached by the `passEnd` of Shutdown's stop pass has no module online. -/
theorem effective_shutdown_stops_everything (n : Nat) (deps : Nat → List Nat) (mgmt : Bool) (hac : Acyclic n deps)
    (tr : List Ev) (s s' : St)
    (hrun : run (init n deps mgmt) tr = some s) (hpc : s.pc = .stopX) (hend : step s .passEnd = some s') :
    (∀ m, s'.status m ≠ statusOnline) ∧ (∀ m, stopsBegun tr m = startsOk tr m) ∧ begun tr = ended tr ∧
    ∃ ok, s'.pc = .done .shutdown ok := by
  obtain ⟨hreg, rank, hrank⟩ := hac
  have hr := runs_of_run hrun
  have h1 := inv1_of_runs hr
  have h2 := inv2_of_runs hr
  obtain ⟨hc, h⟩ := stepPassEnd_some hend
  have hrun0 : s.running = [] := List.eq_nil_of_length_eq_zero (by have := h1.cnt; omega)
  simp only [hpc, reduceCtorEq, false_and, false_or, true_and] at h
  obtain ⟨hnr, ok, rfl⟩ := h
  have hoff := shutdown_fixpoint h1 rank (by rw [h1.hn, h1.hdeps]; exact hrank) hpc hrun0 hnr
  exact ⟨hoff, h2.stops_eq_starts hoff, h2.begun_eq_ended hrun0, ok, rfl⟩

/-- And it stays that way: at every later point of a history in which Shutdown is final no module is online
    and the counts match. -/
theorem nothing_online_after_shutdown (n : Nat) (deps : Nat → List Nat) (mgmt : Bool) (hac : Acyclic n deps)
    (tr : List Ev) (s : St) (ok : Bool) (hdom : ShutdownFinal tr)
    (hrun : run (init n deps mgmt) tr = some s) (hsd : Ev.ret .shutdown ok ∈ tr) :
    (∀ m, s.status m ≠ statusOnline) ∧ (∀ m, stopsBegun tr m = startsOk tr m) := by
  obtain ⟨hreg, rank, hrank⟩ := hac
  have hr := runs_of_run hrun
  have h2 := inv2_of_runs hr
  obtain ⟨hflag, hpc⟩ := h2.after_sd ⟨ok, hsd⟩
  have hoff := ((inv3_of_runs hreg rank hrank hr).down hdom hflag).off (fun h => hpc (.inl h)) (fun h => hpc (.inr h))
  exact ⟨hoff, h2.stops_eq_starts hoff⟩

/-- `ShutdownFinal` cannot be dropped: the code refuses neither a first Start after Shutdown nor a
    ManageModules after Shutdown. Witness: Shutdown, then Start (one module), then Shutdown again — the second
    Shutdown returns "shutdown already initiated" while the module is online. -/
theorem shutdown_not_final_witness :
    ∃ (tr : List Ev) (s s' : St), run (init 1 (fun _ => []) false) tr = some s ∧
      step s (.ret .shutdown false) = some s' ∧ s.status 0 = statusOnline ∧ ¬ ShutdownFinal tr := by
  let tr : List Ev := [.call .shutdown, .passEnd, .ret .shutdown true, .call .start, .beg .prep 0, .fin .prep 0 true, .passEnd,
    .beg .start 0, .fin .start 0 true, .passEnd, .ret .start true, .call .shutdown]
  have h1 : ((run (init 1 (fun _ => []) false) tr).map (fun x => (x.pc, x.status 0))) =
      some (.done .shutdown false, statusOnline) := by decide
  match hs : run (init 1 (fun _ => []) false) tr with
  | none => simp [hs] at h1
  | some s =>
    simp [hs] at h1
    refine ⟨tr, s, { s with pc := .idle }, hs, by simp [step, stepRet, h1.1], h1.2, ?_⟩
    intro hf
    have := (hf [] _ rfl).1
    simp at this

/-- Whenever Start, ManageModules or Shutdown returns — with or without error — every callback that has
    begun has ended: nothing keeps starting or stopping behind the caller's back. -/
theorem no_callback_running_when_call_returns (n : Nat) (deps : Nat → List Nat) (mgmt : Bool)
    (tr : List Ev) (s s' : St) (a : Api) (ok : Bool)
    (hrun : run (init n deps mgmt) tr = some s) (hret : step s (.ret a ok) = some s') :
    begun tr = ended tr ∧ ∀ m, s.status m ≠ statusStarting ∧ s.status m ≠ statusStopping := by
  have hr := runs_of_run hrun
  have h1 := inv1_of_runs hr
  obtain ⟨hpc, _⟩ := stepRet_some hret
  have hrun0 : s.running = [] := h1.idle_run (by simp [hpc, passKind])
  refine ⟨(inv2_of_runs hr).begun_eq_ended hrun0, fun m => ?_⟩
  have := h1.busy_run m
  simp only [hrun0, List.not_mem_nil, imp_false, not_or] at this
  exact this

/-! ### (f) What the manager is told about a routine is what the routine did -/

/-- The result path from `fn()` to the manager's `rep.err != nil` (regenerated from `startCtrlFn`,
    `runCtrlFnWithTimeout`, `Module.prep/start/stopAllTasks` and the three manager loops: the error value is
    handed on unchanged and only compared with nil; the deferred panic handler replaces it): the manager sees
    a failure exactly when the routine returned a non-nil error — whatever value — or panicked. The `ok` of
    `fin k m ok`, which the acceptor computes with `ctrlFailureSeen`, is therefore the routine's real outcome. -/
theorem ctrl_failure_is_seen (returnedErr panicked : Bool) :
    ctrlFailureSeen returnedErr panicked = (returnedErr || panicked) := by
  cases returnedErr <;> cases panicked <;> rfl

/-! ### (g) The process-wide functions around the module routines, and calls outside Start … Shutdown -/

/-- Before Start is called nothing ever runs: a ManageModules (or Shutdown) call before Start begins no
    routine of any module. -/
theorem nothing_begins_before_start (n : Nat) (deps : Nat → List Nat) (mgmt : Bool) (tr : List Ev) (s : St)
    (hrun : run (init n deps mgmt) tr = some s) (hns : Ev.call .start ∉ tr) :
    begun tr = 0 ∧ ∀ m, s.status m = statusDead := by
  have hr := runs_of_run hrun
  have hl : s.locked = false := by
    cases h : s.locked
    · rfl
    · exact absurd ((inv2_of_runs hr).lock_called h) hns
  exact ⟨(inv2_of_runs hr).fresh0 (Or.inl hl), (inv1_of_runs hr).fresh (Or.inl hl)⟩

/-- The global prep function runs before everything else: when it runs, no routine of any module has begun;
    if it returns an error, Start returns an error right away. -/
theorem global_prep_runs_first (n : Nat) (deps : Nat → List Nat) (mgmt : Bool) (tr : List Ev) (s s' : St) (i : Nat) (ok : Bool)
    (hrun : run (init n deps mgmt) tr = some s) (hg : step s (.glob .prep i ok) = some s') :
    begun tr = 0 ∧ (ok = false → s'.pc = .done .start false) ∧ (ok = true → s'.pc = .prep) := by
  obtain ⟨⟨hpc, _⟩, rfl⟩ := stepGlob_some hg
  refine ⟨(inv2_of_runs (runs_of_run hrun)).fresh0 (Or.inr hpc), ?_, ?_⟩ <;> rintro rfl <;> rfl

/-- If the global prep function failed, nothing ever runs — not in this Start and not in any later call:
    every module stays Dead and no routine can begin. -/
theorem global_prep_failure_nothing_runs (n : Nat) (deps : Nat → List Nat) (mgmt : Bool) (tr : List Ev) (s : St) (i : Nat)
    (hrun : run (init n deps mgmt) tr = some s) (hf : Ev.glob .prep i false ∈ tr) :
    (∀ m, s.status m = statusDead) ∧ ∀ k m, step s (.beg k m) = none := by
  obtain ⟨hd, _, hp⟩ := (inv2_of_runs (runs_of_run hrun)).gfail ⟨i, hf⟩
  exact ⟨hd, no_beg_of_dead hd hp⟩

/-- The global shutdown function runs first: nothing is running when it is called, and the stop pass of
    Shutdown begins after it. -/
theorem global_shutdown_runs_first (n : Nat) (deps : Nat → List Nat) (mgmt : Bool) (tr : List Ev) (s s' : St) (i : Nat) (ok : Bool)
    (hrun : run (init n deps mgmt) tr = some s) (hg : step s (.glob .shutdown i ok) = some s') :
    begun tr = ended tr ∧ s'.pc = .stopX ∧ s'.execCnt = 0 := by
  have hr := runs_of_run hrun
  obtain ⟨⟨hpc, _⟩, rfl⟩ := stepGlob_some hg
  exact ⟨(inv2_of_runs hr).begun_eq_ended ((inv1_of_runs hr).idle_run (by simp [hpc, passKind])), rfl, rfl⟩

/-- A command-line operation runs after every module is prepared and instead of starting them: no start
    routine has begun, no prep routine is running, and Start returns an error (ErrCleanExit) whatever the
    operation returned. -/
theorem cmdline_operation_ends_start (n : Nat) (deps : Nat → List Nat) (mgmt : Bool) (tr : List Ev) (s s' : St) (i : Nat) (ok : Bool)
    (hrun : run (init n deps mgmt) tr = some s) (hg : step s (.glob .cmd i ok) = some s') :
    ¬ startBegun tr ∧ (∀ m, prepBegun tr m = prepEnded tr m) ∧ s'.pc = .done .start false := by
  have h2 := inv2_of_runs (runs_of_run hrun)
  obtain ⟨⟨hpc, _⟩, rfl⟩ := stepGlob_some hg
  exact ⟨fun hs => (h2.nostart hs).2.2 hpc, fun m => by simpa [hpc] using h2.popen m, by cases ok <;> rfl⟩

/-- `SetGlobalPrepFn` / `SetGlobalShutdownFn` keep the first function they were given, `SetCmdLineOperation`
    the last. -/
theorem setGlob_keeps (s s' : St) (g : Glob) (i : Nat) (h : step s (.setGlob g i) = some s') :
    (g ≠ .cmd → ∀ j, s.gfn g = some j → s'.gfn g = some j) ∧ (g ≠ .cmd → s.gfn g = none → s'.gfn g = some i) ∧
    (g = .cmd → s'.gfn g = some i) := by
  simp only [step, stepSetGlob] at h
  split at h; · cases h
  cases g <;> simp only at h
  · cases hg : s.gfn .prep <;> simp [hg] at h <;> subst h <;> simp [hg]
  · cases hg : s.gfn .shutdown <;> simp [hg] at h <;> subst h <;> simp [hg]
  · cases h; simp

/-! ### What the run states of (a) and (b) mean, in terms of events only -/

/-- Run state 2 ("finished starting successfully"): the last start/stop event of `d` in the history is
    the successful end of its start routine. -/
theorem lifeOf_eq_two_iff (tr : List Ev) (d : Nat) :
    lifeOf tr d = 2 ↔ lastTouch d tr = some (.fin .start d true) := by
  rw [lifeOf_eq_lastTouch]
  cases h : lastTouch d tr with
  | none => simp
  | some e =>
    rcases touches_cases (lastTouch_touches h) with rfl | rfl | rfl | rfl | ⟨ok, rfl⟩ <;> simp [lifeCodeOf]

/-- Run state 0 ("not started or completely stopped"): `r` has no start/stop event at all, or the last
    one is a failed start or the end of its stop routine. -/
theorem lifeOf_eq_zero_iff (tr : List Ev) (r : Nat) :
    lifeOf tr r = 0 ↔ lastTouch r tr = none ∨ lastTouch r tr = some (.fin .start r false) ∨
      ∃ ok, lastTouch r tr = some (.fin .stop r ok) := by
  rw [lifeOf_eq_lastTouch]
  cases h : lastTouch r tr with
  | none => simp
  | some e =>
    rcases touches_cases (lastTouch_touches h) with rfl | rfl | rfl | rfl | ⟨ok, rfl⟩ <;> simp [lifeCodeOf]

/-! ### Non-vacuity: concrete histories that the model runs, meeting the hypotheses above -/

example : Acyclic 4 diamond := ⟨by decide, id, by decide⟩

/-- Start with overlapping callbacks (1 and 2 start and stop concurrently, a stop fails), then Shutdown. -/
example : (run (init 4 diamond false) diamondHistory).isSome = true := by decide

/-- the same graph: 3's start would begin before its dependency 2 is online — not a run of the model -/
example : (run (init 4 diamond false)
    [.call .start, .beg .prep 0, .fin .prep 0 true, .beg .prep 2, .beg .prep 1, .fin .prep 1 true, .fin .prep 2 true,
     .beg .prep 3, .fin .prep 3 true, .passEnd,
     .beg .start 0, .fin .start 0 true, .beg .start 1, .beg .start 2, .fin .start 1 true, .beg .start 3]).isSome = false := by
  decide

/-- "B depends on A, B fails to start, Shutdown": Start returns an error only after everything it launched
    has reported, B is back in Offline, and Shutdown stops A. -/
example : (run (init 2 (fun m => if m = 1 then [0] else []) false)
    [.call .start, .beg .prep 0, .fin .prep 0 true, .beg .prep 1, .fin .prep 1 true, .passEnd,
     .beg .start 0, .fin .start 0 true, .beg .start 1, .fin .start 1 false, .passEnd, .ret .start false,
     .call .shutdown, .beg .stop 0, .fin .stop 0 true, .passEnd, .ret .shutdown true]).isSome = true := by
  decide

/-- … and Shutdown cannot return while A is still online. -/
example : (run (init 2 (fun m => if m = 1 then [0] else []) false)
    [.call .start, .beg .prep 0, .fin .prep 0 true, .beg .prep 1, .fin .prep 1 true, .passEnd,
     .beg .start 0, .fin .start 0 true, .beg .start 1, .fin .start 1 false, .passEnd, .ret .start false,
     .call .shutdown, .passEnd]).isSome = false := by
  decide

/-- Module management: only 2 is enabled, so 2 and its dependency 0 start; then 3 is enabled and a
    management pass brings up 1 and 3; disabling everything stops all four in order. -/
example : (run (init 4 diamond true)
    [.enable 2, .call .start,
     .beg .prep 0, .fin .prep 0 true, .beg .prep 1, .fin .prep 1 true, .beg .prep 2, .fin .prep 2 true,
     .beg .prep 3, .fin .prep 3 true, .passEnd,
     .beg .start 0, .fin .start 0 true, .beg .start 2, .fin .start 2 true, .passEnd, .ret .start true,
     .enable 3, .call .manage, .passEnd, .beg .start 1, .fin .start 1 true, .beg .start 3, .fin .start 3 true,
     .passEnd, .ret .manage true,
     .disable 2, .disable 3, .call .manage, .beg .stop 3, .fin .stop 3 true, .beg .stop 1, .beg .stop 2,
     .fin .stop 2 true, .fin .stop 1 true, .beg .stop 0, .fin .stop 0 true, .passEnd, .passEnd, .ret .manage true]).isSome = true := by
  decide

/-- A global prep function (number 7; a second one, 8, is set later and ignored), a global shutdown function
    and the run: global prep, prep pass, start pass; Shutdown runs the global shutdown function, then stops. -/
example : (run (init 2 (fun m => if m = 1 then [0] else []) false)
    [.setGlob .prep 7, .setGlob .prep 8, .setGlob .shutdown 3, .call .start, .glob .prep 7 true,
     .beg .prep 0, .fin .prep 0 true, .beg .prep 1, .fin .prep 1 true, .passEnd,
     .beg .start 0, .fin .start 0 true, .beg .start 1, .fin .start 1 true, .passEnd, .ret .start true,
     .call .shutdown, .glob .shutdown 3 true, .beg .stop 1, .fin .stop 1 true, .beg .stop 0, .fin .stop 0 true, .passEnd,
     .ret .shutdown true]).isSome = true := by
  decide

/-- … the ignored second global prep function cannot be the one that runs -/
example : (run (init 2 (fun m => if m = 1 then [0] else []) false)
    [.setGlob .prep 7, .setGlob .prep 8, .call .start, .glob .prep 8 true]).isSome = false := by
  decide

/-- A failing global prep function: Start returns an error, a later management pass cannot start anything
    (the enabled module is unprepared: error), Shutdown has nothing to stop. -/
example : (run (init 2 (fun m => if m = 1 then [0] else []) true)
    [.setGlob .prep 1, .enable 1, .call .start, .glob .prep 1 false, .ret .start false,
     .call .manage, .passEnd, .passEnd, .ret .manage false, .call .shutdown, .passEnd, .ret .shutdown true]).isSome = true := by
  decide

/-- A command-line operation: every module is prepared, the operation runs, Start returns an error, nothing
    was started; the operation set last is the one that runs. -/
example : (run (init 2 (fun m => if m = 1 then [0] else []) false)
    [.setGlob .cmd 4, .setGlob .cmd 5, .call .start, .beg .prep 0, .fin .prep 0 true, .beg .prep 1, .fin .prep 1 true, .passEnd,
     .glob .cmd 5 true, .ret .start false, .call .shutdown, .passEnd, .ret .shutdown true]).isSome = true := by
  decide

/-- ManageModules before Start: with an enabled module it returns an error (the module is unprepared), with
    none it returns nil; nothing runs either way. Then Start works as usual. -/
example : (run (init 2 (fun m => if m = 1 then [0] else []) true)
    [.call .manage, .passEnd, .passEnd, .ret .manage true,
     .enable 1, .call .manage, .passEnd, .passEnd, .ret .manage false,
     .call .start, .beg .prep 0, .fin .prep 0 true, .beg .prep 1, .fin .prep 1 true, .passEnd,
     .beg .start 0, .fin .start 0 true, .beg .start 1, .fin .start 1 true, .passEnd, .ret .start true]).isSome = true := by
  decide

/-- ManageModules after Shutdown (the code does not refuse it): the enabled modules are started again. -/
example : (run (init 2 (fun m => if m = 1 then [0] else []) true)
    [.enable 1, .call .start, .beg .prep 0, .fin .prep 0 true, .beg .prep 1, .fin .prep 1 true, .passEnd,
     .beg .start 0, .fin .start 0 true, .beg .start 1, .fin .start 1 true, .passEnd, .ret .start true,
     .call .shutdown, .beg .stop 1, .fin .stop 1 true, .beg .stop 0, .fin .stop 0 true, .passEnd, .ret .shutdown true,
     .call .manage, .passEnd, .beg .start 0, .fin .start 0 true, .beg .start 1, .fin .start 1 true, .passEnd,
     .ret .manage true]).isSome = true := by
  decide

/-- The domain predicate holds for the ordinary history (`shutdown_not_final_witness` has one for which it fails). -/
example : ShutdownFinal [Ev.call .start, .ret .start true, .call .manage, .ret .manage true, .call .shutdown, .ret .shutdown true,
    .call .shutdown, .ret .shutdown false] := by
  simp [shutdownFinal_cons, shutdownFinal_nil]

end PB.C01
