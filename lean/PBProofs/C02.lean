import PB.Model.Db
import PB.Model.Iter
import PB.Spec.KVStore
import PBProofs.Lemmas.Db
import PBProofs.Lemmas.DbSim
import PBProofs.Lemmas.DbDelay
import PBProofs.Lemmas.DbSrc
import PBProofs.Lemmas.DbKey
import PBProofs.Lemmas.DbNum
import PB.Gen.DbAcc
import PB.Gen.DbTime
import PB.Gen.MetaSrc
import PB.Gen.DbKey
import PB.Gen.DbIter
import PBProofs.Lemmas.IterHandOver
/-
C02 — Every database backend behaves like one reference key-to-record store.
Property theorems only (helper lemmas: PBProofs/Lemmas/Db*.lean, IterHandOver.lean).
-/
namespace PB.C02
open PB.Db PB.KV

/-! ### Refinement: interface + cache + controller + storage ⊑ plain key-to-record map -/

/-- For every backend, delete mode (shadow / immediate), interface options, with no cache or an exclusively used
    read cache under ANY replacement policy (`evict` steps may occur anywhere in the history, maintenance may
    skip any set of records), every finite history of get / exists / put / put-new / delete / expiry and flag
    setters / query / maintenance / clear (and batch-put, purge, attribute insert on an uncached interface)
    at non-decreasing times yields the results of the reference map. -/
theorem refines (cfg : Cfg) (o : Opts) (hd : o.cache ≠ .delay) (ops : List (Op × Int))
    (ht : wellTimed 0 ops) (hsafe : ∀ x ∈ ops, cacheSafe o x.1) :
    outsEq cfg.backend (Db.run cfg o {} ops) (KV.run cfg o [] ops) :=
  run_sim hd ops 0 {} [] (Sim.init cfg o 0) ht hsafe

/-- One step, from any related pair of states (the inductive core of `refines`). -/
theorem refines_step (cfg : Cfg) (o : Opts) (hd : o.cache ≠ .delay) (now : Int) (hpos : 0 < now)
    (st : ISt) (m : Store) (hs : Sim cfg o now st m) (op : Op) (hsafe : cacheSafe o op) :
    Sim cfg o now (Db.step cfg o st op now).1 (KV.step cfg o m op now).1 ∧
    outEq cfg.backend (Db.step cfg o st op now).2 (KV.step cfg o m op now).2 :=
  step_sim hs hpos hd op hsafe

/-- The full statement — batch-put and purge through a cached interface included — is false on the code:
    `PutMany` (and `Purge`) write behind the interface's own cache. Recorded finding
    C02:cache-not-invalidated-by-putmany / -by-purge. -/
theorem refines_with_batch_behind_cache_REFUTED :
    ¬ (∀ (cfg : Cfg) (o : Opts) (ops : List (Op × Int)), o.cache ≠ .delay → wellTimed 0 ops →
        outsEq cfg.backend (Db.run cfg o {} ops) (KV.run cfg o [] ops)) := by
  intro h
  have := h { backend := .bbolt, shadow := false } { cache := .read }
    [(.put { key := "k", fields := [("S", .prim (.str "old"))] }, 10), (.get "k", 10),
     (.putMany [{ key := "k", fields := [("S", .prim (.str "new"))] }], 10), (.get "k", 10)]
    (by decide) (by simp [wellTimed])
  revert this
  decide

/-! ### The clock comparisons of the source are the ones the theorems are about

`PB.Gen.MetaSrc` (record.Meta methods, translated by golean.go) and `PB.Gen.DbTime` (decision switch of
`MaintainRecordStates` per backend) are regenerated from /repo on every run. The model's `maintainRec` is
defined over `PB.Gen.DbTime`; the statements below are about those generated functions, so an operator that
changes in the source is re-checked here. -/

/-- `Meta.CheckValidity` as it stands in the source is the model's notion of "visible". -/
theorem source_checkValidity_is_model (m : Meta) (now : Int) :
    PB.Gen.MetaSrc.Meta_CheckValidity (srcMeta m) now = .ok (m.valid now) := by
  unfold PB.Gen.MetaSrc.Meta_CheckValidity Meta.valid srcMeta
  by_cases hd : m.deleted > 0
  · simp [hd]
  · by_cases he : m.expires > 0 ∧ m.expires < now
    · simp [hd, he]
    · simp only [hd, he, decide_false, if_false, Bool.false_eq_true]
      by_cases h1 : m.expires > 0 <;> by_cases h2 : m.expires < now <;> simp_all

/-- `Meta.IsDeleted`, `SetAbsoluteExpiry`, `Reset`, `Delete` of the source are the model's. -/
theorem source_meta_setters_are_model (m : Meta) (now s : Int) :
    PB.Gen.MetaSrc.Meta_IsDeleted (srcMeta m) now = .ok m.isDeleted ∧
    PB.Gen.MetaSrc.Meta_SetAbsoluteExpiry (srcMeta m) now s = .ok (srcMeta (m.setAbsoluteExpiry s)) ∧
    PB.Gen.MetaSrc.Meta_Reset (srcMeta m) now = .ok (srcMeta m.reset) ∧
    PB.Gen.MetaSrc.Meta_Delete (srcMeta m) now = .ok (srcMeta (m.delete now)) := by
  refine ⟨?_, ?_, ?_, ?_⟩ <;>
    simp [PB.Gen.MetaSrc.Meta_IsDeleted, PB.Gen.MetaSrc.Meta_SetAbsoluteExpiry, PB.Gen.MetaSrc.Meta_Reset,
      PB.Gen.MetaSrc.Meta_Delete, srcMeta, Meta.isDeleted, Meta.setAbsoluteExpiry, Meta.reset, Meta.delete]

/-- `Meta.Update` and `SetRelativateExpiry` of the source are the model's for every time and duration in `int64`
    range (Go wraps around outside it; the model's integers do not). -/
theorem source_meta_update_is_model (m : Meta) (now s : Int)
    (hnow : -(2 : Int) ^ 62 ≤ now ∧ now < (2 : Int) ^ 62) (hdel : -(2 : Int) ^ 62 ≤ m.deleted ∧ m.deleted < (2 : Int) ^ 62)
    (hs : -(2 : Int) ^ 62 ≤ s ∧ s < (2 : Int) ^ 62) :
    PB.Gen.MetaSrc.Meta_Update (srcMeta m) now = .ok (srcMeta (m.update now)) ∧
    PB.Gen.MetaSrc.Meta_SetRelativateExpiry (srcMeta m) now s = .ok (srcMeta (m.setRelativeExpiry s)) := by
  have w1 : PB.Go.wrapI64 (now - m.deleted) = now - m.deleted := wrapI64_inRange _ (by omega) (by omega)
  have w2 : PB.Go.wrapI64 (-s) = -s := wrapI64_inRange _ (by omega) (by omega)
  constructor
  · unfold PB.Gen.MetaSrc.Meta_Update Meta.update srcMeta
    by_cases hc : m.created = 0 <;> by_cases hd : m.deleted < 0 <;> simp [hc, hd, w1]
  · unfold PB.Gen.MetaSrc.Meta_SetRelativateExpiry Meta.setRelativeExpiry srcMeta
    by_cases h : s ≥ 0 <;> simp [h, w2]

/-- The decision switch of `MaintainRecordStates` in the source of every backend: what its first case marks
    (shadow delete) or hands to the removal was already rejected by `CheckValidity` at that very second, and is
    marked with a deletion stamp; what its second case removes is marked deleted. Holds for every `now`,
    including the second in which `now = Expires`. `maintenance_invisible` and the two theorems after it rest on
    exactly this. -/
theorem source_maintenance_switch_touches_only_dead (b : Backend) (m : Meta) (now thr : Int) (sh : Bool) :
    (b.expiredCase m now thr sh = true → m.valid now = false ∧ b.expiredMark m now thr > 0) ∧
    (b.removeCase m now thr sh = true → m.deleted > 0 ∧ m.valid now = false) :=
  ⟨Backend.expiredCase_dead b m now thr sh,
   fun h => ⟨Backend.removeCase_dead b m now thr sh h, Meta.deleted_invalid (Backend.removeCase_dead b m now thr sh h)⟩⟩

/-- Every read path that decides visibility on its own consults `CheckValidity` (controller get / get-meta, the
    four query executors, bbolt purge, the runtime registry's query): at least one guard per function in the
    source of this run. -/
theorem source_read_paths_check_validity : ∀ p ∈ PB.Gen.DbTime.validityGuards, p.2 ≥ 1 := by decide

/-! ### Keys are opaque strings

The model's operations take the database key as it is. In the code every interface operation
(`Interface.getRecord` / `getMeta`), `record.Base.SetKey`, `record.NewWrapper` and `query.New` first split
`"<database>:<key>"` with `record.ParseKey`. `PB.Gen.DbKey.ParseKey` is that function translated from the
source on every run (harness/cmd/extract/dbkey.go, semantics of `strings.SplitN / Split / Join` in
`PB.GoStr`); the statements below say that the split hands the model exactly the key the caller named —
whatever characters it contains, further colons included. -/

/-- `ParseKey("<db>:<key>") = (db, key)` for EVERY key (database names have no colon): the part behind the first
    colon is the database key, unchanged. -/
theorem source_parseKey_keeps_whole_key (db key : List Char) (h : ':' ∉ db) :
    PB.Gen.DbKey.ParseKey (db ++ ':' :: key) = .ok (db, key) := by
  open PB.GoStr in
  -- one alternative per shape the regenerated `ParseKey` may have: `strings.SplitN(key, ":", 2)` (the source as
  -- written; one cut after `db`, the two-element list evaluates), or `strings.Split(key, ":")` with
  -- `Join(splitted[1:], ":")` (cut at every colon; joining the pieces gives the key back, `join_splitK`)
  first
  | (simp [PB.Gen.DbKey.ParseKey, splitN, splitK, cut_colon_append db key h, len, inIdx, strAt, inSlice, slice, join]; done)
  | (have e : split (db ++ ':' :: key) [':'] = db :: splitK [':'] (db.length + key.length) key := by
       simp only [split, splitN]
       rw [if_neg (by decide), if_pos (by decide), length_colon_append, splitK_colon_append _ _ _ h]
     have hne := splitK_ne_nil [':'] (db.length + key.length) key
     have hj := join_splitK [':'] (db.length + key.length) key
     generalize splitK [':'] (db.length + key.length) key = L at *
     cases L with
     | nil => contradiction
     | cons x xs =>
       simp [PB.Gen.DbKey.ParseKey, e, len, inIdx, strAt, inSlice, slice]
       rw [hj]
       have h1 : ¬ ((xs.length : Int) + 1 + 1 < 2) := by omega
       have h2 : (0 : Int) < (xs.length : Int) + 1 + 1 := by omega
       have h3 : (1 : Int) ≤ (xs.length : Int) + 1 + 1 := by omega
       simp [h1, h2, h3])

/-- Records under different keys of one database stay different records: no two keys are split to the same pair. -/
theorem source_parseKey_injective (db k1 k2 : List Char) (h : ':' ∉ db)
    (he : PB.Gen.DbKey.ParseKey (db ++ ':' :: k1) = PB.Gen.DbKey.ParseKey (db ++ ':' :: k2)) : k1 = k2 := by
  rw [source_parseKey_keeps_whole_key db k1 h, source_parseKey_keeps_whole_key db k2 h] at he
  injection he with he
  exact (Prod.mk.inj he).2

/-- A name without colon is a database name with the empty key (the query prefix of a whole database). -/
theorem source_parseKey_without_colon (k : List Char) (h : ':' ∉ k) :
    PB.Gen.DbKey.ParseKey k = .ok (k, []) := by
  open PB.GoStr in
  simp [PB.Gen.DbKey.ParseKey, split, splitN, splitK_colon_none _ k h, len, inIdx, strAt]

/-! ### Maintenance -/

/-- Maintenance never changes what is visible — whichever records the pass skips. -/
theorem maintenance_invisible (cfg : Cfg) (s : Store) (hn : s.NodupKeys) (now thr : Int) (skip : List String) (k : String) :
    vis now ((maintainSkip cfg s now thr skip).get k) = vis now (s.get k) := by
  rw [maintainSkip_eq]
  split
  · rw [Store.get_filterMap hn _ (fun r r' h => (maintainOne_some r r' h).1)]
    exact vis_maintainOne cfg thr skip _
  · rfl

/-- Maintenance physically removes only records that are deleted or expired. -/
theorem maintenance_removes_only_dead (cfg : Cfg) (s : Store) (hn : s.NodupKeys) (now thr : Int) (skip : List String)
    (k : String) (r : Rec) (hr : s.get k = some r) (hgone : (maintainSkip cfg s now thr skip).get k = none) :
    r.md.deleted > 0 ∨ (r.md.expires > 0 ∧ r.md.expires < now) := by
  have hvis := maintenance_invisible cfg s hn now thr skip k
  rw [hgone, hr] at hvis
  have hinv : ¬ r.md.valid now = true := fun hv => by rw [vis_of_valid hv] at hvis; cases hvis
  rw [Meta.valid_iff] at hinv
  omega

/-- What maintenance rewrites instead of removing (expired ⇒ shadow-deleted) was not visible and stays invisible;
    every other record it keeps is untouched. -/
theorem maintenance_rewrites_only_dead (cfg : Cfg) (s : Store) (hn : s.NodupKeys) (now thr : Int) (skip : List String)
    (k : String) (r r' : Rec) (hr : s.get k = some r) (hr' : (maintainSkip cfg s now thr skip).get k = some r') :
    r' = r ∨ (r.md.valid now = false ∧ r'.md.valid now = false) := by
  have hvis := maintenance_invisible cfg s hn now thr skip k
  rw [hr', hr] at hvis
  cases hv : r.md.valid now with
  | true =>
    rw [vis_of_valid hv] at hvis
    exact Or.inl (Option.some.inj (vis_some hvis).1)
  | false =>
    rw [vis_of_invalid hv] at hvis
    refine Or.inr ⟨rfl, ?_⟩
    cases h : r'.md.valid now with
    | false => rfl
    | true => rw [vis_of_valid h] at hvis; cases hvis

/-! ### Queries and purge -/

/-- A query yields exactly the stored records whose key starts with the prefix, that are valid, permitted for the
    interface and comply with the condition — each once. -/
theorem query_exact (s : Store) (hn : s.NodupKeys) (q : Query) (loc int : Bool) (now : Int) (r : Rec) :
    (r ∈ storeQuery s q loc int now ↔
      s.get r.key = some r ∧ q.matchesKey r.key = true ∧ r.md.valid now = true ∧
      r.md.permitted loc int = true ∧ q.matchesRecord r = true) ∧
    (storeQuery s q loc int now).Nodup ∧ Store.NodupKeys (storeQuery s q loc int now) := by
  unfold storeQuery
  refine ⟨?_, List.Nodup.sublist List.filter_sublist (Store.nodup_list hn), Store.nodup_filter hn _⟩
  rw [List.mem_filter, Store.mem_iff_get hn]
  unfold Query.selects
  simp [Bool.and_eq_true, and_assoc]

/-- The interface's `Query` hands exactly that to the caller and rejects conditions that recorded a
    construction error. -/
theorem interface_query_exact (o : Opts) (st : ISt) (q : Query) (now : Int) :
    (q.check = false → (ifQuery o st q now).2 = .err .badQuery) ∧
    (q.check = true → (ifQuery o st q now).2 = .recs (storeQuery st.store q o.loc o.int now)) := by
  unfold ifQuery
  constructor <;> intro h <;> simp [h]

/-- `Purge` counts and removes from view exactly the records a query would yield; everything else stays as it is. -/
theorem purge_exact (cfg : Cfg) (s : Store) (hn : s.NodupKeys) (q : Query) (loc int : Bool) (now : Int) (hpos : 0 < now) :
    (purge cfg s q loc int now).2 = (storeQuery s q loc int now).length ∧
    ∀ k, vis now ((purge cfg s q loc int now).1.get k) =
      (vis now (s.get k)).bind (fun r => if q.selects loc int now r then none else some r) := by
  have hsel : q.purges loc int now = q.selects loc int now := funext (purges_eq_selects q loc int)
  refine ⟨by rw [purge, storeQuery, hsel], fun k => ?_⟩
  rw [← hsel, purge, Store.get_filterMap hn _ (fun r r' h => (purgeRec_some cfg q loc int r r' h).1),
    vis_purgeRec cfg q loc int hpos]

/-! ### Typed structs and serialised data answer conditions identically -/

/-- For conditions whose operators fit the kinds of the root-level fields they name (README "Req. Type"), the
    struct accessor and the JSON accessor give the same verdict on the same field values — for every nesting of
    and / or / not, every operand, and every value a Go field of that kind can hold (`goValues`): the whole `int64`
    range for integer fields (beyond ±2^53 the JSON accessor's `gjson.Result.Int` reads the raw text, see
    `gjsonInt_int64`), every float64 for float fields. The conversions the JSON accessor applies are the ones found in
    the source on this run (`PB.Gen.DbAcc`): with `int64(result.Num)` in `GetInt` this proof fails. -/
theorem struct_json_agree (fs : Fields) (c : Cond) (hg : goValues fs) (ht : c.typedFor fs) :
    c.complies (.struct fs) = c.complies (.json fs) := by
  induction c with
  | leaf sel l =>
    unfold Cond.typedFor Leaf.typedFor at ht
    unfold Cond.complies
    match sel, ht with
    | [name], ht =>
      simp only at ht
      cases hl : lookup name fs with
      | none =>
        rw [hl] at ht
        cases l <;> simp at ht
        simp [Leaf.eval, View.exists, structGet, jsonGet, hl]
      | some v =>
        rw [hl] at ht
        cases v with
        | prim p =>
          have hp := hg name p hl
          -- typing leaves `exists` and the operators of the field's kind; the JSON number conversion is exact on Go values
          cases p <;> cases l <;> simp at ht <;>
            simp [Leaf.eval, View.exists, View.getInt, View.getFloat, View.getString, View.getBool, structGet, jsonGet, hl,
              primJV, jsonNumToInt_int64, jsonNumToFloat_float64, hp]
        | obj ofs =>
          cases l <;> simp at ht
          simp [Leaf.eval, View.exists, structGet, jsonGet, hl]
        | arr xs =>
          cases l <;> simp at ht
          simp [Leaf.eval, View.exists, structGet, jsonGet, hl]
  | and a b iha ihb => unfold Cond.complies; rw [iha ht.1, ihb ht.2]
  | or a b iha ihb => unfold Cond.complies; rw [iha ht.1, ihb ht.2]
  | not c ih => unfold Cond.complies; rw [ih ht]
  | tt => rfl
  | ff => rfl
  | err => rfl

/-- The domain of `struct_json_agree` has no hidden 2^53 bound: the `int64` an integer field holds comes back from the
    serialised form exactly, for every `int64` (source conversion of this run). -/
theorem json_int_field_exact (i : Int) (h1 : -9223372036854775808 ≤ i) (h2 : i ≤ 9223372036854775807) (name : String) :
    View.getInt (.json [(name, .prim (.int i))]) [name] = some i ∧
    View.getInt (.struct [(name, .prim (.int i))]) [name] = some i := by
  simp [View.getInt, jsonGet, structGet, lookup, primJV, jsonNumToInt_int64 i ⟨h1, h2⟩]

/-- Hence a query cannot tell a typed record from what a serialising backend stores for it. -/
theorem query_backend_independent (b : Backend) (q : Query) (r : Rec) (hform : r.form = .struct)
    (hlive : ¬ r.md.deleted > 0) (hne : r.fields ≠ []) (hg : goValues r.fields)
    (ht : ∀ c, q.cond = some c → c.typedFor r.fields) :
    q.matchesRecord (stored b r) = q.matchesRecord r := by
  unfold Query.matchesRecord
  cases hc : q.cond with
  | none => rfl
  | some c =>
    simp only
    unfold stored Rec.view
    by_cases hs : b.serializes = true
    · have hemp : r.fields.isEmpty = false := by
        cases hf : r.fields with
        | nil => exact absurd hf hne
        | cons _ _ => rfl
      simp [hs, hlive, hform, hemp]
      exact (struct_json_agree r.fields c hg (ht c hc)).symm
    · simp [hs]

/-- The statement without the typing proviso is false on the code: sub-level, array-length and array-index
    selectors (README: "supported by all feeders") are resolved by the JSON accessor only; and the JSON accessor
    coerces numbers where the struct accessor insists on the kind.
    Recorded finding C02:struct-accessor-sublevel-selector. -/
theorem struct_json_agree_untyped_REFUTED :
    ¬ (∀ (fs : Fields) (c : Cond), c.complies (.struct fs) = c.complies (.json fs)) := by
  intro h
  have := h [("N", .obj [("X", .int 7)])] (.leaf ["N", "X"] (.intCmp .eq 7))
  revert this; decide

/-! ### The result stream hands the storage error to the consumer -/

/-- Invariant of the hand-over protocol. -/
theorem iterator_invariant (s s' : Iter.St) (a : Iter.Act)
    (hinv : (s.nextClosed = true → s.errStored = true) ∧ (s.cpc ≥ 1 → s.nextClosed = true) ∧
            (s.cpc = 2 → s.observed = true) ∧ (s.ppc ≥ 2 → s.nextClosed = true) ∧ (s.ppc ≥ 1 → s.errStored = true) ∧ s.cpc ≤ 2)
    (hs : Iter.step s a = some s') :
    (s'.nextClosed = true → s'.errStored = true) ∧ (s'.cpc ≥ 1 → s'.nextClosed = true) ∧
    (s'.cpc = 2 → s'.observed = true) ∧ (s'.ppc ≥ 2 → s'.nextClosed = true) ∧ (s'.ppc ≥ 1 → s'.errStored = true) ∧ s'.cpc ≤ 2 := by
  obtain ⟨h1, h2, h3, h4, h5, h6⟩ := hinv
  cases a <;> simp only [Iter.step, Option.ite_none_right_eq_some, Option.some.injEq] at hs <;> obtain ⟨hg, rfl⟩ := hs
  case send | recv => exact ⟨h1, h2, h3, h4, h5, h6⟩
  case storeErr => exact ⟨fun _ => rfl, h2, h3, fun h => by simp at h, fun _ => rfl, h6⟩
  case closeNext => exact ⟨fun _ => h5 (by omega), fun _ => rfl, h3, fun _ => rfl, fun _ => h5 (by omega), h6⟩
  case closeDone => exact ⟨h1, h2, h3, fun _ => h4 (by omega), fun _ => h5 (by omega), h6⟩
  case seeEnd => exact ⟨h1, fun _ => hg.2.2, fun h => by simp at h, h4, h5, by simp⟩
  case readErr => exact ⟨h1, fun _ => h2 (by omega), fun _ => h1 (h2 (by omega)), h4, h5, Nat.le_refl 2⟩

/-- In every interleaving of the producer finishing a query with an error and the consumer draining it, a consumer
    that has seen the end of the stream and then asks `Err()` gets the producer's error — for every number of
    records, every channel capacity, every schedule. -/
theorem iterator_error_delivered (n cap : Nat) (sched : List Iter.Act) (s : Iter.St)
    (hrun : Iter.exec (Iter.init n cap) sched = some s) (hdone : s.cpc = 2) : s.observed = true := by
  exact (Iter.exec_inv iterator_invariant sched _ s (by simp [Iter.init]) hrun).2.2.1 hdone

/-- Counting invariant of the hand-over: nothing is lost or duplicated on the way. -/
theorem iterator_count_invariant (n : Nat) (s s' : Iter.St) (a : Iter.Act)
    (hinv : s.toSend + s.buf + s.received = n ∧ (s.ppc ≥ 1 → s.toSend = 0) ∧ (s.nextClosed = true → s.ppc ≥ 2) ∧
            (s.cpc ≥ 1 → s.buf = 0 ∧ s.nextClosed = true))
    (hs : Iter.step s a = some s') :
    s'.toSend + s'.buf + s'.received = n ∧ (s'.ppc ≥ 1 → s'.toSend = 0) ∧ (s'.nextClosed = true → s'.ppc ≥ 2) ∧
            (s'.cpc ≥ 1 → s'.buf = 0 ∧ s'.nextClosed = true) := by
  obtain ⟨h1, h2, h3, h4⟩ := hinv
  cases a <;> simp only [Iter.step, Option.ite_none_right_eq_some, Option.some.injEq] at hs <;> obtain ⟨hg, rfl⟩ := hs
  case send =>
    -- the producer is still sending, so the stream is open and the consumer has not seen its end
    have : ¬ s.cpc ≥ 1 := fun h => by have := h3 (h4 h).2; omega
    exact ⟨by simp only; omega, fun h => by simp only at h; omega, h3, fun h => absurd h this⟩
  case storeErr => exact ⟨h1, fun _ => hg.2, fun h => by have := h3 h; omega, h4⟩
  case closeNext => exact ⟨h1, fun _ => h2 (by omega), fun _ => Nat.le_refl 2, fun h => ⟨(h4 h).1, rfl⟩⟩
  case closeDone => exact ⟨h1, fun _ => h2 (by omega), fun _ => by simp, h4⟩
  case recv => exact ⟨by simp only; omega, h2, h3, fun h => by simp only at h; omega⟩
  case seeEnd => exact ⟨h1, h2, h3, fun _ => hg.2⟩
  case readErr => exact ⟨h1, h2, h3, fun _ => h4 (by omega)⟩

/-- The consumer that saw the end of the stream has received every record the producer sent. -/
theorem iterator_all_records_delivered (n cap : Nat) (sched : List Iter.Act) (s : Iter.St)
    (hrun : Iter.exec (Iter.init n cap) sched = some s) (hdone : s.cpc ≥ 1) : s.received = n := by
  obtain ⟨h1, h2, h3, h4⟩ := Iter.exec_inv (iterator_count_invariant n) sched _ s (by simp [Iter.init]) hrun
  have := h2 (h3 (h4 hdone).2 |> Nat.le_of_succ_le)
  have := (h4 hdone).1
  omega

/-- A query that is still running while records are deleted or expire (`PB.Iter.HandOver`: `check` = the visit of a
    record with its validity check, `protect x` = the delete / expiry of `x` has returned): a record that stops being
    visible before its hand-over check is never listed, and once that holds for every remaining candidate at most
    capacity + 1 further records — those that had already left the executor — arrive. All candidate lists, buffer
    capacities and schedules. -/
theorem invalid_before_check_never_listed (todo : List Nat) (hn : todo.Nodup) (cap : Nat)
    (sched post : List Iter.HandOver.Act) (s s' : Iter.HandOver.St)
    (hs : Iter.HandOver.exec (Iter.HandOver.init todo cap) sched = some s) :
    (∀ x ∈ s.due, x ∉ s.recvd ∧ x ∉ s.buf ∧ s.hand ≠ some x) ∧
    ((∀ x ∈ s.todo, x ∈ s.prot) → Iter.HandOver.exec s post = some s' →
      Iter.HandOver.inFlight s' ≤ Iter.HandOver.inFlight s) :=
  ⟨(Iter.HandOver.inv_exec sched _ s (Iter.HandOver.inv_init todo cap hn) hs).2.2.2,
   fun hc h2 => Iter.HandOver.closed_exec post s s' hc h2⟩

/-- In every backend's `queryExecutor`, as the source stands, `CheckValidity` gates the send within the visit of the
    record (table regenerated by harness/cmd/extract/dbiter.go). -/
theorem source_handover_checks_validity :
    ∀ e ∈ PB.Gen.DbIter.handOverChecks, "CheckValidity" ∈ e.2 := by decide

/-- With the order of the pinned tree (close the stream, then store the error) a consumer can read `Err()` in
    between and see nothing: the schedule below is a run of the old protocol that ends with the error lost.
    Repaired by `fix: Iterator.Finish stores the error before closing the result stream`. -/
theorem iterator_old_order_loses_error :
    ∃ sched, (Iter.execOld (Iter.init 1 10) sched).map (fun s => (s.cpc, s.observed, s.errStored)) = some (2, false, true) :=
  ⟨[.send, .closeNext, .recv, .seeEnd, .readErr, .closeDone, .storeErr], by decide⟩

/-! ### Delayed write cache: a pending write is readable, survives eviction, and is flushed -/

/-- A record written through an interface with delayed writes is answered by the next `get`, although the
    storage has not seen it yet. -/
theorem delayed_put_then_get (cfg : Cfg) (o : Opts) (hc : o.cache = .delay) (ha : o.all = true) (st : ISt) (r : Rec) (now : Int)
    (hv : (o.apply r.md now).valid now = true) :
    (ifGet cfg o (ifPut cfg o st r now false).1 r.key now).2 = .one { r with md := o.apply r.md now } ∧
    (ifPut cfg o st r now false).1.store = st.store := by
  have hnd : (o.apply r.md now).isDeleted = false := by
    have := Meta.valid_not_deleted hv
    unfold Meta.isDeleted; simp; omega
  have hput : ifPut cfg o st r now false =
      ({ st with cache := st.cache.put { r with md := o.apply r.md now },
                 wcache := st.wcache.put { r with md := o.apply r.md now } }, .ok) := by
    unfold ifPut updateCache
    simp [ha, hc, hnd]
  rw [hput]
  refine ⟨?_, rfl⟩
  unfold ifGet getRecord checkCache
  have hg : (st.cache.put { r with md := o.apply r.md now }).get r.key = some { r with md := o.apply r.md now } :=
    Store.get_put_eq _ { r with md := o.apply r.md now }
  simp [hc, hg, hv, Opts.hasAccess, ha]

/-- When the ARC cache drops an entry that still waits to be written, the evict handler writes it to storage
    (and hands it to the subscribers) before it is forgotten. -/
theorem evict_writes_pending (cfg : Cfg) (st : ISt) (k : String) (r : Rec) (hp : st.wcache.get k = some r) :
    (evict cfg st k).store = storePut cfg st.store r ∧ (evict cfg st k).wcache.get k = none ∧
    (evict cfg st k).cache.get k = none := by
  unfold evict ctlPut
  simp [hp, Store.get_del_eq]

/-- `FlushCache` leaves no pending write behind. -/
theorem flush_empties_write_set (cfg : Cfg) (o : Opts) (hc : o.cache = .delay) (st : ISt) (now : Int) :
    (ifFlush cfg o st now).1.wcache = [] := by
  cases ha : o.all <;> simp [ifFlush, hc, ha]

/-- … and every pending record reaches the storage through the batch path (`Apply`, then put or immediate delete) —
    on an interface that is local and internal, as `Options.DelayCachedWrites` demands (`PutMany` refuses any other:
    `PB.C03.flush_without_all_permissions_stores_nothing`). -/
theorem flush_writes_one (cfg : Cfg) (o : Opts) (hc : o.cache = .delay) (ha : o.all = true) (st : ISt) (r : Rec) (now : Int)
    (hw : st.wcache = [r]) :
    (ifFlush cfg o st now).1.store = storePut cfg st.store { r with md := o.apply r.md now } := by
  unfold ifFlush flushOne; simp [hc, hw, ha]

/-- Invariant of every history through an interface with delayed writes (any backend, delete mode, eviction
    pattern; `ClearCache` excluded — it drops cache entries without the evict handler): a record that still
    waits in the write set is the record the read cache answers with, so no accepted write is ever unreadable
    before it reaches the storage. -/
theorem delayed_pending_always_readable (cfg : Cfg) (o : Opts) (hc : o.cache = .delay) :
    ∀ (ops : List (Op × Int)) (st : ISt), Pend st → (∀ x ∈ ops, x.1 ≠ .clear) →
      ∀ n, Pend ((ops.take n).foldl (fun s x => (Db.step cfg o s x.1 x.2).1) st) := by
  intro ops
  induction ops with
  | nil => intro st h _ n; simpa using h
  | cons x rest ih =>
    intro st h hcl n
    cases n with
    | zero => simpa using h
    | succ n =>
      simp only [List.take_succ_cons, List.foldl_cons]
      exact ih _ (step_pend hc h x.1 x.2 (hcl x (List.mem_cons_self ..))) (fun y hy => hcl y (List.mem_cons_of_mem _ hy)) n

/-! ### Non-vacuity -/

/-- A history on bbolt with shadow delete and a read cache that exercises cache hits, a delete seen through the
    cache, an expiry moved into the past, eviction, maintenance and a query — and satisfies all hypotheses of
    `refines`. -/
example :
    let ops : List (Op × Int) :=
      [(.put { key := "a/x", form := .struct, fields := [("S", .prim (.str "abc")), ("I", .prim (.int 5))] }, 10),
       (.get "a/x", 11), (.delete "a/x", 12), (.get "a/x", 12),
       (.put { key := "ab", fields := [("S", .prim (.str "q"))], md := { expires := 100 } }, 13),
       (.evict "ab", 13), (.get "ab", 14), (.setAbs "ab" 5, 15), (.exists_ "ab", 15),
       (.maintain 20 ["a/x"], 20), (.query { pfx := "a", cond := some (.leaf ["S"] (.strOp .startsWith "a")) }, 21)]
    wellTimed 0 ops ∧ (∀ x ∈ ops, cacheSafe { cache := .read } x.1) ∧
    Db.run { backend := .bbolt, shadow := true } { cache := .read } {} ops =
      [.ok, .one { key := "a/x", form := .struct, fields := [("S", .prim (.str "abc")), ("I", .prim (.int 5))],
                   md := { created := 10, modified := 10 } },
       .ok, .err .notFound, .ok, .ok,
       .one { key := "ab", fields := [("S", .prim (.str "q"))], md := { created := 13, modified := 13, expires := 100 } },
       .ok, .bool false, .ok, .recs []] := by
  exact ⟨by simp [wellTimed], by simp only [List.forall_mem_cons, cacheSafe]; simp, by decide⟩

/-- The boundary second: a record whose expiry time is `now` is still visible, and maintenance at that second —
    hashmap and bbolt, both delete modes, any purge threshold — leaves it where it is; one second later it is
    invisible, removed without shadow delete and marked deleted with it. -/
example :
    let r : Rec := { key := "k", md := { created := 5, modified := 5, expires := 100 } }
    r.md.valid 100 = true ∧ r.md.valid 101 = false ∧
    (∀ b ∈ [Backend.hashmap, .bbolt], ∀ sh ∈ [true, false], ∀ thr ∈ [(0 : Int), 100, 101, 200],
      maintainRec { backend := b, shadow := sh } 100 thr r = some r ∧
      maintainRec { backend := b, shadow := false } 101 thr r = none ∧
      (maintainRec { backend := b, shadow := true } 101 thr r).map (·.md.deleted) = some 100) := by decide

/-- A well-typed condition on a harness-schema record (hypotheses of `struct_json_agree`) that matches. -/
example :
    let fs : Fields := [("S", .prim (.str "abc")), ("I", .prim (.int 5)), ("F", .prim (.flt 1500)), ("B", .prim (.bool true))]
    let c : Cond := .and (.leaf ["I"] (.intCmp .ge 5)) (.or (.leaf ["F"] (.fltCmp .lt 2000)) (.not (.leaf ["B"] (.is false))))
    goValues fs ∧ c.typedFor fs ∧ c.complies (.struct fs) = true := by
  exact ⟨goValues_cons trivial (goValues_cons (by unfold Prim.goValue; decide)
    (goValues_cons (by unfold Prim.goValue; decide) (goValues_cons trivial goValues_nil))),
    by simp [Cond.typedFor, Leaf.typedFor, lookup], by decide⟩

/-- Beyond 2^53: the integer 2^53 + 1 = 9007199254740993 (not a float64) in an `int64` field. Typed struct and
    serialised record agree on every integer operator, and the verdicts depend on the low bit a float64 would lose:
    `== 9007199254740993` matches, `> 9007199254740992` matches, `<= 9007199254740992` does not. -/
example :
    let fs : Fields := [("I", .prim (.int 9007199254740993))]
    goValues fs ∧
    (∀ v : View, v = .struct fs ∨ v = .json fs →
      (Cond.leaf ["I"] (.intCmp .eq 9007199254740993)).complies v = true ∧
      (Cond.leaf ["I"] (.intCmp .gt 9007199254740992)).complies v = true ∧
      (Cond.leaf ["I"] (.intCmp .le 9007199254740992)).complies v = false ∧
      (Cond.not (.leaf ["I"] (.intCmp .eq 9007199254740992))).complies v = true) := by
  refine ⟨goValues_cons (by unfold Prim.goValue; decide) goValues_nil, fun v hv => ?_⟩
  rcases hv with rfl | rfl <;> decide

/-- The ends of the range and a float64 field that holds 2^62 (a float64) against an operand that is not one
    (2^62 + 1 is rounded to 2^62 by `newFloatCondition`, for both record forms alike). -/
example :
    let fs : Fields := [("I", .prim (.int (-9223372036854775808))), ("F", .prim (.flt 4611686018427387904000))]
    goValues fs ∧
    (∀ v : View, v = .struct fs ∨ v = .json fs →
      (Cond.leaf ["I"] (.intCmp .eq (-9223372036854775808))).complies v = true ∧
      (Cond.leaf ["I"] (.intCmp .lt (-9223372036854775807))).complies v = true ∧
      (Cond.leaf ["F"] (.fltCmp .eq 4611686018427387905000)).complies v = true ∧
      (Cond.leaf ["F"] (.fltCmp .lt 4611686018427388416000)).complies v = false ∧
      (Cond.leaf ["F"] (.fltCmp .lt 4611686018427388417000)).complies v = true) := by
  refine ⟨goValues_cons (by unfold Prim.goValue; decide) (goValues_cons (by unfold Prim.goValue; decide) goValues_nil),
    fun v hv => ?_⟩
  rcases hv with rfl | rfl <;> decide

/-- A complete run of the hand-over protocol with three records through a channel of capacity two. -/
example : (Iter.exec (Iter.init 3 2) [.send, .send, .recv, .send, .storeErr, .recv, .closeNext, .recv, .seeEnd, .closeDone, .readErr]).map
    (fun s => (s.cpc, s.received, s.observed)) = some (2, 3, true) := by decide

/-- two keys that differ only behind a colon inside the key -/
example : PB.Gen.DbKey.ParseKey "db:conn/10.0.0.1:443".toList = .ok ("db".toList, "conn/10.0.0.1:443".toList) ∧
    PB.Gen.DbKey.ParseKey "db:conn/10.0.0.1:8080".toList = .ok ("db".toList, "conn/10.0.0.1:8080".toList) ∧
    PB.Gen.DbKey.ParseKey "db::a:".toList = .ok ("db".toList, ":a:".toList) := by
  simp only [String.reduceToList]
  exact ⟨source_parseKey_keeps_whole_key ['d', 'b'] _ (by decide), source_parseKey_keeps_whole_key ['d', 'b'] _ (by decide),
    source_parseKey_keeps_whole_key ['d', 'b'] _ (by decide)⟩

end PB.C02
