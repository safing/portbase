import PBProofs.C16
import PBProofs.C10Src
import PB.Gen.ContainerSrc
/-
C16, translator tie: the constructors and the loop-free methods of container.Container, translated from the
Go source on every run (`PB.Gen.ContainerSrc`, harness/cmd/extract/golean.go + goleantype.go), never panic and
compute exactly what the hand-written model `PB.Model.Container` computes. The calls to `varint.Pack64` go to
its translation (`PB.Gen.VarintSrc`), bridged by `PBProofs/C10Src.lean`.
-/
namespace PB.C16Src
open PB PB.Varint PB.Container
open PB.Gen.ContainerSrc

/-- How a model container appears at the Go level (the `err` field is never written by the translated part). -/
def rep (c : C) : Container := { compartments := c.comps, offset := (c.offset : Int), err := none }

theorem New_eq (ds : List Bytes) : New ds = .ok (rep (new ds)) := rfl

theorem NewContainer_eq (ds : List Bytes) : NewContainer ds = .ok (rep (newContainer ds)) ∧ NewContainer ds = New ds :=
  ⟨rfl, rfl⟩

theorem Append_eq (c : C) (d : Bytes) : Container_Append (rep c) d = .ok (rep (append c d)) := rfl

theorem AppendNumber_eq (c : C) (n : Nat) (h : n < 2 ^ 64) :
    Container_AppendNumber (rep c) (n : Int) = .ok (rep (appendNumber c n)) := by
  simp [Container_AppendNumber, PB.C10Src.Pack64_eq n h, rep, appendNumber, append]

/-- `AppendInt(n)`: `uint64(n)` of a Go int is the two's-complement reading the model uses. -/
theorem AppendInt_eq (c : C) (i : Int) (h : -(2 ^ 63 : Int) ≤ i ∧ i < (2 ^ 63 : Int)) :
    Container_AppendInt (rep c) i = .ok (rep (appendInt c i)) := by
  have hw : PB.Go.wrapU 64 i = ((ofInt64 i : Nat) : Int) := by
    unfold PB.Go.wrapU ofInt64
    have : 0 ≤ i % (2 : Int) ^ 64 := Int.emod_nonneg _ (by decide)
    omega
  have hlt : ofInt64 i < 2 ^ 64 := by unfold ofInt64; omega
  simp [Container_AppendInt, hw, PB.C10Src.Pack64_eq _ hlt, rep, appendInt, append]

theorem AppendAsBlock_eq (c : C) (d : Bytes) (h : d.length < 2 ^ 64) :
    Container_AppendAsBlock (rep c) d = .ok (rep (appendAsBlock c d)) := by
  have hw : PB.Go.wrapU 64 (PB.Go.len d) = ((d.length : Nat) : Int) := PB.C10Src.wrapU_natCast 64 d.length h
  unfold Container_AppendAsBlock
  rw [hw, AppendNumber_eq c d.length h]
  simp only [Append_eq]
  rfl

theorem Replace_eq (c : C) (d : Bytes) : Container_Replace (rep c) d = .ok (rep (replace c d)) := rfl

theorem checkOffset_eq (c : C) (h : c.comps.length < 2 ^ 63) :
    Container_checkOffset (rep c) = .ok (rep (checkOffset c)) := by
  unfold Container_checkOffset checkOffset rep PB.Go.lenL
  by_cases hc : c.offset ≥ c.comps.length
  · have h1 : ((c.offset : Int) ≥ (c.comps.length : Int)) := by omega
    have h3 : Int.tdiv (c.comps.length : Int) 2 = ((c.comps.length / 2 : Nat) : Int) := by
      rw [Int.tdiv_eq_ediv_of_nonneg (by omega)]; omega
    have h2 : PB.Go.wrapI64 ((c.comps.length / 2 : Nat) : Int) = ((c.comps.length / 2 : Nat) : Int) :=
      PB.C10Src.wrapI64_natCast _ (by omega)
    simp only [hc, h1, decide_true, if_true, h3, h2, ge_iff_le]
  · have h1 : ¬ ((c.offset : Int) ≥ (c.comps.length : Int)) := by omega
    simp [hc, h1]

/-- None of the translated functions can panic (for containers and arguments below Go's size limits). -/
theorem translated_part_never_panics (c : C) (d : Bytes) (n : Nat) (i : Int) (ds : List Bytes)
    (hd : d.length < 2 ^ 64) (hn : n < 2 ^ 64) (hi : -(2 ^ 63 : Int) ≤ i ∧ i < (2 ^ 63 : Int)) (hc : c.comps.length < 2 ^ 63) :
    New ds ≠ .panic ∧ NewContainer ds ≠ .panic ∧ Container_Append (rep c) d ≠ .panic ∧
    Container_AppendNumber (rep c) n ≠ .panic ∧ Container_AppendInt (rep c) i ≠ .panic ∧
    Container_AppendAsBlock (rep c) d ≠ .panic ∧ Container_Replace (rep c) d ≠ .panic ∧
    Container_checkOffset (rep c) ≠ .panic := by
  rw [New_eq, (NewContainer_eq ds).1, Append_eq, AppendNumber_eq c n hn, AppendInt_eq c i hi, AppendAsBlock_eq c d hd,
    Replace_eq, checkOffset_eq c hc]
  simp

example : Container_AppendAsBlock (rep (new [[1]])) [7, 7] = .ok (rep ⟨[[1], [2], [7, 7]], 0⟩) := by
  rw [AppendAsBlock_eq _ _ (by decide)]
  simp [appendAsBlock, appendNumber, append, new, pack64, putUvarint]

end PB.C16Src
