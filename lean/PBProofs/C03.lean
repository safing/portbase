import PB.Model.Db
import PB.Spec.KVStore
import PB.Spec.PermissionLattice
import PB.Gen.DbPerm
import PBProofs.Lemmas.Db
import PBProofs.Lemmas.DbSim
import PBProofs.Lemmas.DbPerm
import PB.Model.DbInj
import PBProofs.Lemmas.DbInj
import PB.Model.Iter
import PBProofs.Lemmas.IterHandOver
import PB.Gen.DbIter
import PB.Gen.DbReg
import PBProofs.Lemmas.IterRegQuery
/-
C03 — Secret and crown-jewel records never cross a non-privileged database interface.
Property theorems only (helper lemmas: PBProofs/Lemmas/Db*.lean, Iter*.lean).
-/
namespace PB.C03
open PB.Db PB.KV PB.Perm

/-! ### The permission check is the lattice; the source's decision table and the API's privileges -/

theorem permitted_iff_lattice (m : Meta) (loc int : Bool) :
    m.permitted loc int = true ↔ Perm.permitted loc int m := by
  unfold Meta.permitted Perm.permitted
  cases loc <;> cases int <;> cases m.crown <;> cases m.secret <;> simp

/-- The switch of `Meta.CheckPermission` as it stands in the source (regenerated on every run) is the model's. -/
theorem source_checkPermission_is_model (m : Meta) (loc int : Bool) :
    PB.Gen.DbPerm.checkPermission m.crown m.secret loc int = m.permitted loc int := by
  unfold PB.Gen.DbPerm.checkPermission Meta.permitted
  cases loc <;> cases int <;> cases m.crown <;> cases m.secret <;> rfl

theorem source_hasAllPermissions_is_model (o : Opts) :
    PB.Gen.DbPerm.hasAllPermissions o.loc o.int = o.all := by
  unfold PB.Gen.DbPerm.hasAllPermissions Opts.all; rfl

/-- Every interface the database API opens (`NewInterface(nil)`) is neither local nor internal. -/
theorem api_is_unprivileged : ∀ p ∈ PB.Gen.DbPerm.apiInterfaces, p = (false, false) := by decide

/-- Every function of package api that constructs a `DatabaseAPI` (regenerated list over all files of the package; the
    extractor refuses a constructor the harness has no driver for) gives it an interface that is neither local nor
    internal — the in-process constructor and the websocket endpoint alike. -/
theorem api_constructors_unprivileged : ∀ c ∈ PB.Gen.DbPerm.apiConstructors, c.2 = (false, false) := by decide

/-- The privileges an interface acts with are the ones its creator put into the options, for every cache setting: no
    function of package database (regenerated list over all non-test files) writes `Local` / `Internal` of an `Options`
    value, replaces the options of an `Interface`, or builds options of its own — `NewInterface` in particular raises
    neither flag, whatever `CacheSize` / `DelayCachedWrites` say. The model's `Opts` (which every theorem below
    quantifies over, `cache := .delay` included) are therefore the options handed to `NewInterface`. -/
theorem source_interface_keeps_requested_privileges : PB.Gen.DbPerm.optionPrivilegeWrites = [] := by decide

/-- A delayed write cache on an interface that is not both local and internal (nothing in `NewInterface` forbids the
    combination): `FlushCache` goes through `PutMany`, which refuses it — the storage, the read cache and the
    subscribers' feed are what they were, whatever waits in the write set. -/
theorem flush_without_all_permissions_stores_nothing (cfg : Cfg) (o : Opts) (st : ISt) (now : Int)
    (ha : o.all = false) :
    (ifFlush cfg o st now).1.store = st.store ∧ (ifFlush cfg o st now).1.cache = st.cache ∧
    (ifFlush cfg o st now).1.notes = st.notes := by
  unfold ifFlush; split <;> simp [ha]

example : (ifFlush {} { loc := true, int := false, cache := .delay }
    { wcache := [{ key := "k" }] } 100).1.store = [] := by decide

/-- More privileges never see less. -/
theorem permitted_monotone (m : Meta) (l i l' i' : Bool) (hl : l = true → l' = true) (hi : i = true → i' = true)
    (h : m.permitted l i = true) : m.permitted l' i' = true := by
  rw [permitted_iff_lattice] at *
  exact ⟨h.1.imp_left hl, h.2.imp_left hi⟩

/-! ### Nothing that is not permitted is returned, listed or pushed -/

/-- Whatever the state of storage, cache and write set: every record in the result of any interface operation is
    permitted for the interface's privileges. -/
theorem outputs_permitted (cfg : Cfg) (o : Opts) (st : ISt) (op : Op) (now : Int) :
    ∀ r ∈ outRecs (Db.step cfg o st op now).2, r.md.permitted o.loc o.int = true := by
  intro r hr
  cases op with simp only [Db.step] at hr
  | get k =>
    unfold ifGet at hr
    cases hg : getRecord cfg o st k now with
    | mk res st1 =>
      rw [hg] at hr
      cases res with
      | error e => cases hr
      | ok x =>
        simp only [outRecs, List.mem_singleton] at hr; subst hr
        exact getRecord_permitted cfg o st k now _ (by rw [hg])
  | query q =>
    unfold ifQuery at hr
    split at hr
    · cases hr
    · exact selects_permitted q _ _ now r (List.mem_filter.1 hr).2
  | exists_ k => rw [ifExists_noRecs] at hr; cases hr
  | put x | putNew x => rw [ifPut_noRecs] at hr; cases hr
  | delete k | setAbs k _ | setRel k _ | mkSecret k | mkCrown k => rw [ifModify_noRecs] at hr; cases hr
  | insert k a p => rw [ifInsert_noRecs] at hr; cases hr
  | putMany rs => rw [ifPutMany_noRecs] at hr; cases hr
  | purge q => rw [ifPurge_noRecs] at hr; cases hr
  | flush => rw [ifFlush_noRecs] at hr; cases hr
  | maintain _ _ | clear | evict _ => cases hr

/-- A subscription feed only ever receives records permitted for the subscriber's privileges. -/
theorem feed_permitted (subs : List Sub) (notes : List Rec)
    (h : ∀ s ∈ subs, ∀ r ∈ s.feed, r.md.permitted s.loc s.int = true) :
    ∀ s ∈ deliver subs notes, ∀ r ∈ s.feed, r.md.permitted s.loc s.int = true := by
  unfold deliver
  induction notes generalizing subs with
  | nil => exact h
  | cons x rest ih =>
    simp only [List.foldl_cons]
    apply ih
    intro s hs r hr
    simp only [List.mem_map] at hs
    obtain ⟨s0, hs0, rfl⟩ := hs
    unfold Sub.notify at hr ⊢
    split at hr
    · rename_i hc
      simp only [List.mem_append, List.mem_singleton] at hr
      rcases hr with hr | hr
      · simp only [hc, if_true]; exact h s0 hs0 r hr
      · subst hr; simp only [hc, if_true]; simp at hc; exact hc.1
    · rename_i hc; simp only [hc]; exact h s0 hs0 r hr

/-- Queries on an injected runtime database filter by the caller's privileges. -/
theorem registry_query_permitted (provided : List Rec) (q : Query) (loc int : Bool) (now : Int) :
    ∀ r ∈ registryQuery provided q loc int now, r.md.permitted loc int = true ∧ r.md.valid now = true := by
  intro r hr
  -- the filter of `registryQuery` is `Query.selects` written out
  have hsel : q.selects loc int now r = true := (List.mem_filter.1 hr).2
  exact ⟨selects_permitted q _ _ now r hsel, selects_valid q _ _ r hsel⟩

/-- Batch writes need all permissions. -/
theorem putMany_requires_all (cfg : Cfg) (o : Opts) (st : ISt) (rs : List Rec) (now : Int) (h : o.all = false) :
    ifPutMany cfg o st rs now = (st, .err .denied) := by
  unfold ifPutMany; simp [h]

/-! ### No write-through -/

/-- Reference level: whatever a non-privileged interface calls, a visible record it may not see stays exactly as it
    is — put, put-new, delete, expiry and flag changes, attribute insert, batch write, purge. -/
theorem reference_no_write_through (cfg : Cfg) (o : Opts) (m : Store) (hn : m.NodupKeys) (now : Int)
    (k : String) (r : Rec) (hv : vis now (m.get k) = some r) (hp : r.md.permitted o.loc o.int = false) (op : Op) :
    (KV.step cfg o m op now).1.get k = m.get k := by
  have hall := not_permitted_not_all o r hp
  have hget : KV.get o m k now = .error .denied := by
    unfold KV.get; rw [hv]; simp [hasAccess_eq_permitted, hp]
  -- what an operation stores goes under the key of a record it could read or write, so not under `k`
  have hne : ∀ x, x.key ≠ k → (KV.store cfg.backend m x).get k = m.get k := fun x hx => by
    rw [kvstore_get, if_neg (Ne.symm hx)]
  have hread : ∀ {k' r0}, KV.get o m k' now = .ok r0 → r0.key ≠ k := fun hg e => by
    rw [← kvget_key hg, e, hget] at hg; cases hg
  have hmod : ∀ k' f, (KV.modify cfg.backend o m k' now f).1.get k = m.get k := by
    intro k' f
    unfold KV.modify
    cases hg : KV.get o m k' now with
    | error e => rfl
    | ok r0 => exact hne _ (hread hg : r0.key ≠ k)
  have hput : ∀ x isNew, (KV.put cfg.backend o m x now isNew).1.get k = m.get k := by
    intro x isNew
    by_cases hk : x.key = k
    · subst hk; rw [kvput_blocked cfg.backend o m x now isNew r hv hp]
    · rcases kvput_cases cfg.backend o m x now isNew with h | h <;> rw [h]
      exact hne _ hk
  cases op with simp only [KV.step]
  | put x | putNew x => exact hput x _
  | delete k' | setAbs k' _ | setRel k' _ | mkSecret k' | mkCrown k' => exact hmod k' _
  | insert k' a p =>
    unfold KV.insert
    cases hg : KV.get o m k' now with
    | error e => rfl
    | ok r0 =>
      simp only
      split
      · rfl
      · exact hne _ (hread hg : r0.key ≠ k)
  | putMany rs => simp [hall]
  | query q => split <;> rfl
  | purge q =>
    split
    · rfl
    · split
      · rfl
      · rw [Store.get_filter hn, (vis_some hv).1]
        have : q.purges o.loc o.int now r = false := by unfold Query.purges; simp [hp]
        simp [this]

/-- Interface level (through the refinement): the stored record a non-privileged interface may not see is what a
    reader finds afterwards too — for every backend, delete mode and (exclusively used) read cache. -/
theorem no_write_through (cfg : Cfg) (o : Opts) (hd : o.cache ≠ .delay) (now : Int) (hpos : 0 < now)
    (st : ISt) (m : Store) (hs : Sim cfg o now st m) (op : Op) (hsafe : cacheSafe o op)
    (k : String) (r : Rec) (hv : vis now (st.store.get k) = some r) (hp : r.md.permitted o.loc o.int = false) :
    vis now ((Db.step cfg o st op now).1.store.get k) = some r := by
  have h1 := (step_sim hs hpos hd op hsafe).1.view k
  have hv' : vis now (m.get k) = some r := by rw [← hs.view k]; exact hv
  rw [h1, reference_no_write_through cfg o m hs.ndm now k r hv' hp op]
  exact hv'

/-- Every cache setting, the delayed write cache included, and whatever waits in the write set: a single-key write
    (put, put-new, delete, both expiry setters, both flag setters, attribute insert) aimed at a key under which the
    storage holds a visible record the interface may not see — and of which the interface's cache holds no copy — is
    answered `denied` and leaves storage, cache, write set and the subscribers' feed exactly as they were. (What a
    non-privileged interface may put into its own cache and write set are records it is permitted to see:
    `outputs_permitted` is stated for any cache and write-set content.) -/
theorem hidden_record_write_refused_every_cache_mode (cfg : Cfg) (o : Opts) (st : ISt) (k : String) (r : Rec) (now : Int)
    (hc : st.cache.get k = none) (hs : st.store.get k = some r) (hv : r.md.valid now = true)
    (hp : r.md.permitted o.loc o.int = false) (op : Op)
    (hop : (∃ x, op = .put x ∧ x.key = k) ∨ (∃ x, op = .putNew x ∧ x.key = k) ∨ op = .delete k ∨ (∃ t, op = .setAbs k t) ∨
      (∃ d, op = .setRel k d) ∨ op = .mkSecret k ∨ op = .mkCrown k ∨ (∃ a p, op = .insert k a p)) :
    Db.step cfg o st op now = (st, .err .denied) := by
  have ha : o.all = false := by
    cases hl : o.loc <;> cases hi : o.int <;> simp_all [Opts.all, Meta.permitted]
  have hg : getRecord cfg o st k now = (.error .denied, st) := by
    unfold getRecord checkCache
    by_cases hn : o.cache = .none <;> simp [hn, hc, ctlGet, hs, hv, Opts.hasAccess, ha, hp]
  have hm : getMeta cfg o st k now = (.error .denied, st) := by
    unfold getMeta checkCache
    by_cases hn : o.cache = .none <;> simp [hn, hc, ctlGet, hs, hv, hp]
  rcases hop with ⟨x, rfl, rfl⟩ | ⟨x, rfl, rfl⟩ | rfl | ⟨t, rfl⟩ | ⟨d, rfl⟩ | rfl | rfl | ⟨a, p, rfl⟩
  -- `Put` and `PutNew` stop at the pre-check (`getMeta`), the setters and `InsertValue` at `getRecord`
  · simp [Db.step, ifPut, ha, hm]
  · simp [Db.step, ifPut, ha, hm]
  all_goals simp [Db.step, ifModify, ifInsert, hg]

example : (Db.step {} { loc := false, int := false, cache := .delay }
    { store := [{ key := "k", md := { secret := true } }], wcache := [{ key := "j" }] } (.delete "k") 100).2 = .err .denied := by decide

/-! ### An interface can learn at most that the key exists -/

/-- Two reference stores with the same visible keys that agree on every record the interface is permitted to see
    give the same result for every operation the interface can call (query results as unordered streams):
    content, flags of the other kind and metadata of records it may not see cannot be observed — only that
    the key is taken. -/
theorem learns_at_most_existence (cfg : Cfg) (o : Opts) (now : Int) (m m' : Store) (hn : m.NodupKeys) (hn' : m'.NodupKeys)
    (h : lowEq o.loc o.int now m m') (op : Op) :
    match (KV.step cfg o m op now).2, (KV.step cfg o m' op now).2 with
    | .recs l, .recs l' => l.Perm l'
    | a, b => a = b := by
  have hg := kvget_lowEq h
  have hmod : ∀ k f, (KV.modify cfg.backend o m k now f).2 = (KV.modify cfg.backend o m' k now f).2 := by
    intro k f; unfold KV.modify; rw [hg k]; cases KV.get o m' k now <;> rfl
  have hput : ∀ x isNew, (KV.put cfg.backend o m x now isNew).2 = (KV.put cfg.backend o m' x now isNew).2 := by
    intro x isNew; unfold KV.put; rw [blocked_lowEq h x.key]; split <;> rfl
  cases op with simp only [KV.step]
  | get k | exists_ k => rw [hg k]; exact sameOut_of_eq rfl
  | put x | putNew x => exact sameOut_of_eq (hput x _)
  | delete k | setAbs k _ | setRel k _ | mkSecret k | mkCrown k => exact sameOut_of_eq (hmod k _)
  | insert k a p =>
    unfold KV.insert; rw [hg k]
    cases KV.get o m' k now with
    | error e => rfl
    | ok r => simp only; cases setField r.form r.fields a p <;> rfl
  | putMany rs => cases o.all <;> cases cfg.backend.hasBatch <;> rfl
  | query q =>
    cases q.check
    · rfl
    · exact filter_perm_of_lowEq hn hn' h _ fun a ha => ⟨selects_valid q _ _ a ha, selects_permitted q _ _ now a ha⟩
  | purge q =>
    cases q.check
    · rfl
    cases cfg.backend.hasPurge
    · rfl
    · exact congrArg Out.count (filter_perm_of_lowEq hn hn' h _ fun a ha =>
        ⟨purges_valid q _ _ a ha, purges_permitted q _ _ now a ha⟩).length_eq

/-- Whole histories: from two stores that are indistinguishable for the interface from time `t0` on (same visible
    keys at every later time, same permitted records), every history of operations of that interface at
    non-decreasing times gives the same results on both — it learns at most that the keys exist. -/
theorem learns_at_most_existence_run (cfg : Cfg) (o : Opts) :
    ∀ (ops : List (Op × Int)) (t0 : Int) (m m' : Store), m.NodupKeys → m'.NodupKeys →
      lowEqFrom o.loc o.int t0 m m' → wellTimed t0 ops →
      sameOuts (KV.run cfg o m ops) (KV.run cfg o m' ops) := by
  intro ops
  induction ops with
  | nil => intro t0 m m' _ _ _ _; trivial
  | cons x rest ih =>
    intro t0 m m' hn hn' h ht
    obtain ⟨op, now⟩ := x
    obtain ⟨hle, _, hrest⟩ := ht
    have hout := learns_at_most_existence cfg o now m m' hn hn' (h now hle) op
    obtain ⟨h1, h2, h3⟩ := lowEq_step cfg o now t0 m m' hn hn' h hle op
    unfold KV.run
    simp only
    exact ⟨hout, ih now _ _ h2 h3 h1 hrest⟩

/-! ### Injected runtime databases (`runtime.Registry` as storage: no MetaHandler, no Batcher, no Purger)

`PB.Db.Inj` models the path as the code has it: `Controller.GetMeta` falls back to `storage.Get` + `r.Meta()`,
`Registry.Put` hands the record to the provider's `Set`, immediate deletes run into `InjectBase.Delete`. The state
is what the provider holds plus the log of every record its `Set` received. -/

/-- Nothing that is not permitted (and valid) is returned or listed from an injected database. -/
theorem injected_outputs_permitted (o : Opts) (st : Inj.PSt) (op : Op) (now : Int) :
    ∀ r ∈ outRecs (Inj.step o st op now).2, r.md.permitted o.loc o.int = true ∧ r.md.valid now = true := by
  intro r hr
  have hget : ∀ k x, Inj.getRecord o st k now = .ok x → x.md.permitted o.loc o.int = true ∧ x.md.valid now = true := by
    intro k x h
    rw [Inj.getRecord_eq_kvget] at h
    exact ⟨(kvget_ok h).2, (vis_some (kvget_ok h).1).2⟩
  have hnone : ∀ (a : Out), outRecs a = [] → r ∈ outRecs a → False := by intro a h1 h2; rw [h1] at h2; cases h2
  have hput : ∀ st0 x, outRecs (Inj.ctlPut st0 x).2 = [] := by intro st0 x; rw [Inj.ctlPut_out]; split <;> rfl
  have hmod : ∀ k f, outRecs (Inj.ifModify o st k now f).2 = [] := by
    intro k f; unfold Inj.ifModify
    cases Inj.getRecord o st k now with
    | error e => rfl
    | ok x => exact hput _ _
  have hp : ∀ x isNew, outRecs (Inj.ifPut o st x now isNew).2 = [] := by
    intro x isNew; unfold Inj.ifPut
    cases Inj.putPre o st x.key now with
    | some e => rfl
    | none => exact hput _ _
  cases op with simp only [Inj.step] at hr
  | get k =>
    cases hg : Inj.getRecord o st k now with
    | error e => rw [hg] at hr; cases hr
    | ok x => rw [hg] at hr; simp only [outRecs, List.mem_singleton] at hr; rw [hr]; exact hget k x hg
  | query q =>
    split at hr
    · cases hr
    · exact registry_query_permitted st.prov q o.loc o.int now r hr
  | exists_ k =>
    cases hg : Inj.getRecord o st k now with
    | error e => rw [hg] at hr; cases e <;> cases hr
    | ok x => rw [hg] at hr; cases hr
  | put x | putNew x => exact (hnone _ (hp x _) hr).elim
  | delete k | setAbs k _ | setRel k _ | mkSecret k | mkCrown k => exact (hnone _ (hmod k _) hr).elim
  | insert k a p =>
    exfalso; unfold Inj.ifInsert at hr
    cases hg : Inj.getRecord o st k now with
    | error e => rw [hg] at hr; cases hr
    | ok x =>
      rw [hg] at hr; simp only at hr
      cases hs : setField x.form x.fields a p with
      | none => rw [hs] at hr; cases hr
      | some fs => rw [hs] at hr; exact hnone _ (hput _ _) hr
  | putMany _ | purge _ => split at hr <;> cases hr
  | maintain _ _ | flush | clear | evict _ => cases hr

/-- Every `Set` an operation makes the value provider receive is for a key that holds nothing visible or a
    record the interface may see — whatever the operation (put, put-new, delete, expiry and flag setters,
    attribute insert, batch, purge), whatever the interface's privileges: an operation appends at most one
    entry to the provider's `Set` log (and hands that record to the subscribers), and never for a hidden record. -/
theorem injected_sets_only_where_permitted (o : Opts) (st : Inj.PSt) (op : Op) (now : Int) :
    ∃ l, (Inj.step o st op now).1.sets = st.sets ++ l ∧ (Inj.step o st op now).1.notes = st.notes ++ l ∧
      ∀ x ∈ l, ∀ r, vis now (st.prov.get x.key) = some r → r.md.permitted o.loc o.int = true := by
  rcases Inj.step_effect o st op now with h | ⟨x, h, hx⟩
  · exact ⟨[], by rw [h]; simp, by rw [h]; simp, by intro x hx; cases hx⟩
  · refine ⟨[x], by rw [h], by rw [h], ?_⟩
    intro y hy; simp at hy; subst hy; exact hx

/-- No write-through on an injected database: a visible record the interface may not see stays what the provider
    holds, no `Set` for its key reaches the provider, and nothing under its key is pushed to subscribers. -/
theorem injected_no_write_through (o : Opts) (st : Inj.PSt) (op : Op) (now : Int)
    (k : String) (r : Rec) (hv : vis now (st.prov.get k) = some r) (hp : r.md.permitted o.loc o.int = false) :
    (Inj.step o st op now).1.prov.get k = st.prov.get k ∧
    ∃ l, (Inj.step o st op now).1.sets = st.sets ++ l ∧ (Inj.step o st op now).1.notes = st.notes ++ l ∧
      ∀ x ∈ l, x.key ≠ k := by
  rcases Inj.step_effect o st op now with h | ⟨x, h, hx⟩
  · exact ⟨by rw [h], [], by rw [h]; simp, by rw [h]; simp, by intro x hx; cases hx⟩
  · have hne : x.key ≠ k := by
      intro e; rw [e] at hx; have := hx r hv; rw [hp] at this; cases this
    refine ⟨by rw [h]; exact Store.get_put_ne _ _ _ (fun e => hne e.symm), [x], by rw [h], by rw [h], ?_⟩
    intro y hy; simp at hy; subst hy; exact hne

/-- An interface learns at most that the key exists, on injected databases too: over two providers whose contents
    are indistinguishable for the interface every operation gives the same result (query results as unordered
    streams) — single step … -/
theorem injected_learns_at_most_existence (o : Opts) (now : Int) (st st' : Inj.PSt)
    (hn : st.prov.NodupKeys) (hn' : st'.prov.NodupKeys) (h : lowEqFrom o.loc o.int now st.prov st'.prov) (op : Op) :
    sameOut (Inj.step o st op now).2 (Inj.step o st' op now).2 :=
  (Inj.step_lowEq o now now st st' hn hn' h (Int.le_refl _) op).1

/-- … and whole histories at non-decreasing times (writes included: the same `Set` reaches both providers). -/
theorem injected_learns_at_most_existence_run (o : Opts) :
    ∀ (ops : List (Op × Int)) (t0 : Int) (st st' : Inj.PSt), st.prov.NodupKeys → st'.prov.NodupKeys →
      lowEqFrom o.loc o.int t0 st.prov st'.prov → wellTimed t0 ops →
      sameOuts (Inj.run o st ops) (Inj.run o st' ops) := by
  intro ops
  induction ops with
  | nil => intro t0 st st' _ _ _ _; trivial
  | cons x rest ih =>
    intro t0 st st' hn hn' h ht
    obtain ⟨op, now⟩ := x
    obtain ⟨hle, _, hrest⟩ := ht
    obtain ⟨h1, h2, h3, h4⟩ := Inj.step_lowEq o now t0 st st' hn hn' h hle op
    unfold Inj.run
    exact ⟨h1, ih now _ _ h3 h4 h2 hrest⟩

/-! ### A running query against concurrent re-flagging ("listed for", every interleaving)

`PB.Iter.HandOver`: the executor visits the candidate records one by one, checks the permission within the
visit and then sends (blocking while `Next` is full); the consumer receives; a privileged interface marks
records at any time (`protect x` = the re-flag of `x` has returned). For every number of records, buffer
capacity and schedule. -/

/-- In every backend's `queryExecutor`, as the source stands (regenerated on every run), `CheckPermission` and
    `CheckValidity` gate the send within the visit of the record — the model's `check` action. -/
theorem source_handover_checks_permission :
    PB.Gen.DbIter.handOverChecks.map (·.1) = ["hashmap", "bbolt", "fstree", "badger"] ∧
    ∀ e ∈ PB.Gen.DbIter.handOverChecks, "CheckPermission" ∈ e.2 ∧ "CheckValidity" ∈ e.2 := by decide

/-- A record that is marked before its hand-over check is never handed over: it is neither received by the
    consumer, nor in the buffer, nor being sent — for all candidate lists (distinct keys), capacities, schedules. -/
theorem marked_before_check_never_handed_over (todo : List Nat) (hn : todo.Nodup) (cap : Nat)
    (sched : List Iter.HandOver.Act) (s : Iter.HandOver.St)
    (hs : Iter.HandOver.exec (Iter.HandOver.init todo cap) sched = some s) :
    ∀ x ∈ s.due, x ∉ s.recvd ∧ x ∉ s.buf ∧ s.hand ≠ some x :=
  (Iter.HandOver.inv_exec sched _ s (Iter.HandOver.inv_init todo cap hn) hs).2.2.2

/-- Once the re-flag of every record still to be visited has returned, the consumer receives at most what had
    already left the executor: at most capacity + 1 further records, whatever the schedule does afterwards. -/
theorem after_reflag_at_most_cap_plus_one (todo : List Nat) (cap : Nat) (pre post : List Iter.HandOver.Act)
    (s s' : Iter.HandOver.St)
    (h1 : Iter.HandOver.exec (Iter.HandOver.init todo cap) pre = some s)
    (hc : ∀ x ∈ s.todo, x ∈ s.prot)
    (h2 : Iter.HandOver.exec s post = some s') :
    s'.recvd.length ≤ s.recvd.length + cap + 1 := by
  obtain ⟨hb, hcap⟩ := Iter.HandOver.buf_le_cap_exec pre _ s (Nat.zero_le _) h1
  have hf := Iter.HandOver.closed_exec post s s' hc h2
  unfold Iter.HandOver.inFlight at hf
  have : (if s.hand.isSome = true then 1 else 0) ≤ 1 := by split <;> omega
  have : s.cap = cap := hcap
  omega

/-- Deciding the permission when the candidates are collected, and not again at the visit, is not enough: a
    record marked after the snapshot and before its visit reaches the consumer. -/
theorem snapshot_time_check_hands_over_marked_record :
    ∃ sched s, Iter.HandOver.execSnapshotCheck (Iter.HandOver.init [0, 1] 1) sched = some s ∧
      0 ∈ s.due ∧ 0 ∈ s.recvd := by
  refine ⟨[.protect 0, .check, .send, .recv], _, rfl, ?_, ?_⟩ <;> decide

/-! ### A query on an injected runtime database served by several value providers at once

`Registry.Query` runs one goroutine per provider; the filter verdict of a record is written while the record is locked
and read after it was unlocked. Model `PB.Iter.RegQuery`; goroutine structure, decision variable, its conjuncts and the
scopes of the filter variables are regenerated from runtime/registry.go on every run (`PB.Gen.DbReg`). -/

/-- The source as found: one goroutine per provider; the decision reads a conjunction that contains `CheckPermission`
    (with `Query`'s own `local` / `internal`) and `CheckValidity` of the loop's record; the decision variable and every
    variable the evaluation writes are declared inside the goroutine (record loop or function literal), none in `Query`
    itself where the provider goroutines would share it. -/
theorem source_registry_query_filter_is_goroutine_local :
    PB.Gen.DbReg.goroutinePerProvider = true ∧
    "CheckPermission" ∈ PB.Gen.DbReg.decisionConjuncts ∧ "CheckValidity" ∈ PB.Gen.DbReg.decisionConjuncts ∧
    "MatchesKey" ∈ PB.Gen.DbReg.decisionConjuncts ∧ "MatchesRecord" ∈ PB.Gen.DbReg.decisionConjuncts ∧
    PB.Gen.DbReg.decisionVarScope ≤ 1 ∧
    (∀ v ∈ PB.Gen.DbReg.filterVarScopes, v.2 ≤ 1) ∧
    (PB.Gen.DbReg.decisionVar, PB.Gen.DbReg.decisionVarScope) ∈ PB.Gen.DbReg.filterVarScopes := by decide

/-- For every number of providers, every list of records per provider (each with the verdict of the filter on it) and
    every interleaving of the provider goroutines' evaluation and decision steps — with the decision variable where the
    source declares it —: every record sent into the result stream passed the filter, i.e. is permitted for the
    querying interface. -/
theorem registry_query_concurrent_permitted (providers : List (List (Nat × Bool))) (sched : List Iter.RegQuery.Act)
    (s : Iter.RegQuery.St)
    (h : Iter.RegQuery.exec (decide (PB.Gen.DbReg.decisionVarScope = 2)) (Iter.RegQuery.init providers) sched = some s) :
    ∀ x ∈ s.out, x.2 = true := by
  have hsc : decide (PB.Gen.DbReg.decisionVarScope = 2) = false := by decide
  rw [hsc] at h
  exact (Iter.RegQuery.inv_exec sched _ s (Iter.RegQuery.inv_init providers) h).2

/-- With the decision variable declared in `Query` itself (shared by the provider goroutines) the statement is false:
    two providers, one with a permitted record 0, one with a protected record 1; the second goroutine evaluates its
    record (not allowed), the first evaluates its own (allowed), the second decides — and sends the protected record. -/
theorem registry_query_shared_filter_state_leaks :
    ∃ sched s, Iter.RegQuery.exec true (Iter.RegQuery.init [[(0, true)], [(1, false)]]) sched = some s ∧
      (1, false) ∈ s.out :=
  ⟨[.eval 1, .eval 0, .decide 1, .decide 0], _, rfl, by decide⟩

/-! ### Non-vacuity -/

/-- Two stores that differ in the content, expiry and crown-jewel flag of a secret record are indistinguishable
    for the API's interface (hypotheses of `learns_at_most_existence`), and distinguishable for an internal one. -/
example :
    let m : Store := [{ key := "k/secret", md := { secret := true }, fields := [("S", .prim (.str "password-1"))] },
                      { key := "k/public", fields := [("S", .prim (.str "hello"))] }]
    let m' : Store := [{ key := "k/secret", md := { secret := true, crown := true, expires := 99 }, fields := [("S", .prim (.str "password-2"))] },
                       { key := "k/public", fields := [("S", .prim (.str "hello"))] }]
    lowEq false false 10 m m' ∧ ¬ lowEq false true 10 m m' ∧ m.NodupKeys ∧ m'.NodupKeys := by
  refine ⟨?_, ?_, by simp [Store.NodupKeys], by simp [Store.NodupKeys]⟩
  · exact lowEq_cons rfl (by simp [vis, Meta.valid, Meta.permitted])
      (lowEq_cons rfl (by simp [vis, Meta.valid]) fun _ => trivial)
  · intro h; have := h "k/secret"; simp [Store.get, vis, Meta.valid, Meta.permitted] at this

/-- … and they stay indistinguishable at every later time (hypothesis of `learns_at_most_existence_run`) when the
    hidden records do not differ in when they disappear. -/
example :
    lowEqFrom false false 10
      [{ key := "k/secret", md := { secret := true }, fields := [("S", .prim (.str "password-1"))] },
       { key := "k/public", fields := [("S", .prim (.str "hello"))] }]
      [{ key := "k/secret", md := { secret := true, crown := true, created := 5 }, fields := [("S", .prim (.str "password-2"))] },
       { key := "k/public", fields := [("S", .prim (.str "hello"))] }] := by
  exact fun t _ => lowEq_cons rfl (by simp [vis, Meta.valid, Meta.permitted])
    (lowEq_cons rfl (by simp [vis, Meta.valid]) fun _ => trivial)

/-- A non-privileged interface that hits a secret record through its cache is refused (hypothesis-free instance of
    `outputs_permitted` where the interesting branch is taken). -/
example :
    (Db.step {} { loc := false, int := false, cache := .read }
      { cache := [{ key := "k", md := { secret := true } }], store := [{ key := "k", md := { secret := true } }] }
      (.get "k") 10).2 = .err .denied := by decide

/-- Injected database: an external `Put` / `PutNew` on a secret runtime record is refused and reaches no `Set`;
    the same call by an internal interface reaches the provider; a delete runs into `InjectBase.Delete`. -/
example :
    let secret : Rec := { key := "p/a", md := { secret := true }, fields := [("S", .prim (.str "s3cr3t"))] }
    let st : Inj.PSt := { prov := [secret] }
    let w : Rec := { key := "p/a", fields := [("S", .prim (.str "overwritten"))] }
    (Inj.step { loc := false, int := false } st (.put w) 10).2 = .err .denied ∧
    (Inj.step { loc := true, int := false } st (.putNew w) 10).1.sets = [] ∧
    ((Inj.step { loc := false, int := true } st (.put w) 10).1.sets.map (·.key)) = ["p/a"] ∧
    (Inj.step { loc := true, int := true } st (.delete "p/a") 10).2 = .err .notImpl := by decide

/-- hand-over: 3 records, capacity 1, the second is marked while it waits and is skipped; with the buffer size of the source -/
example : ((Iter.HandOver.exec (Iter.HandOver.init [0, 1, 2] 1) [.check, .send, .protect 1, .recv, .check, .check, .send, .recv]).map
    (fun s => (s.recvd, s.due))) = some ([2, 0], [1]) := by decide
example : PB.Gen.DbIter.nextCap > 0 := by decide

/-- A complete run of three provider goroutines (two records, one record, no record) under an adversarial schedule
    that parks every decision behind another goroutine's evaluation: exactly the permitted records arrive. -/
example : ((Iter.RegQuery.exec false (Iter.RegQuery.init [[(0, true), (1, false)], [(2, false)], []])
      [.eval 1, .eval 0, .decide 1, .decide 0, .eval 0, .decide 0]).map (·.out)) = some [(0, true)] := by decide

end PB.C03
