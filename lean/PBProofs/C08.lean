import PBProofs.Lemmas.Record
import PBProofs.C10
import PB.Gen.Record
/-
C08 — Stored-record format round-trips and its decoder is total.
-/
namespace PB.C08
open PB PB.Varint PB.Record

/-! ### The regenerated source tables coincide with the layout the model (and the proofs) use -/

theorem layout_matches_source :
    PB.Gen.Record.size = 34 ∧
    PB.Gen.Record.marshalInts = layoutInts ∧ PB.Gen.Record.marshalFlags = layoutMarshalFlags ∧
    PB.Gen.Record.unmarshalInts = layoutInts ∧ PB.Gen.Record.unmarshalFlags = layoutUnmarshalFlags ∧
    PB.Gen.Record.dsdAUTO = fAUTO ∧ PB.Gen.Record.dsdRAW = fRAW ∧ PB.Gen.Record.dsdCBOR = fCBOR ∧
    PB.Gen.Record.dsdGenCode = fGenCode ∧ PB.Gen.Record.dsdJSON = fJSON ∧ PB.Gen.Record.dsdMsgPack = fMsgPack ∧
    PB.Gen.Record.dsdYAML = fYAML ∧ PB.Gen.Record.dsdGZIP = fGZIP := by
  and_intros <;> rfl

/-- Every DSD format identifier fits the single-byte varint the parser reads for the data format
    (the marshal side writes the identifier as one raw byte). -/
theorem all_dsd_formats_lt_128 :
    ∀ f ∈ [PB.Gen.Record.dsdAUTO, PB.Gen.Record.dsdRAW, PB.Gen.Record.dsdCBOR, PB.Gen.Record.dsdGenCode,
      PB.Gen.Record.dsdJSON, PB.Gen.Record.dsdMsgPack, PB.Gen.Record.dsdYAML, PB.Gen.Record.dsdGZIP], f < 128 := by
  decide

/-! ### Round trips -/

/-- Little-endian int64 encoding round-trips over the full range, both signs. -/
theorem int64_le_roundtrip (x : Int) (h : inInt64 x) :
    ∃ b0 b1 b2 b3 b4 b5 b6 b7, encodeLE x = [b0, b1, b2, b3, b4, b5, b6, b7] ∧ decodeLE b0 b1 b2 b3 b4 b5 b6 b7 = x :=
  ⟨_, _, _, _, _, _, _, _, rfl, decodeLE_encode x h⟩

/-- The six metadata fields survive the gencode form exactly; exactly 34 bytes are produced and trailing
    bytes are ignored. -/
theorem meta_gencode_roundtrip (m : Meta) (wf : m.InRange) (rest : Bytes) :
    genCodeUnmarshal (genCodeMarshal m ++ rest) = some m ∧ (genCodeMarshal m).length = 34 :=
  ⟨genCode_roundtrip m wf rest, genCodeMarshal_length m⟩

/-- Parsing a version byte followed by a block `pre` whose content `ms` loads as `m`, followed by `dsec`. -/
theorem newRawWrapper_of_block (pre ms dsec : Bytes) (m : Meta)
    (hb : getNextBlock (pre ++ dsec) = .ok (ms, pre.length)) (hl : loadMeta ms = .ok m) :
    newRawWrapper (1 :: (pre ++ dsec)) =
      if m.deleted > 0 then .ok ⟨m, fRAW, dsec⟩
      else match unpack8 dsec with
        | .error e => .err (.format e.str)
        | .ok (f, k) => .ok ⟨m, f, dsec.drop k⟩ := by
  have hd2 : ∀ k, List.drop (1 + pre.length + k) (1 :: (pre ++ dsec)) = dsec.drop k := by
    intro k
    rw [show 1 + pre.length + k = (pre.length + k) + 1 by omega, List.drop_succ_cons, List.drop_append,
      List.drop_of_length_le (by omega)]
    simp
  have hd1 : List.drop (1 + pre.length) (1 :: (pre ++ dsec)) = dsec := hd2 0
  unfold newRawWrapper
  simp only [unpack8, show ((1 : UInt8).toNat < 128) from by decide, if_true,
    show ¬ ((1 : UInt8).toNat ≠ 1) from by decide, if_false, List.drop_succ_cons, List.drop_zero, hb, hl, hd1, hd2]
  by_cases hd : m.deleted > 0
  · simp [hd]
  · simp only [hd, if_false]
    cases unpack8 dsec with
    | error e => rfl
    | ok p => rfl

/-- Wrapped raw data: same metadata, same format, byte-identical data; no data for deleted records. -/
theorem wrapper_roundtrip (m : Meta) (wf : m.InRange) (fmt : UInt8) (hfmt : fmt.toNat < 128) (data : Bytes) :
    newRawWrapper (marshalWrapper m fmt data) =
      .ok ⟨m, if m.deleted > 0 then fRAW else fmt.toNat, if m.deleted > 0 then [] else data⟩ := by
  unfold marshalWrapper
  rw [marshalRecord_flat]
  have hlen : (metaSection m).length < 2 ^ 64 := by
    rw [metaSection_eq]; simp [genCodeMarshal_length]
  have hblock := PB.C10.getNextBlock_prependLength (metaSection m) (wrapperDataSection m fmt data) hlen
  unfold prependLength at hblock
  have key := newRawWrapper_of_block (pack64 (metaSection m).length ++ metaSection m) (metaSection m)
    (wrapperDataSection m fmt data) m hblock (loadMeta_metaSection m wf)
  rw [show [1] ++ (pack64 (metaSection m).length ++ (metaSection m ++ wrapperDataSection m fmt data))
        = 1 :: ((pack64 (metaSection m).length ++ metaSection m) ++ wrapperDataSection m fmt data) by simp]
  rw [key]
  by_cases hd : m.deleted > 0
  · simp [hd, wrapperDataSection]
  · simp [hd, wrapperDataSection, unpack8, hfmt]

/-- A typed record (JSON codec as a parameter with its round-trip contract): the parsed wrapper carries the
    same metadata, reports JSON, and unwrapping its data yields the original value. -/
theorem base_roundtrip {α : Type} (enc : α → Bytes) (dec : Bytes → Option α) (hcodec : ∀ v, dec (enc v) = some v)
    (m : Meta) (wf : m.InRange) (hlive : ¬ m.deleted > 0) (v : α) :
    ∃ w, newRawWrapper (marshalBase m (enc v)) = .ok w ∧ w.md = m ∧ w.format = fJSON ∧ dec w.data = some v := by
  have h := wrapper_roundtrip m wf 74 (by decide) (enc v)
  simp only [hlive, if_false] at h
  refine ⟨⟨m, fJSON, enc v⟩, ?_, rfl, rfl, hcodec v⟩
  rw [marshalBase_eq_marshalWrapper, h]; rfl

/-- Deleted typed records carry no data section. -/
theorem base_deleted_no_data (m : Meta) (wf : m.InRange) (hdel : m.deleted > 0) (json : Bytes) :
    newRawWrapper (marshalBase m json) = .ok ⟨m, fRAW, []⟩ := by
  have h := wrapper_roundtrip m wf 74 (by decide) json
  simp only [hdel, if_true] at h
  rw [marshalBase_eq_marshalWrapper, h]

/-! ### The parser validates every length against the input -/

/-- Success implies that the version byte, the meta block (whose declared length was checked against the
    input) and the format byte all lie inside the input, and the returned data is exactly the rest of the
    input: nothing is read beyond it, nothing is invented. -/
theorem parse_bounded (bs : Bytes) (w : Wrapper) (h : newRawWrapper bs = .ok w) :
    ∃ hdr metaLen k, 0 < hdr ∧ hdr + metaLen + k ≤ bs.length ∧ k ≤ 2 ∧
      (∃ ms, getNextBlock (bs.drop hdr) = .ok (ms, metaLen) ∧ loadMeta ms = .ok w.md) ∧
      w.data = bs.drop (hdr + metaLen + k) := by
  unfold newRawWrapper at h
  cases hv : unpack8 bs with
  | error e => simp [hv] at h
  | ok p =>
    obtain ⟨version, off⟩ := p
    obtain ⟨o1, o2, _, _⟩ := PB.C10.unpack8_sound bs version off hv
    simp only [hv] at h
    by_cases hver : version ≠ 1
    · simp [hver] at h
    · simp only [hver, if_false] at h
      cases hb : getNextBlock (bs.drop off) with
      | error e => simp [hb] at h
      | ok q =>
        obtain ⟨ms, n⟩ := q
        obtain ⟨b1, _⟩ := PB.C10.getNextBlock_sound (bs.drop off) ms n hb
        simp only [List.length_drop] at b1
        simp only [hb] at h
        cases hl : loadMeta ms with
        | err e => simp [hl] at h
        | delegated f => simp [hl] at h
        | ok m =>
          simp only [hl] at h
          by_cases hd : m.deleted > 0
          · simp only [hd, if_true, Parsed.ok.injEq] at h
            subst h
            exact ⟨off, n, 0, o1, by omega, by omega, ⟨ms, hb, hl⟩, rfl⟩
          · simp only [hd, if_false] at h
            cases hf : unpack8 (bs.drop (off + n)) with
            | error e => simp [hf] at h
            | ok r =>
              obtain ⟨fmt, k⟩ := r
              obtain ⟨f1, f2, _, f4⟩ := PB.C10.unpack8_sound _ fmt k hf
              simp only [List.length_drop] at f2
              simp only [hf, Parsed.ok.injEq] at h
              subst h
              have hk : k ≤ 2 := by
                have := pack8_length_le fmt
                rw [f4, List.length_take, List.length_drop] at this
                omega
              exact ⟨off, n, k, o1, by omega, hk, ⟨ms, hb, hl⟩, rfl⟩

/-- The parser is a total function (by construction) and every outcome is one of: a record, an error, or a
    meta section in a third-party codec (outside the model, exercised on the implementation only). -/
theorem parse_total (bs : Bytes) :
    (∃ w, newRawWrapper bs = .ok w) ∨ (∃ e, newRawWrapper bs = .err e) ∨ (∃ f, newRawWrapper bs = .delegated f) := by
  cases newRawWrapper bs with
  | ok w => exact Or.inl ⟨w, rfl⟩
  | err e => exact Or.inr (Or.inl ⟨e, rfl⟩)
  | delegated f => exact Or.inr (Or.inr ⟨f, rfl⟩)

/-- Keys: `db:key` splits at the first colon and re-joins to the same key. -/
theorem key_roundtrip (db key : List Char) (h : ':' ∉ db) :
    parseKey (db ++ ':' :: key) = (db, key) := by
  have : splitColon (db ++ ':' :: key) = (db, some key) := by
    induction db with
    | nil => simp [splitColon]
    | cons c db ih =>
      have hc : c ≠ ':' := fun hh => h (by simp [hh])
      have hdb : ':' ∉ db := fun hh => h (by simp [hh])
      simp [splitColon, hc, ih hdb]
  simp [parseKey, this]

/-! ### Key accessors of `Base` (SetKey / ResetKey / Key / KeyIsSet / DatabaseName / DatabaseKey) -/

/-- Splitting at the first colon and joining with a colon gives the key back, for every key with a colon. -/
theorem parseKey_join (s : List Char) (h : ':' ∈ s) : (parseKey s).1 ++ ':' :: (parseKey s).2 = s := by
  obtain ⟨db, key, rfl, hdb⟩ := List.eq_append_cons_of_mem h
  rw [key_roundtrip db key hdb]

/-- Setting `db:key` on a record without key and reading it back: name, key and full key are the ones set. -/
theorem setKey_roundtrip (db key : List Char) (h : ':' ∉ db) :
    (Base.fresh.setKey (db ++ ':' :: key)).databaseName = db ∧
    (Base.fresh.setKey (db ++ ':' :: key)).databaseKey = key ∧
    (Base.fresh.setKey (db ++ ':' :: key)).key = db ++ ':' :: key ∧
    (Base.fresh.setKey (db ++ ':' :: key)).keyIsSet = decide (db ≠ []) := by
  have hp := key_roundtrip db key h
  simp [Base.setKey, Base.fresh, Base.keyIsSet, Base.databaseName, Base.databaseKey, Base.key, hp]

/-- "The key may only be set once and future calls to SetKey will be ignored." -/
theorem setKey_once (b : Base) (h : b.keyIsSet = true) (k : List Char) : b.setKey k = b := by
  simp [Base.setKey, h]

/-- `ResetKey` clears both parts; afterwards `SetKey` works as on a new record. -/
theorem resetKey_unsets (b : Base) :
    b.resetKey.keyIsSet = false ∧ b.resetKey.databaseName = [] ∧ b.resetKey.databaseKey = [] ∧
    ∀ k, b.resetKey.setKey k = Base.fresh.setKey k := by
  simp [Base.resetKey, Base.keyIsSet, Base.databaseName, Base.databaseKey, Base.fresh]

/-- What `Unwrap` does with the key (`r.SetKey(wrapped.Key())`): a record without key takes over the full
    key of any other record unchanged — also when the database name itself contains a colon or is empty
    (the two parts may then be split differently; `Key()` is the same). -/
theorem key_transfer (r b : Base) (hr : r.keyIsSet = false) : (r.setKey b.key).key = b.key := by
  have hin : ':' ∈ b.key := by simp [Base.key]
  have := parseKey_join b.key hin
  simp only [Base.setKey, hr]
  simpa [Base.key] using this

/-! ### `Marshal` and `MarshalRecord`: layout relation and error exits -/

/-- `Wrapper.Marshal(r, dsd.AUTO)`: nothing for a deleted record, else the format byte and the data. -/
theorem wrapperMarshal_auto (m : Meta) (f : UInt8) (d : Bytes) :
    wrapperMarshal (some m) f d 0 = .ok (if m.deleted > 0 then none else some (f :: d)) := by
  unfold wrapperMarshal
  by_cases hd : m.deleted > 0
  · simp [hd]
  · simp [hd, fAUTO]

/-- An explicit format must be the wrapper's own format; any other is refused (for live records). -/
theorem wrapperMarshal_format (m : Meta) (hlive : ¬ m.deleted > 0) (wf format : UInt8) (d : Bytes)
    (hf : format.toNat ≠ fAUTO) :
    wrapperMarshal (some m) wf d format = if format = wf then .ok (some (wf :: d)) else .error .formatMismatch := by
  unfold wrapperMarshal
  by_cases he : format = wf
  · simp [hlive, he]
  · simp [hlive, he, hf]

/-- `MarshalRecord = [version 1] ++ length-prefixed meta section ++ Marshal(AUTO)` for wrappers … -/
theorem wrapper_marshalRecord_layout (m : Meta) (f : UInt8) (d : Bytes) :
    ∃ ds, wrapperMarshal (some m) f d 0 = .ok ds ∧
      wrapperMarshalRecord (some m) f d = .ok ([1] ++ (prependLength (metaSection m) ++ ds.getD [])) ∧
      wrapperMarshalRecord (some m) f d = .ok (marshalWrapper m f d) := by
  have h0 : (UInt8.ofNat fAUTO) = 0 := rfl
  have hw : wrapperMarshalRecord (some m) f d = .ok (marshalWrapper m f d) := by
    simp only [wrapperMarshalRecord, marshalWrapper, wrapperDataSection]
    rw [h0, wrapperMarshal_auto]
    by_cases hd : m.deleted > 0 <;> simp [hd]
  refine ⟨_, wrapperMarshal_auto m f d, ?_, hw⟩
  rw [hw, marshalWrapper, marshalRecord_flat, wrapperDataSection]
  by_cases hd : m.deleted > 0 <;> simp [hd, prependLength]

/-- … and for typed records, `dump` being `dsd.Dump(self, ·)`: if the JSON dump is `[JSON] ++ json` the
    result is the layout `marshalBase` describes (which the round-trip theorems are about); a deleted record
    never reaches the codec. -/
theorem base_marshalRecord_layout (m : Meta) (dump : Nat → Option Bytes) (json : Bytes)
    (hdump : dump fJSON = some (pack8 fJSON ++ json)) :
    baseMarshalRecord (some m) dump = .ok (marshalBase m json) ∧
    baseMarshalRecord (some m) dump
      = .ok ([1] ++ (prependLength (metaSection m) ++ (if m.deleted > 0 then [] else pack8 fJSON ++ json))) := by
  have e : baseMarshalRecord (some m) dump = .ok (marshalBase m json) := by
    simp only [baseMarshalRecord, baseMarshal, marshalBase]
    by_cases hd : m.deleted > 0 <;> simp [hd, hdump]
  refine ⟨e, ?_⟩
  rw [e, marshalBase, marshalRecord_flat]
  simp [prependLength]

theorem base_marshalRecord_deleted (m : Meta) (hd : m.deleted > 0) (dump : Nat → Option Bytes) :
    baseMarshalRecord (some m) dump = .ok (marshalBase m []) := by
  simp [baseMarshalRecord, baseMarshal, marshalBase, hd]

/-- The error exits: a record without metadata cannot be serialised by any of the four functions; a failing
    codec fails `Marshal` and `MarshalRecord` of a live typed record (no partial output). -/
theorem marshal_error_exits (wf format : UInt8) (d : Bytes) (dump : Nat → Option Bytes) (fmt : Nat) :
    wrapperMarshal none wf d format = .error .missingMeta ∧ wrapperMarshalRecord none wf d = .error .missingMeta ∧
    baseMarshal none dump fmt = .error .missingMeta ∧ baseMarshalRecord none dump = .error .missingMeta ∧
    (∀ m : Meta, ¬ m.deleted > 0 → dump fJSON = none → baseMarshalRecord (some m) dump = .error .codec) ∧
    (∀ m : Meta, ¬ m.deleted > 0 → dump fmt = none → baseMarshal (some m) dump fmt = .error .codec) := by
  refine ⟨rfl, rfl, rfl, rfl, ?_, ?_⟩
  · intro m hl hd; simp [baseMarshalRecord, baseMarshal, hl, hd]
  · intro m hl hd; simp [baseMarshal, hl, hd]

/-! ### `Unwrap` on the real path -/

/-- A typed record serialised with `Base.MarshalRecord`, parsed with `NewRawWrapper(db, key, ·)` and unwrapped
    into a new record of its type gives the original back: same value (JSON codec as a parameter with its
    round-trip contract), the same metadata, the same key. -/
theorem unwrap_roundtrip {α : Type} (enc : α → Bytes) (dec : Bytes → Option α) (hcodec : ∀ v, dec (enc v) = some v)
    (m : Meta) (wf : m.InRange) (hlive : ¬ m.deleted > 0) (v : α) (db key : List Char)
    (r : Typed α) (hr : r.base.keyIsSet = false) :
    ∃ w r', newRawWrapper (marshalBase m (enc v)) = .ok w ∧
      unwrap (fun f d => if f = fJSON then dec d else none) (some (⟨db, key⟩, w)) r = .ok r' ∧
      r'.val = v ∧ r'.md = some m ∧ r'.base.key = db ++ ':' :: key := by
  obtain ⟨w, hw, hm, hf, hd⟩ := base_roundtrip enc dec hcodec m wf hlive v
  refine ⟨w, ⟨r.base.setKey (Base.key ⟨db, key⟩), some w.md, v⟩, hw, ?_, rfl, by simp [hm], ?_⟩
  · simp [unwrap, hf, hd]
  · exact key_transfer r.base ⟨db, key⟩ hr

/-- `Unwrap` fails (and returns no record) for a first argument that is not a wrapper and for data the codec
    rejects; a target that already has a key keeps it (`SetKey` is ignored), as the code is written. -/
theorem unwrap_exits {α : Type} (load : Nat → Bytes → Option α) (wb : Base) (w : Wrapper) (r : Typed α) :
    unwrap load none r = .error .notWrapper ∧
    (load w.format w.data = none → unwrap load (some (wb, w)) r = .error .load) ∧
    (∀ v, load w.format w.data = some v → r.base.keyIsSet = true →
      unwrap load (some (wb, w)) r = .ok ⟨r.base, some w.md, v⟩) := by
  refine ⟨rfl, ?_, ?_⟩
  · intro h; simp [unwrap, h]
  · intro v h hk; simp [unwrap, h, setKey_once r.base hk]

/-- `Meta.Duplicate` copies all six fields. -/
theorem meta_duplicate (m : Meta) : m.duplicate = m := rfl

/-! ### Non-vacuity -/

example : Meta.InRange ⟨-(2^63), 2^63 - 1, 1700000000, 0, true, false⟩ := by decide
example : newRawWrapper (marshalWrapper ⟨-1, 5, 0, 0, true, false⟩ 74 [0x7b, 0x7d])
    = .ok ⟨⟨-1, 5, 0, 0, true, false⟩, 74, [0x7b, 0x7d]⟩ := by
  have := wrapper_roundtrip ⟨-1, 5, 0, 0, true, false⟩ (by decide) 74 (by decide) [0x7b, 0x7d]
  simpa using this
example : newRawWrapper [1, 0xff, 0xff, 0xff, 0xff, 0xff, 0xff, 0xff, 0xff, 0xff, 0x01, 71] = .err (.metaBlock "nodata") := by
  simp [newRawWrapper, unpack8, getNextBlock, unpack64, uvarint, uvarintAux, Err.str]
-- the next four: a literal unfolds to `String.ofList` of its characters, which `String.toList_ofList` reads off
example : (Base.fresh.setKey "core:config/x:y".toList).databaseKey = "config/x:y".toList := by
  repeat rw [String.toList_ofList]
  decide
example : ((Base.fresh.setKey "a:b".toList).setKey "c:d".toList).key = "a:b".toList := by
  repeat rw [String.toList_ofList]
  decide
example : ((Base.fresh.setKey "nocolon".toList)).key = "nocolon:".toList := by
  repeat rw [String.toList_ofList]
  decide
example : (Base.fresh.setKey (Base.key ⟨"a:b".toList, "c".toList⟩)) = ⟨"a".toList, "b:c".toList⟩ := by
  repeat rw [String.toList_ofList]
  decide
example : wrapperMarshal (some ⟨0, 0, 0, 0, false, false⟩) 74 [1] 67 = .error .formatMismatch := by decide
example : wrapperMarshalRecord (some ⟨1, 2, 3, 4, false, true⟩) 74 [1, 2] = .ok (marshalWrapper ⟨1, 2, 3, 4, false, true⟩ 74 [1, 2]) :=
  (wrapper_marshalRecord_layout _ _ _).choose_spec.2.2

end PB.C08
