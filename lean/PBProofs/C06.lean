import PBProofs.Lemmas.ManagedInv
import PBProofs.Lemmas.ManagedStop
/-
C06 — A panic in managed code is contained, reported and leaves accounting intact.

Theorems about `PB.Managed` (lean/PB/Model/Managed.lean): any number of managed executions of every kind
(RunWorker/StartWorker, event hooks, API requests, service workers, tasks, microtasks, prep/start/stop
routines), each with an arbitrary sequence of outcomes `ok | err | canceled | restart | panic v` of its user
function, interleaved arbitrarily (`run` over any list of actions, new items arriving at any time).
`Reachable s` = some interleaving leads from an idle module to `s`.
-/
namespace PB.C06
open PB.Managed

/-- Accounting, at every moment of every interleaving: each work counter (`workerCnt`, `taskCnt`,
    `microTaskCnt`, global `microTasks`) is exactly the number of items currently between their increment
    and their decrement — whatever the functions of other items returned or panicked with. -/
theorem counters_count_running_items (s : St) (h : Reachable s) :
    s.w = sumBy Item.cw s.items ∧ s.t = sumBy Item.ct s.items ∧ s.m = sumBy Item.cm s.items ∧
    s.g = sumBy Item.cg s.items ∧ (s.c = true ↔ sumBy Item.cc s.items = 1) := by
  have hi := reachable_inv h
  exact ⟨hi.w, hi.t, hi.m, hi.g, hi.c_iff⟩

/-- An item that has finished — normally, with an error or by a panic, after any number of runs — has left
    no trace in any counter: they are what the *other* items account for. -/
theorem finished_item_leaves_no_trace (s : St) (h : Reachable s) (i : Nat) (it : Item)
    (hit : s.items[i]? = some it) (hd : it.done = true) (x : Item) (hx : x.done = true) :
    s.w = sumBy Item.cw (s.items.set i x) ∧ s.t = sumBy Item.ct (s.items.set i x) ∧
    s.m = sumBy Item.cm (s.items.set i x) ∧ s.g = sumBy Item.cg (s.items.set i x) := by
  have hi := reachable_inv h
  have z := fun f hf => sumBy_set_done (f := f) hit hd hx hf
  rw [z Item.cw (by simp), z Item.ct (by simp), z Item.cm (by simp), z Item.cg (by simp)]
  exact ⟨hi.w, hi.t, hi.m, hi.g⟩

/-- Counters restored: when everything that was started has finished, all four counters are back at zero
    and `ctrlFuncRunning` is unset — for every number of items, every kind, every outcome sequence
    (any number of panics with any values) and every interleaving. -/
theorem counters_restored (s : St) (h : Reachable s) (hd : s.allDone = true) :
    s.w = 0 ∧ s.t = 0 ∧ s.m = 0 ∧ s.g = 0 ∧ s.c = false := by
  have hi := reachable_inv h
  have z := fun f hf => allDone_sum hd (f := f) hf
  refine ⟨hi.w.trans (z _ (by simp)), hi.t.trans (z _ (by simp)), hi.m.trans (z _ (by simp)),
    hi.g.trans (z _ (by simp)), ?_⟩
  cases hc : s.c
  · rfl
  · have := hi.c_iff.mp hc
    rw [z Item.cc (by simp)] at this
    cases this

/-- Panic → panic error (blocking run variants RunWorker and Run*MicroTask): if the last run of the user
    function panicked with `v`, the call returns an error that identifies itself as a panic, carries exactly
    the value `recover()` delivered (never the nil interface) and a stack trace. -/
theorem panic_becomes_panic_error (s : St) (h : Reachable s) (i : Nat) (it : Item) (v : PCls)
    (hit : s.items[i]? = some it) (hk : it.kind = .runWorker ∨ it.kind = .mt true)
    (hd : it.done = true) (hp : it.cur = .panic v) :
    ∃ r, it.ret = some (.panicErr r) ∧ r.isPanic = true ∧ r.val = recovered v ∧ r.val ≠ .nil ∧ r.stack = true ∧
      (r.typ = .worker ∨ r.typ = .microtask) := by
  obtain ⟨t, ht, hret⟩ := blocking_ret ((reachable_inv h).loc i it hit) hk hd
  rw [hp, recoverRet_panic] at hret
  obtain ⟨hsev, hstack, hne, hval, htyp⟩ := panicReport_props t v
  exact ⟨panicReport t v, hret, by simp [Report.isPanic, hsev], hval, hne, hstack, htyp ▸ ht⟩

/-- … and without a panic the blocking variants hand the function's own result through unchanged. -/
theorem run_variant_returns_function_result (s : St) (h : Reachable s) (i : Nat) (it : Item)
    (hit : s.items[i]? = some it) (hk : it.kind = .runWorker ∨ it.kind = .mt true)
    (hd : it.done = true) (hp : it.cur.isPanic = false) :
    it.ret = some (match it.cur with | .err => .err | .canceled => .canceled | .restart => .restart | _ => .nil) := by
  obtain ⟨t, -, hret⟩ := blocking_ret ((reachable_inv h).loc i it hit) hk hd
  cases hc : it.cur <;> simp_all [recoverRet, Outcome.isPanic]

/-- API requests: a handler function that panics before it has written anything is answered with status 500,
    and the surrounding RunWorker returns nil (the handler-level recover has already dealt with the panic) —
    with dev mode off (plain page) and on (page with the panic value and the stack trace). -/
theorem api_panic_answers_500 (s : St) (h : Reachable s) (i : Nat) (it : Item) (v : PCls) (dev : Bool)
    (hit : s.items[i]? = some it) (hk : it.kind = .api false dev) (hd : it.done = true) (hp : it.cur = .panic v) :
    it.http = 500 ∧ it.ret = some .nil ∧ it.detail = dev := by
  have hl := (reachable_inv h).loc i it hit
  have hpc : it.pc = 5 := by simpa [Item.done, hk] using hd
  have := hl.api false dev hk (by omega)
  rw [hp] at this
  simp [httpStatus, Outcome.isPanic] at this
  exact ⟨this.2.1, this.1, this.2.2⟩

/-- API requests: the handler-level recover reports the panic through the module error channel — with the value
    `recover()` delivered, type "custom" — in both branches of its `if devMode()`, before it answers. -/
theorem api_panic_is_reported_in_every_mode (env : Env) (it : Item) (aw dev : Bool) (v : PCls)
    (hk : it.kind = .api aw dev) (hp : it.pc = 2) (hc : it.cur = .panic v) :
    ∃ it', itemStep env it false = some (it', { rep := some (panicReport .custom v) }) ∧
      it'.reps = it.reps + 1 ∧ it'.ret = some .nil ∧ it'.http = (if aw then 202 else 500) ∧ it'.detail = dev := by
  cases dev <;>
    simp [itemStep, workerStep, hk, hp, hc, recovered_ne_nil, httpStatus]

/-- Reported once: when all items have finished, the number of reports handed to `Report()` — delivered on
    the error channel or dropped because it was full — equals the number of panics raised, over all items,
    all their runs and all interleavings. -/
theorem reported_once (s : St) (h : Reachable s) (hd : s.allDone = true) :
    s.feed.length + s.dropped = sumNat Item.pans s.items := by
  have hi := reachable_inv h
  have hall := (allDone_iff s).mp hd
  rw [hi.reps]
  apply sumNat_congr
  intro it hit
  have := (inv_loc_mem hi hit).bal
  rw [done_pendingReport it (hall it hit)] at this
  omega

/-- … and none is lost as long as the channel (set, of capacity `cap`) has room — whether or not anybody
    reads it: then the feed holds exactly one report per panic. -/
theorem every_panic_delivered_when_channel_has_room (s : St) (h : Reachable s) (hd : s.allDone = true)
    (hset : s.chanSet = true) (hroom : sumNat Item.pans s.items ≤ s.cap) :
    s.dropped = 0 ∧ s.feed.length = sumNat Item.pans s.items := by
  have hi := reachable_inv h
  have h1 := reported_once s h hd
  obtain ⟨_, _, _, h4⟩ := hi.cap
  simp [hset] at h4
  -- a dropped report would mean `cap ≤ feed.length`, hence `pans ≤ feed.length < feed.length + dropped = pans`
  omega

/-- The source has the shape the model is written over (regenerated from /repo on every run): `ModuleError`
    declares none of `Unwrap` / `Is` / `As`; the switch of `runServiceWorker` has exactly these cases in this
    order; `Report()` takes the lock, sets `lastReportedError`, and sends with `select { case ch <- me: default: }`; the
    handler-level recover of the API creates and reports the panic error first and answers — dev-mode page or plain
    page, both 500 — afterwards. -/
theorem source_shape :
    PB.Gen.Managed.moduleErrorChainMethods = [] ∧
    PB.Gen.Managed.svcSwitch = [("err == nil", "return"), ("errors.Is(err, context.Canceled)", "return"),
      ("errors.Is(err, ErrRestartNow)", "loop"), ("default", "backoff")] ∧
    PB.Gen.Managed.reportSend = "select-default" ∧
    PB.Gen.Managed.reportSeq = ["lock", "defer unlock", "last = me", "send", "stderr"] ∧
    PB.Gen.Managed.apiRecoverSeq = ["new", "report", "if devMode { respond 500 detail } else { respond 500 plain }"] ∧
    -- `stopAllTasks` receives the stop routine's result into its own `err` — the one it reports to the pass — where
    -- its wait ends by completion (blocking receive) and where it ends by the stop timeout (receive or give up)
    PB.Gen.Managed.stopFetch = [("completed", "recv", "="), ("timeout", "select-default", "=")] ∧
    PB.Gen.Managed.stopReportErr = "err" ∧
    fetchAssigns "completed" = true ∧ fetchAssigns "timeout" = true :=
  ⟨rfl, rfl, rfl, rfl, rfl, rfl, rfl, fetchAssigns_completed, fetchAssigns_timeout⟩

/-- The report step, whatever the state of the channel (unset; capacity 0, 1, n; full; consumer reading,
    parked or gone): with room or a parked consumer the report is appended to the feed and nothing is dropped;
    otherwise the feed is unchanged, the report is counted as dropped and only `lastReportedError` keeps it. -/
theorem report_delivered_iff_room (s : St) (r : Report) :
    (s.canSend = true → (s.report r).feed = s.feed ++ [r] ∧ (s.report r).dropped = s.dropped) ∧
    (s.canSend = false → (s.report r).feed = s.feed ∧ (s.report r).dropped = s.dropped + 1) ∧
    (s.report r).last = some r :=
  ⟨report_delivered s r, report_dropped s r, report_last s r⟩

/-- Reporting never blocks: `Report()` runs inside the deferred recover block, before the counters are
    decremented and before the blocking run variant returns — the send is the non-blocking one, so no state
    of the channel can hold the recovering goroutine. -/
theorem report_never_blocks (s : St) : s.reportBlocks = false := reportBlocks_false s

/-- … and it touches nothing but the channel and `lastReportedError`: counters, flags and items are as before. -/
theorem report_leaves_accounting (s : St) (r : Report) :
    (s.report r).w = s.w ∧ (s.report r).t = s.t ∧ (s.report r).m = s.m ∧ (s.report r).g = s.g ∧
    (s.report r).c = s.c ∧ (s.report r).items = s.items ∧ (s.report r).stopFlag = s.stopFlag ∧
    (s.report r).stopCompleted = s.stopCompleted := by
  rw [report_frame]
  exact ⟨rfl, rfl, rfl, rfl, rfl, rfl, rfl, rfl⟩

/-- Nothing blocks: in every reachable state — in particular with the error channel unset, full or unread —
    every unfinished managed execution can take its next step (a prep/start/stop routine only waits for the
    module's control slot). Together with `counters_restored` and `module_still_stoppable`: every execution can
    run to its end, and then the counters are back and the stop completes. -/
theorem unfinished_item_can_step (s : St) (h : Reachable s) (i : Nat) (it : Item)
    (hit : s.items[i]? = some it) (hd : it.done = false)
    (hc : (it.kind = .ctrl ∨ it.kind = .stop) → it.pc = 0 → sumBy Item.cc s.items = 0) :
    ∃ s', step s (.item i false) = some s' := by
  have hl := (reachable_inv h).loc i it hit
  obtain ⟨it', e, hs⟩ := itemStep_enabled s.env it hl.bound hd (by
    intro hk hp; simpa [St.env] using hc hk hp)
  exact ⟨s.apply i it' e, by simp [step, hit, hs, reportBlocks_false]⟩

/-- The decision of the service-worker loop as a function of what `runWorker` returned: finished only for nil
    and for a returned error that wraps context.Canceled; a panic error always takes the back-off restart. -/
theorem service_worker_decision (r : Ret) :
    svcDecide r = (match r with
      | .nil => .finished | .canceled => .finished | .restart => .restartNow | .err => .backoff
      | .panicErr _ => .backoff) := svcDecide_eq r

/-- A panic error matches no sentinel the managed-execution code compares with, whatever the panic value is
    (an error that is or wraps context.Canceled, ErrRestartNow, context.DeadlineExceeded, ErrCleanExit, …). -/
theorem panic_error_matches_no_sentinel (t : TType) (v : PCls) (sn : Sentinel) :
    (Ret.panicErr (panicReport t v)).is sn = false := panicErr_is_no_sentinel _ sn

/-- Every report an item program makes identifies itself as a panic and carries a non-nil value and a stack trace. -/
theorem reports_identify_as_panic (s : St) (h : Reachable s) (r : Report) (hr : r ∈ s.feed) :
    r.isPanic = true ∧ r.stack = true ∧ r.val ≠ .nil := by
  have := (reachable_inv h).feedPanic r hr
  simp [Report.isPanic, this]

/-- The clause "reported through the channel" needs the proviso: with a full (here: unbuffered, unserviced)
    channel the report of a panicking worker is dropped; only `lastReportedError` keeps it. -/
theorem report_dropped_when_channel_full :
    (run (St.init 0) [.spawn { kind := .runWorker, outs := [.panic .str] }, .item 0 false, .item 0 false,
      .item 0 false, .item 0 false, .item 0 false]).map (fun s => (s.feed.length, s.dropped, s.last, s.allDone))
      = some (0, 1, some (panicReport .worker .str), true) := by decide

/-- Lifecycle: a prep routine that panics makes `Start()` return an error (whatever the other routines do). -/
theorem start_fails_when_prep_panics (preps starts : List (Option Outcome)) (v : PCls)
    (hp : some (.panic v) ∈ preps) :
    (startResult (preps.map fun o => (runCtrl .ctrl o).1) (starts.map fun o => (runCtrl .ctrl o).1)).isSome = true :=
  startResult_of_mem (r := .panicMsg) (.inl (List.mem_map.mpr ⟨_, hp, by rw [runCtrl_panic .ctrl (.inl rfl)]⟩)) rfl

/-- Lifecycle: a start routine that panics makes `Start()` return an error. -/
theorem start_fails_when_start_panics (preps starts : List (Option Outcome)) (v : PCls)
    (hp : some (.panic v) ∈ starts) :
    (startResult (preps.map fun o => (runCtrl .ctrl o).1) (starts.map fun o => (runCtrl .ctrl o).1)).isSome = true :=
  startResult_of_mem (r := .panicMsg) (.inr (List.mem_map.mpr ⟨_, hp, by rw [runCtrl_panic .ctrl (.inl rfl)]⟩)) rfl

/-- The two places where `stopAllTasks` fetches the stop routine's result: once the result is on the channel (the
    routine's goroutine has reported, cleared the control flag, run its check and sent), the stopper's step — whether
    its wait ends because `stopComplete` was closed or because the stop timeout fired (work of the module still
    running) — puts exactly that result into the `err` it reports to the pass. For every result, in every state. -/
theorem stop_result_fetched_on_both_paths (s : St) (i : Nat) (it : Item) (r : CtrlRet) (timeout : Bool)
    (hit : s.items[i]? = some it) (hw : it.stopperWaiting = true) (hs : it.sent = true) (hc : it.cret = some r)
    (hcomp : timeout = false → s.stopCompleted = true) :
    ∃ s' it', step s (.stopper i timeout) = some s' ∧ s'.items[i]? = some it' ∧ it'.waited = some timeout ∧
      it'.passErr = r ∧ it'.kind = it.kind ∧ it'.pc = it.pc ∧ s'.stopCompleted = s.stopCompleted := by
  have hg : timeout = true ∨ (s.stopCompleted = true ∧ it.sent = true) := by
    cases timeout
    · exact Or.inr ⟨hcomp rfl, hs⟩
    · exact Or.inl rfl
  let it' : Item := { it with waited := some timeout, sawSent := it.sent, passErr := stopErr timeout it.sent it.cret }
  refine ⟨{ s with items := s.items.set i it' }, it', ?_, set_getElem?_self hit, rfl, ?_, rfl, rfl, rfl⟩
  · simp only [step, hit, hw, hg, and_self, if_true, it']
  · simp only [it', hs, hc, stopErr_sent]

/-- … so in every reachable state: a stop item whose routine panicked and whose stopper has left its wait reports the
    panic error to the pass — after completion always, after a stop timeout whenever the routine's result was there
    when the stopper looked (`sawSent`; a stop routine that is itself still executing when the timeout fires is
    outside the statement: see the example below). -/
theorem stop_panic_reaches_report (s : St) (h : Reachable s) (i : Nat) (it : Item) (v : PCls) (w : Bool)
    (hit : s.items[i]? = some it) (hk : it.kind = .stop) (hf : it.hasFn = true) (hp : it.cur = .panic v)
    (hw : it.waited = some w) (hsaw : w = true → it.sawSent = true) :
    it.passErr = .panicMsg ∧ it.done = true := by
  have hl := (reachable_inv h).loc i it hit
  have hsl := (reachable_stopInv h).loc i it hit
  obtain ⟨p1, p2, p3⟩ := hsl.pass w hw
  have hss : it.sawSent = true := by
    cases w
    · exact p3 rfl
    · exact hsaw rfl
  have hpc : it.pc = 9 := hsl.sentS hk (p2 hss)
  have hc := hl.cretS hk hf (by omega)
  rw [hp, recoverCtrl_panic] at hc
  refine ⟨?_, by simp [Item.done, hk, hpc]⟩
  rw [p1, hss, hc, stopErr_sent]

/-- A module stopped on its own state (`runStop`): a panicking stop routine reaches the pass as a panic error and is
    reported once, whether all work returns in time or a worker outlives the stop timeout. -/
theorem stopped_module_reports_routine_panic (v : PCls) (linger : Bool) :
    runStop (some (.panic v)) linger = (.panicMsg, [panicReport .ctrl v]) := runStop_panic v linger

/-- Lifecycle: a management pass in which a stop routine (of a module whose work returns in time, or of one that
    runs into its stop timeout) or a start routine panics returns an error. -/
theorem manage_fails_when_routine_panics (stops : List (Option Outcome × Bool)) (starts : List (Option Outcome))
    (v : PCls) (l : Bool) (hp : (some (.panic v), l) ∈ stops ∨ some (.panic v) ∈ starts) :
    (manageResult (stops.map fun o => (runStop o.1 o.2).1) (starts.map fun o => (runCtrl .ctrl o).1)).isSome = true :=
  manageResult_of_mem (r := .panicMsg)
    (hp.imp (fun hp => List.mem_map.mpr ⟨_, hp, by rw [runStop_panic]⟩)
      (fun hp => List.mem_map.mpr ⟨_, hp, by rw [runCtrl_panic .ctrl (.inl rfl)]⟩)) rfl

/-- Lifecycle: a stop routine that panics makes `Shutdown()` return an error — also when a piece of work of that
    module outlives the stop timeout (`true` in the second component), whatever the other modules do. -/
theorem shutdown_fails_when_stop_panics (stops : List (Option Outcome × Bool)) (v : PCls) (l : Bool)
    (hp : (some (.panic v), l) ∈ stops) :
    (shutdownResult (stops.map fun o => (runStop o.1 o.2).1)).isSome = true :=
  passLastErr_of_mem (List.mem_map.mpr ⟨_, hp, by rw [runStop_panic]⟩) rfl

/-- The panicking routine itself is reported (as a panic of type "module-control") and leaves the module's
    own accounting clean: flag unset, stop complete. -/
theorem lifecycle_panic_is_reported (k : Kind) (hk : k = .ctrl ∨ k = .stop) (v : PCls) :
    runCtrl k (some (.panic v)) = (.panicMsg, [panicReport .ctrl v]) := runCtrl_panic k hk v

/-- Service workers are restarted (1): a service worker leaves its loop only when the module is stopping
    (stop flag or cancelled context) or its function ended with nil / context.Canceled — never because of a panic. -/
theorem service_worker_exits_only_when_finished_or_stopping (s : St) (h : Reachable s) (i : Nat) (it : Item)
    (hit : s.items[i]? = some it) (hk : it.kind = .svc) (hd : it.done = true) :
    s.stopFlag = true ∨ s.ctxDone = true ∨ it.cur = .ok ∨ it.cur = .canceled := by
  have hpc : it.pc = 7 := by simpa [Item.done, hk] using hd
  rcases (reachable_inv h).svc i it hit hk (by omega) with h | h | h
  · exact Or.inl h
  · exact Or.inr (Or.inl h)
  · right; right
    cases hc : it.cur <;>
      simp_all [restarts_eq]

/-- Service workers are restarted (2): after a run that panicked (or failed, or asked for a restart), with the
    module not stopping, at most three steps of the worker (report and back-off, timer, loop head) put it
    inside its function again; its worker count is kept throughout and no outcome is skipped. -/
theorem service_worker_restarts (env : Env) (it : Item) (hk : it.kind = .svc) (hp : it.pc = 3)
    (hr : it.cur.restarts = true) (hs : env.stopFlag = false) :
    ∃ n it', n ≤ 3 ∧ itemIter env n it = some it' ∧ it'.kind = .svc ∧ it'.inFn = true ∧ it'.cw = 1 ∧
      it'.outs = it.outs ∧ it'.runs = it.runs := by
  obtain ⟨n, it', h1, h2, h3, h4, h5, h6, h7⟩ := svc_restart_path env it hk hp hr hs
  exact ⟨n, it', h1, h2, h3, by simp [Item.inFn, h3, h4], h5, h6, h7⟩

/-- Service workers are restarted (3): on its own and never told to stop, a service worker whose function
    produces the outcomes `os` (and nil afterwards) runs it once per outcome up to and including the first
    nil / context.Canceled — every panic, error or restart request in between is followed by another run —
    and then ends. -/
theorem service_worker_runs_until_finished (env : Env) (hs : env.stopFlag = false) (os : List Outcome) :
    ∃ n it', itemIter env n { kind := .svc, outs := os } = some it' ∧ it'.done = true ∧ it'.runs = svcRuns os := by
  obtain ⟨n, it', h1, h2, h3, h4⟩ :=
    svc_loop_runs env hs os { kind := .svc, outs := os, pc := 1 } rfl rfl rfl
  refine ⟨n + 1, it', ?_, by simp [Item.done, h2, h3], by simpa using h4⟩
  rw [itemIter_succ (it1 := { kind := .svc, outs := os, pc := 1 }) (e := { dw := 1 }) (by simp [itemStep, svcStep])]
  exact h1

/-- A panic restarts: the premise of `service_worker_restarts` holds for every panic value — also for one
    that is or wraps context.Canceled or ErrRestartNow. -/
theorem panic_restarts_service_worker (v : PCls) : (Outcome.panic v).restarts = true := by
  simp [restarts_eq]

/-- … so: a service worker whose function panicked — with any value — while the module is not stopping is
    inside its function again after the report, the back-off and the loop head; it keeps its worker count. -/
theorem panic_in_service_worker_leads_to_restart (env : Env) (it : Item) (v : PCls) (hk : it.kind = .svc)
    (hp : it.pc = 3) (hc : it.cur = .panic v) (hs : env.stopFlag = false) :
    ∃ it', itemIter env 3 it = some it' ∧ it'.kind = .svc ∧ it'.inFn = true ∧ it'.cw = 1 ∧
      it'.reps = it.reps + 1 ∧ it'.failCnt = it.failCnt + 1 ∧ it'.outs = it.outs := by
  let it2 : Item :=
    { it with pc := 2, ret := some (.panicErr (panicReport .worker v)), reps := it.reps + 1, failCnt := it.failCnt + 1 }
  refine ⟨it2, ?_, by simp [it2, hk], by simp [it2, Item.inFn, hk], by simp [it2, Item.cw, hk], rfl, rfl, rfl⟩
  simp [itemIter, itemStep, svcStep, hk, hp, hc, recoverRet, recovered_ne_nil, svcDecide_panicErr, hs, it2]

/-- Tasks (1): in every reachable state a task's `executing` flag is set exactly while an execution is in
    progress; in particular it is reset after an execution that panicked. -/
theorem task_executing_reset (s : St) (h : Reachable s) (i : Nat) (it : Item)
    (hit : s.items[i]? = some it) (hk : it.kind = .task) :
    (it.executing = true ↔ 1 ≤ it.pc ∧ it.pc ≤ 6) ∧ (it.done = true → it.executing = false) := by
  have hl := (reachable_inv h).loc i it hit
  have he := hl.exec hk
  refine ⟨he, ?_⟩
  exact fun hd => hl.idle hk (by simpa [Item.done, hk] using hd)

/-- Tasks (2): the panicked task can run again — queued once more (module not stopping, task not cancelled)
    the queue handler's attempt puts it into execution. -/
theorem task_can_run_again (s : St) (h : Reachable s) (i : Nat) (it : Item) (outs : List Outcome)
    (hit : s.items[i]? = some it) (hk : it.kind = .task) (hd : it.done = true)
    (hc : it.canceled = false) (hs : s.stopFlag = false) (hx : s.ctxDone = false) :
    ∃ s1 s2 it2, step s (.queue i outs) = some s1 ∧ step s1 (.item i false) = some s2 ∧
      s2.items[i]? = some it2 ∧ it2.pc = 1 ∧ it2.executing = true ∧ it2.kind = .task := by
  have hex := (task_executing_reset s h i it hit hk).2 hd
  have hpc : it.pc = 7 ∨ it.pc = 8 := by simpa [Item.done, hk] using hd
  let it0 : Item := { it with pc := 0, outs := it.outs ++ outs }
  let s1 : St := { s with items := s.items.set i it0 }
  let it2 : Item := { it0 with pc := 1, executing := true }
  have h1 : step s (.queue i outs) = some s1 := by
    simp [step, hit, hk, hpc, s1, it0]
  have hit0 : s1.items[i]? = some it0 := set_getElem?_self hit
  have hstep : itemStep s1.env it0 false = some (it2, {}) := by
    simp [itemStep, taskStep, it0, it2, hk, hex, hc, St.env, s1, hs, hx]
  refine ⟨s1, s1.apply i it2 {}, it2, h1, ?_, ?_, rfl, rfl, by simp [it2, it0, hk]⟩
  · simp [step, hit0, hstep]
  · rw [apply_items]; exact set_getElem?_self hit0

/-- The module can still be stopped: once a stop has been initiated and everything — the stop routine and
    all workers, tasks and microtasks, however they ended — has finished, `checkIfStopComplete` has closed
    `stopComplete` (the last finisher saw all counters at zero), so `stopAllTasks` proceeds without waiting
    for the timeout. -/
theorem module_still_stoppable (s : St) (h : Reachable s) (hd : s.allDone = true) (hs : s.stopFlag = true) :
    s.stopCompleted = true := by
  have hi := reachable_inv h
  have z := allDone_sum hd (f := Item.pendingCheck) (by simp)
  cases hc : s.stopCompleted
  · have := hi.stop hs hc; omega
  · rfl

/-! ### Non-vacuity: concrete interleavings -/

/-- Three items (a RunWorker that panics with a string, a high-priority microtask that panics with nil, a
    healthy StartWorker) interleaved; all finish, counters are zero, two reports, the panic errors returned. -/
example :
    (run (St.init 8)
      [.spawn { kind := .runWorker, outs := [.panic .str] }, .spawn { kind := .mt true, outs := [.panic .nil] },
       .item 0 false, .spawn { kind := .startWorker, outs := [.ok] }, .item 1 false, .item 2 false, .item 1 false,
       .item 0 false, .item 1 false, .item 2 false, .item 0 false, .item 1 false, .item 2 false, .item 0 false,
       .item 1 false, .item 2 false, .item 0 false, .item 1 false, .item 2 false, .item 1 false]).map
      (fun s => (s.allDone, s.w, s.t, s.m, s.g, s.feed, s.items.map (·.ret)))
    = some (true, 0, 0, 0, 0, [panicReport .worker .str, panicReport .microtask .nil],
        [some (.panicErr (panicReport .worker .str)), some (.panicErr (panicReport .microtask .nil)), some .nil]) := by
  rfl

/-- A service worker whose function panics twice and then returns nil runs three times. -/
example :
    (run (St.init 8)
      ([.spawn { kind := .svc, outs := [.panic .rt, .panic .err, .ok] }] ++ List.replicate 14 (.item 0 false))).map
      (fun s => (s.allDone, s.w, s.feed.length, s.items.map (·.runs)))
    = some (true, 0, 2, [3]) := by
  rfl

example : svcRuns [.panic .rt, .err, .restart, .panic .nil, .ok, .panic .str] = 5 := by
  simp [svcRuns, restarts_eq]

/-- A task that panics, is queued again and runs to the end; a stop with a panicking stop routine completes. -/
example :
    (run (St.init 8)
      ([.spawn { kind := .task, outs := [.panic .strct] }] ++ List.replicate 7 (.item 0 false) ++
       [.queue 0 [.ok]] ++ List.replicate 7 (.item 0 false) ++
       [.spawn { kind := .stop, outs := [.panic .other] }] ++ List.replicate 9 (.item 1 false))).map
      (fun s => (s.allDone, s.t, s.c, s.stopFlag, s.stopCompleted, s.feed.length, s.items.map (·.runs), s.items.map (·.cret)))
    = some (true, 0, false, true, true, 2, [2, 1], [none, some .panicMsg]) := by
  rfl

/-- The hypotheses of `task_can_run_again` are met after a panicking execution. -/
example :
    (run (St.init 8) ([.spawn { kind := .task, outs := [.panic .str] }] ++ List.replicate 7 (.item 0 false))).map
      (fun s => (s.items.map (fun it => (it.done, it.canceled, it.executing, it.cur)), s.stopFlag, s.ctxDone))
    = some ([(true, false, false, .panic .str)], false, false) := by
  rfl

/-- An API handler that panics: 500, report of type "custom", RunWorker returns nil. -/
example :
    (run (St.init 8) ([.spawn { kind := .api false false, outs := [.panic .nil] }, .spawn { kind := .api false true, outs := [.panic .errCanceled] }]
        ++ List.replicate 5 (.item 0 false) ++ List.replicate 5 (.item 1 false))).map
      (fun s => (s.allDone, s.w, s.feed, s.items.map (fun it => (it.http, it.detail, it.ret))))
    = some (true, 0, [⟨.panic, .custom, .nilerr, true⟩, ⟨.panic, .custom, .errCanceled, true⟩],
        [(500, false, some .nil), (500, true, some .nil)]) := by
  rfl

/-- A service worker that panics with `context.Canceled`, with an error wrapping `ErrRestartNow`, and then
    returns a wrapped `context.Canceled`: three runs, two reports, both panics restarted with back-off. -/
example :
    (run (St.init 8)
      ([.spawn { kind := .svc, outs := [.panic .errCanceled, .panic .errRestart, .canceled] }] ++
        List.replicate 14 (.item 0 false))).map
      (fun s => (s.allDone, s.w, s.feed.length, s.items.map (fun it => (it.runs, it.failCnt))))
    = some (true, 0, 2, [(3, 2)]) := by
  rfl

/-- Three panicking workers, a channel of capacity 1 that nobody reads: all three return their panic error,
    the counters are back, one report delivered, two dropped. -/
example :
    (run (St.init 1)
      ([.spawn { kind := .runWorker, outs := [.panic .str] }, .spawn { kind := .mt true, outs := [.panic .rt] },
        .spawn { kind := .task, outs := [.panic .errCanceled] }] ++
        List.replicate 5 (.item 0 false) ++ List.replicate 7 (.item 1 false) ++ List.replicate 7 (.item 2 false))).map
      (fun s => (s.allDone, s.w, s.t, s.m, s.g, s.feed.length, s.dropped, s.items.map (fun it => it.ret.isSome)))
    = some (true, 0, 0, 0, 0, 1, 2, [true, true, false]) := by
  rfl

/-- An unbuffered channel with a consumer parked in the receive takes the report; without a channel it is only
    kept as `lastReportedError`. -/
example :
    (run (St.init 0)
      ([.recv, .spawn { kind := .runWorker, outs := [.panic .str] }] ++ List.replicate 5 (.item 0 false))).map
      (fun s => (s.allDone, s.feed, s.taken, s.waiting, s.dropped))
    = some (true, [panicReport .worker .str], 1, 0, 0) := by
  rfl
example :
    (run (St.init' false 4)
      ([.spawn { kind := .runWorker, outs := [.panic .str] }] ++ List.replicate 5 (.item 0 false))).map
      (fun s => (s.allDone, s.w, s.feed.length, s.dropped, s.last))
    = some (true, 0, 0, 1, some (panicReport .worker .str)) := by
  rfl

/-- A worker that ignores the stop (stays inside its function) and a stop routine that panics: the stop routine's
    goroutine runs to its end, `stopComplete` stays open (worker count 1), the wait can only end by the timeout, the
    non-blocking fetch finds the result; reported to the pass: the panic error. One panic report. -/
example :
    (run (St.init 8)
      ([.spawn { kind := .startWorker }, .item 0 false,
        .spawn { kind := .stop, outs := [.panic .str] }] ++ List.replicate 9 (.item 1 false) ++ [.stopper 1 true])).map
      (fun s => (s.w, s.stopCompleted, s.feed, s.items.map (fun it => (it.done, it.waited, it.sawSent, it.passErr))))
    = some (1, false, [panicReport .ctrl .str], [(false, none, false, .nil), (true, some true, true, .panicMsg)]) := by
  rfl
/-- … the completion branch is not enabled there (the channel is not closed) -/
example :
    (run (St.init 8)
      ([.spawn { kind := .startWorker }, .item 0 false,
        .spawn { kind := .stop, outs := [.panic .str] }] ++ List.replicate 9 (.item 1 false) ++ [.stopper 1 false])).isSome
    = false := by
  rfl
/-- … and when everything returns, both ways of ending the wait give the same report -/
example :
    (run (St.init 8)
      ([.spawn { kind := .stop, outs := [.panic .rt] }] ++ List.replicate 9 (.item 0 false) ++ [.stopper 0 false])).map
      (fun s => (s.stopCompleted, s.items.map (fun it => (it.waited, it.passErr))))
    = some (true, [(some false, .panicMsg)]) := by
  rfl
example :
    (run (St.init 8)
      ([.spawn { kind := .stop, outs := [.panic .rt] }] ++ List.replicate 9 (.item 0 false) ++ [.stopper 0 true])).map
      (fun s => (s.stopCompleted, s.items.map (fun it => (it.waited, it.passErr))))
    = some (true, [(some true, .panicMsg)]) := by
  rfl
/-- The proviso of `stop_panic_reaches_report`: a stop timeout that fires while the stop routine itself is still
    executing finds nothing on the channel ("stop function is still running"): nil is reported to the pass, the
    routine's later panic is reported on the error channel only. -/
example :
    (run (St.init 8)
      ([.spawn { kind := .stop, outs := [.panic .str] }] ++ List.replicate 4 (.item 0 false) ++ [.stopper 0 true] ++
        List.replicate 5 (.item 0 false))).map
      (fun s => (s.feed, s.items.map (fun it => (it.done, it.cret, it.waited, it.sawSent, it.passErr))))
    = some ([panicReport .ctrl .str], [(true, some .panicMsg, some true, false, .nil)]) := by
  rfl
/-- the stopper of a stop routine that has not been started yet is not waiting -/
example :
    (run (St.init 8) [.spawn { kind := .stop, outs := [.ok] }, .item 0 false, .stopper 0 true]).isSome = false := by
  rfl

/-- Lifecycle passes: a panicking start routine among healthy ones, a panicking stop routine. -/
example : startResult ([some .ok, none].map fun o => (runCtrl .ctrl o).1)
    ([some .ok, some (.panic .str), none].map fun o => (runCtrl .ctrl o).1) = some .panicMsg := by rfl
example : shutdownResult ([(some .ok, false), (some (.panic .rt), true), (none, false)].map fun o => (runStop o.1 o.2).1)
    = some .panicMsg := by
  rfl
example : (runStop (some .err) true).1 = .err ∧ (runStop none true).1 = .nil ∧ (runStop (some .ok) false).1 = .nil := by
  refine ⟨rfl, rfl, rfl⟩

end PB.C06
