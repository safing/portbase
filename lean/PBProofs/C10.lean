import PBProofs.Lemmas.Varint
import PB.Gen.Varint
/-
C10 — Varint pack/unpack are exact inverses with exact byte accounting.
The lemmas are in PBProofs/Lemmas/Varint.lean; a theorem here that restates one gives it the property's name.
-/
namespace PB.C10
open PB PB.Varint

/-! ### Round trip with exact byte accounting, arbitrary trailing bytes -/

theorem unpack8_pack8 (n : Nat) (h : n < 2 ^ 8) (rest : Bytes) :
    unpack8 (pack8 n ++ rest) = .ok (n, (pack8 n).length) :=
  unpack8_put n h rest

theorem unpack16_pack16 (n : Nat) (h : n < 2 ^ 16) (rest : Bytes) :
    unpack16 (pack16 n ++ rest) = .ok (n, (pack16 n).length) :=
  unpackW_put 65535 n rest (by omega) (by omega)

theorem unpack32_pack32 (n : Nat) (h : n < 2 ^ 32) (rest : Bytes) :
    unpack32 (pack32 n ++ rest) = .ok (n, (pack32 n).length) :=
  unpackW_put 4294967295 n rest (by omega) (by omega)

theorem unpack64_pack64 (n : Nat) (h : n < 2 ^ 64) (rest : Bytes) :
    unpack64 (pack64 n ++ rest) = .ok (n, (pack64 n).length) :=
  unpack64_put n h rest

/-! ### Shortest standard form; advertised size (regenerated table) -/

theorem pack64_standard (n : Nat) : Standard (pack64 n) := putUvarint_standard n

/-- The hand-written `Pack8` produces the same bytes as the generic encoder. -/
theorem pack8_eq_putUvarint (n : Nat) (h : n < 2 ^ 8) : pack8 n = putUvarint n := by
  unfold pack8
  by_cases hn : n < 128
  · simp [hn, putUvarint_lt hn]
  · rw [putUvarint_ge hn, putUvarint_lt (show n / 128 < 128 by omega)]
    have h1 : n % 128 + 128 = n := by omega
    have h2 : n / 128 = 1 := by omega
    simp [hn, h1, h2]

theorem pack_length_eq_encodedSize (n : Nat) (h : n < 2 ^ 64) :
    (pack64 n).length = PB.Gen.Varint.encodedSize n := by
  unfold PB.Gen.Varint.encodedSize pack64
  -- the thresholds of the table are the powers of 128, in order
  refine putUvarint_length_ite 0 n _ (putUvarint_length_pos n) fun hk => ?_
  refine putUvarint_length_ite 1 n _ hk fun hk => ?_
  refine putUvarint_length_ite 2 n _ hk fun hk => ?_
  refine putUvarint_length_ite 3 n _ hk fun hk => ?_
  refine putUvarint_length_ite 4 n _ hk fun hk => ?_
  refine putUvarint_length_ite 5 n _ hk fun hk => ?_
  refine putUvarint_length_ite 6 n _ hk fun hk => ?_
  refine putUvarint_length_ite 7 n _ hk fun hk => ?_
  refine putUvarint_length_ite 8 n _ hk fun hk => ?_
  exact Nat.le_antisymm (putUvarint_length_le 9 n (by omega)) hk

/-- No accepted encoding of `n` is shorter than the packed form. -/
theorem pack_minimal (bs : Bytes) (n k : Nat) (h : uvarint bs = .ok n k) : (pack64 n).length ≤ k := by
  obtain ⟨h1, h2, _, h4, _⟩ := uvarint_ok h
  have hv := value_lt (bs.take k)
  rw [← h4, List.length_take_of_le (by omega)] at hv
  obtain ⟨j, rfl⟩ : ∃ j, k = j + 1 := ⟨k - 1, by omega⟩
  exact putUvarint_length_le j n hv

/-! ### Soundness of decoding on arbitrary byte strings -/

theorem uvarint_sound (bs : Bytes) (v k : Nat) (h : uvarint bs = .ok v k) :
    0 < k ∧ k ≤ bs.length ∧ v < 2 ^ 64 ∧ v = value (bs.take k) := by
  obtain ⟨h1, h2, _, h4, h5⟩ := uvarint_ok h
  exact ⟨h1, h2, h5, h4⟩

theorem unpackW_sound (limit : Nat) (bs : Bytes) (v k : Nat) (h : unpackW limit bs = .ok (v, k)) :
    0 < k ∧ k ≤ bs.length ∧ v ≤ limit ∧ v = value (bs.take k) := by
  unfold unpackW at h
  split at h
  · cases h
  · cases h
  · rename_i v' k' hu
    split at h
    · cases h
    · injection h with h; injection h with hv hk; subst hv hk
      obtain ⟨a, b, _, d⟩ := uvarint_sound bs v' k' hu
      exact ⟨a, b, by omega, d⟩

theorem unpack64_sound (bs : Bytes) (v k : Nat) (h : unpack64 bs = .ok (v, k)) :
    0 < k ∧ k ≤ bs.length ∧ v < 2 ^ 64 ∧ v = value (bs.take k) := by
  unfold unpack64 at h
  split at h
  · cases h
  · cases h
  · rename_i v' k' hu
    injection h with h; injection h with hv hk; subst hv hk
    exact uvarint_sound bs v' k' hu

theorem unpack8_sound (bs : Bytes) (v k : Nat) (h : unpack8 bs = .ok (v, k)) :
    0 < k ∧ k ≤ bs.length ∧ v < 2 ^ 8 ∧ pack8 v = bs.take k := by
  cases bs with
  | nil => simp [unpack8] at h
  | cons b0 rest =>
    have hb0 : b0.toNat < 256 := b0.toNat_lt
    by_cases hlt : b0.toNat < 128
    · simp [unpack8, hlt] at h
      obtain ⟨hv, hk⟩ := h; subst hv hk
      refine ⟨by omega, by simp, by omega, ?_⟩
      simp [pack8, hlt]
    · cases rest with
      | nil => simp [unpack8, hlt] at h
      | cons b1 rest' =>
        by_cases hb1 : b1 = 1
        · simp [unpack8, hlt, hb1] at h
          obtain ⟨hv, hk⟩ := h; subst hv hk
          refine ⟨by omega, by simp, by omega, ?_⟩
          simp [pack8, hlt, hb1]
        · simp [unpack8, hlt, hb1] at h

/-! ### Error cases: truncated input, value too large for the width -/

theorem truncated_is_small (n j : Nat) (h : n < 2 ^ 64) (hj : j < (pack64 n).length) :
    unpack64 ((pack64 n).take j) = .error .small := by
  have hlen : (pack64 n).length ≤ 10 := putUvarint_length_le 9 n (by omega)
  have := uvarintAux_truncated n 0 0 j hj (by rw [Nat.zero_add]; exact Nat.le_of_lt (Nat.lt_of_lt_of_le hj hlen))
  simp [unpack64, uvarint, pack64, this]

theorem too_large_is_error (limit n : Nat) (rest : Bytes) (h : n < 2 ^ 64) (hl : limit < n) :
    unpackW limit (putUvarint n ++ rest) = .error .large := by
  simp [unpackW, uvarint_put n rest h, hl]

/-! ### Length-prefixed blocks -/

theorem getNextBlock_sound (bs blk : Bytes) (tot : Nat) (h : getNextBlock bs = .ok (blk, tot)) :
    tot ≤ bs.length ∧ ∃ n, 0 < n ∧ n ≤ tot ∧ blk = (bs.drop n).take (tot - n) ∧ blk.length = tot - n := by
  unfold getNextBlock at h
  split at h
  · cases h
  · rename_i l n hu
    obtain ⟨hn, hn2, _, _⟩ := unpack64_sound bs l n hu
    split at h
    · cases h
    · simp only at h
      split at h
      · cases h
      · injection h with h; injection h with hb ht; subst hb ht
        refine ⟨by omega, n, hn, by omega, by simp, ?_⟩
        simp; omega

/-- Every declared length that exceeds what is available is an error — for every length up to 2^64-1
    (and beyond): never a panic, a negative length or a wrong value. -/
theorem getNextBlock_rejects (bs : Bytes) (l n : Nat) (hu : unpack64 bs = .ok (l, n))
    (hbig : bs.length < l + n) : getNextBlock bs = .error .nodata := by
  unfold getNextBlock
  simp only [hu]
  by_cases h1 : l > bs.length
  · simp [h1]
  · simp [h1]; omega

theorem getNextBlock_prependLength (d rest : Bytes) (h : d.length < 2 ^ 64) :
    getNextBlock (prependLength d ++ rest) = .ok (d, (prependLength d).length) := by
  unfold getNextBlock prependLength
  have hu := unpack64_pack64 d.length h (d ++ rest)
  rw [List.append_assoc, hu]
  have hp := putUvarint_length_pos d.length
  have h1 : ¬ d.length > (pack64 d.length ++ (d ++ rest)).length := by simp; omega
  have h2 : ¬ d.length + (pack64 d.length).length > (pack64 d.length ++ (d ++ rest)).length := by simp; omega
  simp only [h1, h2, if_false]
  simp [Nat.add_comm]

/-! ### Non-vacuity: concrete boundary values meet the hypotheses -/

example : unpack64 (pack64 127 ++ [7]) = .ok (127, 1) := by
  simp [pack64, putUvarint, unpack64, uvarint, uvarintAux]
example : pack64 128 = [0x80, 0x01] := by simp [pack64, putUvarint]
example : pack8 200 = [200, 1] ∧ unpack8 [200, 1, 9] = .ok (200, 2) := by decide
example : (pack64 (2 ^ 14 - 1)).length = 2 ∧ (pack64 (2 ^ 14)).length = 3 := by simp [pack64, putUvarint]
example : (pack64 (2 ^ 63)).length = 10 ∧ (pack64 (2 ^ 64 - 1)).length = 10 := by simp [pack64, putUvarint]
example : unpack64 (pack64 (2 ^ 64 - 1)) = .ok (2 ^ 64 - 1, 10) := by
  simp [pack64, putUvarint, unpack64, uvarint, uvarintAux]
example : getNextBlock (pack64 (2 ^ 64 - 1) ++ [1, 2, 3]) = .error .nodata := by
  simp [pack64, putUvarint, unpack64, uvarint, uvarintAux, getNextBlock]
example : getNextBlock (pack64 (2 ^ 63) ++ [1, 2, 3]) = .error .nodata := by
  simp [pack64, putUvarint, unpack64, uvarint, uvarintAux, getNextBlock]
example : getNextBlock [2, 5, 6, 7] = .ok ([5, 6], 3) := by decide

end PB.C10
