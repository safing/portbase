import PBProofs.Lemmas.Log
import PB.Gen.Log
/-
C20 — No enabled log line is lost, duplicated or reordered.
Property theorems, then concrete runs and checker inputs that meet their hypotheses (helper lemmas live in
PBProofs/Lemmas/Log.lean). The model is PB/Model/Log.lean:
`Reachable` quantifies over every buffer capacity, paced or free-running writer, every number of
producer goroutines, every history of calls/submissions/level changes and every interleaving, with
Shutdown at any moment.
-/
namespace PB.C20
open PB PB.Log

/-! ### Duplicate merging: an adapter write stands for `duplicates + 1` copies, nothing else -/

/-- One writeLoop round over any batch: the writes, expanded, are exactly the batch, in order. -/
theorem merge_expand (ls : List Line) : expand (mergeRuns ls) = ls := (mergeRuns_spec ls).1

/-- The merge decision, over the `Equal` regenerated from log/logging.go (`PB.Gen.Log.lineEqual`): two lines
    are identified exactly when NEITHER was submitted by a context tracer and message, file, line and level
    agree (the timestamp is deliberately not compared). `||` → `&&` in the tracer case, a dropped field
    comparison or an added case in the source changes the generated function and breaks this proof. -/
theorem merge_decision (a b : Line) :
    a.equal b = true ↔
      (a.trace = none ∧ b.trace = none ∧ a.msg = b.msg ∧ a.file = b.file ∧ a.line = b.line ∧ a.lvl = b.lvl) :=
  equal_iff a b

/-- The regenerated switch has the five cases the model was written against, in this order. -/
theorem merge_decision_source :
    PB.Gen.Log.equalCases = ["ll.msg != ol.msg", "ll.tracer != nil || ol.tracer != nil", "ll.file != ol.file",
      "ll.line != ol.line", "ll.level != ol.level"] := rfl

/-- Only lines that `logLine.Equal` identifies are merged, and those are equal in every observable field and
    are not tracer submissions (neither of them). -/
theorem merged_lines_identical (a b : Line) (h : a.equal b = true) :
    a = b ∧ a.trace = none ∧ b.trace = none := by
  have hq := (equal_iff a b).mp h
  exact ⟨equal_eq h, hq.1, hq.2.1⟩

/-- A tracer submission is identified with nothing: not with a plain line of the same text, call site and
    level (in either order), not with another submission, not with itself. -/
theorem tracer_never_equal (a b : Line) (h : a.trace.isSome = true ∨ b.trace.isSome = true) :
    a.equal b = false := by
  cases he : a.equal b with
  | false => rfl
  | true =>
    have hq := (equal_iff a b).mp he
    rcases h with h | h <;> simp_all

/-- One writeLoop round over any batch: no write of a tracer line carries a repetition count … -/
theorem tracer_lines_never_merged (ls : List Line) :
    ∀ w ∈ mergeRuns ls, w.1.trace.isSome = true → w.2 = 0 := (mergeRuns_spec ls).2

/-- … and the tracer submissions of the batch are written one by one, each exactly once, in order, with
    everything they carry (a `Line` includes its collected entries), wherever they stand in the batch. -/
theorem batch_keeps_every_tracer_submission (ls : List Line) :
    ((mergeRuns ls).filter (·.1.trace.isSome)).map (·.1) = ls.filter (·.trace.isSome) := by
  rw [← expand_filter_tracer _ (mergeRuns_spec ls).2, merge_expand]

/-! ### Exactly once, in order -/

/-- In every reachable state the adapter output, expanded, followed by what the writer still holds and
    what is still buffered, is exactly the sequence of enqueued lines: nothing lost, nothing duplicated,
    nothing reordered between enqueue and adapter. -/
theorem output_is_enqueued_prefix {s : St} (h : Reachable s) :
    expand s.out ++ s.w.pending ++ s.buf.map (·.2) = s.enq.map (·.2) := by
  have hi := inv_reachable h
  rw [hi.d2, ← hi.d1]; simp

/-- Per goroutine: what it has logged at or above the level in force (in program order) is what it has
    enqueued (in channel order) plus the one line it may be holding while blocked. -/
theorem fifo_per_producer {s : St} (h : Reachable s) (p : Nat) :
    s.logged p = proj p s.deq ++ proj p s.buf ++ (s.prods p).pending := by
  have hi := inv_reachable h
  rw [← hi.p1 p, ← hi.d1, proj_append]

/-- When nothing is in flight (buffer empty, writer holds nothing, no goroutine inside a call holding a
    line) the expanded adapter output is an interleaving of the goroutines' accepted lines: there is a
    labelling of the output by goroutines whose projection on every goroutine is exactly what that
    goroutine logged, in its order — every enabled line exactly once. -/
theorem exactly_once_when_drained {s : St} (h : Reachable s) (hb : s.buf = []) (hw : s.w.cur = none)
    (hp : ∀ p, (s.prods p).pending = []) :
    ∃ xs : List Owned, xs.map (·.2) = expand s.out ∧ ∀ p, proj p xs = s.logged p := by
  have hi := inv_reachable h
  refine ⟨s.enq, ?_, ?_⟩
  · have := output_is_enqueued_prefix h
    rw [hb, Writer.pending_of_cur_none hw] at this
    simpa using this.symm
  · intro p
    have := hi.p1 p
    rw [hp p] at this
    simpa using this

/-- In every reachable state no adapter write of a tracer submission carries a repetition count: a
    submission is never counted as a repetition of another line, nor another line as a repetition of it. -/
theorem tracer_writes_unmerged {s : St} (h : Reachable s) :
    ∀ w ∈ s.out, w.1.trace.isSome = true → w.2 = 0 := (trinv_reachable h).t2

/-- While the writer counts repetitions, the line it holds is a plain line. -/
theorem writer_counts_only_plain_lines {s : St} (h : Reachable s) (c : Line) (hc : s.w.cur = some c)
    (hd : 0 < s.w.dups) : c.trace = none := (trinv_reachable h).t1 c hc hd

/-- Every tracer submission is accounted for on its own: the tracer writes the adapter received (one call
    each), followed by the submissions the writer holds or that are still buffered, are exactly the
    submissions that were enqueued, in order — each once, with its collected entries. -/
theorem tracer_submissions_exactly_once {s : St} (h : Reachable s) :
    (s.out.filter (·.1.trace.isSome)).map (·.1) ++
        (s.w.pending ++ s.buf.map (·.2)).filter (·.trace.isSome) =
      (s.enq.map (·.2)).filter (·.trace.isSome) := by
  rw [← output_is_enqueued_prefix h, ← expand_filter_tracer _ (tracer_writes_unmerged h)]
  simp [List.filter_append]

/-- A goroutine blocked on a full buffer holds exactly its next line; the buffer never exceeds its capacity. -/
theorem full_buffer_blocks_but_preserves_order {s : St} (h : Reachable s) (p : Nat) (l : Line)
    (hf : s.prods p = .forcing l) :
    s.logged p = proj p s.enq ++ [l] ∧ s.buf.length ≤ s.cap := by
  have hi := inv_reachable h
  refine ⟨?_, hi.cp⟩
  rw [← hi.p1 p, hf]; rfl

/-! ### Level filter -/

/-- The filter of `log()` is the comparison with the level in force for the origin. -/
theorem enabled_iff_threshold (c : Levels) (p lvl : Nat) :
    enabled c (some p) lvl = true ↔ threshold c p ≤ lvl := by
  unfold enabled threshold
  cases c.active with
  | false => simp
  | true => cases hl : lookupPkg c.pkgs p <;> simp [hl]

/-- `fastcheck` never rejects what the filter would accept. -/
theorem enabled_implies_fastcheck (c : Levels) (pkg : Option Nat) (lvl : Nat)
    (h : enabled c pkg lvl = true) : fastcheck c lvl = true := by
  rw [fastcheck_iff]
  unfold enabled at h
  cases ha : c.active <;> simp_all

/-- A goroutine's log of accepted lines grows only by a filter step that found the line enabled under
    the levels in force at that step, or by a tracer submission. -/
theorem filtered_never_accepted {s s' : St} {a : Act} (hs : step s a = some s') (p : Nat) :
    s'.logged p = s.logged p ∨
    ∃ l, s'.logged p = s.logged p ++ [l] ∧
      ((∃ pkg, a = .p p (.filter true) ∧ s.prods p = .inLog l pkg ∧ enabled s.lv pkg l.lvl = true) ∨
       (a = .p p (.submit l) ∧ l.trace.isSome ∧
          ∃ t, s.tr p = some t ∧ submitLine (t.logs.map (·.e)) = some l)) := by
  cases step_sound hs with
  | @accept pid l pkg hp hen =>
    by_cases h : p = pid
    · subst h; exact .inr ⟨l, by simp [St.accept, upd], .inl ⟨pkg, rfl, hp, hen⟩⟩
    · exact .inl (by simp [St.accept, upd, h])
  | @submit pid l t _ hl ht hsub =>
    by_cases h : p = pid
    · subst h; exact .inr ⟨l, by simp [St.accept, upd], .inr ⟨rfl, hl, t, ht, hsub⟩⟩
    · exact .inl (by simp [St.accept, upd, h])
  | _ => exact .inl rfl

/-- Whatever reaches the adapter was accepted by some goroutine's filter (or submitted by a tracer). -/
theorem written_lines_were_accepted {s : St} (h : Reachable s) (l : Line) (hl : l ∈ expand s.out) :
    ∃ p, l ∈ s.logged p := by
  have hi := inv_reachable h
  have h1 : l ∈ s.deq.map (·.2) := by rw [← hi.d2]; exact List.mem_append_left _ hl
  obtain ⟨x, hx, rfl⟩ := List.mem_map.mp h1
  refine ⟨x.1, ?_⟩
  rw [← hi.p1 x.1, ← hi.d1]
  apply List.mem_append_left
  simp only [proj, List.mem_map, List.mem_filter]
  exact ⟨x, ⟨List.mem_append_left _ hx, by simp⟩, rfl⟩

/-! ### The levels in force at Start: flags, `ParseLevel`, `Severity.Name` -/

/-- `ParseLevel` knows exactly the six severities: its result is 0 (unknown name) or one of them … -/
theorem parseLevel_range (s : String) :
    parseLevel s = 0 ∨ ∃ c ∈ PB.Gen.Log.severities, c.2 = parseLevel s := by
  unfold parseLevel lookupLevel
  generalize s.toLower = t
  simp only [PB.Gen.Log.levelNames, List.lookup]
  repeat' split
  -- the six names, then the default
  iterate 6 exact .inr (by decide)
  exact .inl rfl

/-- … and it reads back what `Severity.Name` prints, for every severity (both tables regenerated). -/
theorem parseLevel_reads_names : ∀ c ∈ PB.Gen.Log.severities, lookupLevel (severityName c.2) = c.2 := by decide

/-- Without flags Start leaves the levels as they were set before. -/
theorem start_without_flags (f : String → Nat) (pre : Levels) : startLevels f pre "" "" = pre := by
  simp [startLevels]

/-- `-log`: a known name sets the global level to that severity, an unknown one to info. -/
theorem start_log_flag (f : String → Nat) (pre : Levels) (lf pf : String) (h : lf ≠ "") :
    (startLevels f pre lf pf).glob = if parseLevel lf = 0 then PB.Gen.Log.infoLevel else parseLevel lf := by
  unfold startLevels
  by_cases hp : pf = "" <;> simp [h, hp]

/-- A non-empty `-plog` activates the package levels (whatever could be read of it) and replaces the
    package levels set before Start; an empty one leaves them alone. -/
theorem start_plog_flag (f : String → Nat) (pre : Levels) (lf pf : String) :
    (pf ≠ "" → (startLevels f pre lf pf).active = true) ∧
    (pf = "" → (startLevels f pre lf pf).active = pre.active ∧ (startLevels f pre lf pf).pkgs = pre.pkgs) := by
  unfold startLevels
  by_cases hp : pf = "" <;> simp [hp]

/-- The `-plog` loop stops at the first pair that is not `name=<known level>`: what follows is not read. -/
theorem parsePairs_stops (good : List (List String)) (bad : List String) (rest : List (List String))
    (acc : List (String × Nat)) (hb : ∀ k v, bad = [k, v] → parseLevel v = 0) :
    parsePairs (good ++ bad :: rest) acc = parsePairs (good ++ [bad]) acc := by
  induction good generalizing acc with
  | nil =>
    match bad, hb with
    | [], _ => simp [parsePairs]
    | [_], _ => simp [parsePairs]
    | [k, v], hb => simp [parsePairs, hb k v rfl]
    | _ :: _ :: _ :: _, _ => simp [parsePairs]
  | cons g gs ih =>
    match g with
    | [] => simp [parsePairs]
    | [_] => simp [parsePairs]
    | [k, v] =>
      simp only [List.cons_append, parsePairs]
      split
      · rfl
      · exact ih _
    | _ :: _ :: _ :: _ => simp [parsePairs]

/-- A well-formed pair sets its package's level (replacing an earlier entry for the same package). -/
theorem parsePairs_pair (k v : String) (rest : List (List String)) (acc : List (String × Nat))
    (hv : parseLevel v ≠ 0) :
    parsePairs ([k, v] :: rest) acc = parsePairs rest (setPkg acc k (parseLevel v)) ∧
      (setPkg acc k (parseLevel v)).lookup k = some (parseLevel v) := by
  simp [parsePairs, hv, setPkg]

/-! ### Wake-up handshake -/

/-- No lost wake-up: whenever the writer sleeps in its first select while lines are buffered, a wake-up
    is in flight — the token is in `logsWaiting`, or a producer is about to set the flag or to send it. -/
theorem no_lost_wakeup {s : St} (h : Reachable s) (hw : s.w.pc = .waitLogs) (hb : s.buf ≠ []) :
    s.token = true ∨ ∃ p, s.prods p = .sent ∨ s.prods p = .won := (inv_reachable h).wakeup hw hb

/-- The `default:` branch of the wake-up select in `log()` (token dropped because `logsWaiting` is full)
    is never taken, and the blocking send in `Submit()` never blocks. -/
theorem token_never_dropped {s : St} (h : Reachable s) (p : Nat) : step s (.p p .tokFull) = none := by
  have hi := inv_reachable h
  simp only [step]
  split
  · rename_i hw
    by_cases ht : s.token = true
    · exact absurd hw ((hi.f2 ht).2 p)
    · simp [ht]
  · rfl

/-- The flag is set exactly while one wake-up is in flight. -/
theorem flag_iff_wakeup_in_flight {s : St} (h : Reachable s) :
    s.flag = true ↔ (s.token = true ∨ s.w.pc = .gotToken ∨ ∃ p, s.prods p = .won) := by
  have hi := inv_reachable h
  constructor
  · exact hi.f5
  · intro hx
    cases hf : s.flag with
    | true => rfl
    | false =>
      obtain ⟨a, b, c⟩ := hi.f1 hf
      rcases hx with ht | hg | ⟨p, hp⟩
      · rw [a] at ht; cases ht
      · exact absurd hg b
      · exact absurd hp (c p)

/-! ### Shutdown -/

/-- `Shutdown` returns (the writer is done) only after everything enqueued before the shutdown request
    has been handed to the adapter: those lines are a prefix of the expanded output. -/
theorem shutdown_drains {s : St} (h : Reachable s) (hd : s.w.pc = .done) :
    s.shut = true ∧ ∃ rest, expand s.out = (s.enq.take s.enqAtShut).map (·.2) ++ rest := by
  have hi := inv_reachable h
  refine ⟨hi.sh (Or.inr hd), ?_⟩
  have hc : s.w.cur = none := hi.wc (by rw [hd]; simp)
  have h2 := hi.d2
  rw [Writer.pending_of_cur_none hc, List.append_nil] at h2
  have hle := hi.sd hd
  refine ⟨(s.deq.drop s.enqAtShut).map (·.2), ?_⟩
  rw [h2, ← hi.d1, List.take_append_of_le_length hle, ← List.map_append, List.take_append_drop]

/-- The shutdown request records how much had been enqueued at that moment. -/
theorem shutdown_request_marks_enqueued {s s' : St} (hs : step s .shutdown = some s') (hn : s.shut = false) :
    s'.shut = true ∧ s'.enqAtShut = s.enq.length := by
  simp [step, hn] at hs
  subst hs
  simp

/-! ### Delivery does not depend on Shutdown -/

/-- In every reachable state of a free-running logger in which no goroutine is inside a log call and the
    writer has not exited, the writer's own steps (no help from producers, no Shutdown) lead to a state in
    which the buffer is empty and everything ever enqueued has been handed to the adapter, in order. -/
theorem delivery_without_shutdown {s : St} (h : Reachable s) (hp : s.paced = false)
    (hq : ∀ p, s.prods p = .idle) (hd : s.w.pc ≠ .done) :
    ∃ as s', (∀ a ∈ as, ∃ e, a = Act.w e) ∧ run s as = some s' ∧ s'.buf = [] ∧
      expand s'.out = s.enq.map (·.2) := by
  obtain ⟨as, s', hw, hr, hb, hc, he⟩ := canDrain_of_reachable h hp hq hd
  refine ⟨as, s', hw, hr, hb, ?_⟩
  have := output_is_enqueued_prefix (reachable_run h hr)
  rw [hb, Writer.pending_of_cur_none hc, List.map_nil, List.append_nil, List.append_nil] at this
  rw [this, he]

/-! ### The automata the trace acceptor replays are the local moves of the global step -/

/-- Every producer move of the interleaving semantics is a move of the per-goroutine automaton `pstep`
    through which the driver replays the recorded path of every log call. -/
theorem step_p_pstep {s s' : St} {pid : Nat} {e : PEv} (hs : step s (.p pid e) = some s') :
    pstep (s.prods pid) e = some (s'.prods pid) := by
  -- each producer rule writes to `prods pid` what `pstep` yields from the state in its guard
  cases step_sound hs <;> simp [pstep, upd, St.accept, St.push, *]

/-- Every writer move is a move of the writer automaton `wstep` through which the driver replays the
    recorded writer trace, and the adapter output grows by exactly the writes `wstep` prescribes. -/
theorem step_w_wstep {s s' : St} {e : WEv} (hs : step s (.w e) = some s') :
    ∃ o, wstep s.w e = some (s'.w, o) ∧ s'.out = s.out ++ o := by
  cases step_sound hs with
  | deq _ h | fdeq _ h | empty _ h => exact ⟨_, h, rfl⟩
  | _ => exact ⟨[], by simp [wstep, St.setPc, *]⟩

/-- The forced-emptying rendezvous moves both automata. -/
theorem step_wforce_local {s s' : St} {pid : Nat} (hs : step s (.wforce pid) = some s') :
    wstep s.w .force = some (s'.w, []) ∧ s'.out = s.out ∧
      pstep (s.prods pid) .forced = some (s'.prods pid) := by
  cases step_sound hs <;> simp [wstep, pstep, St.setPc, *]

/-! ### The run checker decides its specification -/

/-- If `checkRun` passes, every adapter line belongs to a known goroutine and every goroutine's part of the
    expanded output conforms to its items: in program order, every must-line present, no line more often
    than logged, nothing that was disabled, tracer lines with exactly their entries and never merged; and
    the tracer submissions that had to arrive are, one by one and in order, among the tracer lines received. -/
theorem checkRun_sound (np : Nat) (exps : Nat → List Item) (outs : List OutW)
    (h : checkRun np exps outs = .pass) :
    (∀ o ∈ outs, o.gid < np) ∧ (∀ o ∈ outs, o.entries.isSome → o.dups = 0) ∧
      (∀ g, g < np → (tracerMust (exps g)).Sublist (tracerGot g outs)) ∧
      ∀ g, g < np → Conforms (exps g) (expandOut g outs) :=
  PB.Log.checkRun_sound np exps outs h

/-- Conversely the per-goroutine check accepts every conforming output — whatever the items are (the same
    line may be logged again after other lines, optional and disabled items may stand in between): the
    checker never demands more than its specification. -/
theorem checkProd_complete (gid : Nat) {es : List Item} {got : List Got} (h : Conforms es got) :
    checkProd gid es got = .pass :=
  PB.Log.checkProd_complete gid h

/-- The line-by-line reading of "messages below the level in force are never emitted" that `checkRun` applies
    first (it names the offending line instead of the place where the walk along the items gets stuck) rejects
    nothing the specification allows. -/
theorem filtered_precheck_complete {es : List Item} {got : List Got} (h : Conforms es got) :
    ∀ g ∈ got, neverAllowed es g = false := conforms_line_allowed h

/-- The exact decision procedure behind it. -/
theorem conformsB_iff (es : List Item) (got : List Got) : conformsB es got = true ↔ Conforms es got :=
  PB.Log.conformsB_iff es got

/-- The subsequence test for the required tracer submissions is exact. -/
theorem firstMissing_iff (must got : List Got) : firstMissing must got = none ↔ must.Sublist got :=
  PB.Log.firstMissing_iff must got

/-! ### Context tracers -/

/-- A submission carries all collected entries, in order; the last one is the main line. -/
theorem submit_carries_all (logs : List Entry) (l : Line) (h : submitLine logs = some l) :
    l.entries = logs ∧ l.trace.isSome := by
  unfold submitLine at h
  cases hg : logs.getLast? with
  | none => simp [hg] at h
  | some m =>
    simp [hg] at h
    subst h
    obtain ⟨ys, rfl⟩ := List.getLast?_eq_some_iff.mp hg
    simp [Line.entries]

/-- Only an empty tracer submits nothing. -/
theorem submit_none_iff (logs : List Entry) : submitLine logs = none ↔ logs = [] := by
  unfold submitLine
  cases hg : logs.getLast? with
  | none => simp [List.getLast?_eq_none_iff.mp hg]
  | some m => exact ⟨nofun, fun h => by simp [h] at hg⟩

/-! ### The level decisions taken outside `log()`: `fastcheck`, which severity a function asks about, `AddTracer`

A live context tracer collects every call unconditionally (`tracer.log`) and `Submit` enqueues the collection
without a level check: for lines that go through a tracer the ONLY level decision is the one `AddTracer` takes.
`PB.Gen.Log.fastcheck`, `PB.Gen.Log.addTracer` and `PB.Gen.Log.levelCalls` are regenerated from log/input.go and
log/trace.go on every run; the theorems below say what they must be. -/

/-- `fastcheck` lets a call through iff package levels are active (then `log()` decides) or the severity is at
    or above the global level. -/
theorem fastcheck_decision (c : Levels) (lvl : Nat) :
    fastcheck c lvl = true ↔ (c.active = true ∨ c.glob ≤ lvl) := fastcheck_iff c lvl

/-- Every exported logging function (`Trace` … `Criticalf`) and every logging method of `*ContextTracer` asks
    `fastcheck` about ITS OWN severity — the one it is named after —, passes that severity to `log()` and, on a
    live tracer, collects at that severity; and that severity is one of the `Severity` constants. (A function
    that pre-checks another severity than it logs at drops enabled lines or lets `log()` do all the filtering.) -/
theorem every_function_asks_about_its_own_severity :
    ∀ r ∈ PB.Gen.Log.levelCalls,
      r.2.2.1 = ownSeverity r.2.1 ∧ r.2.2.2.1 = ownSeverity r.2.1 ∧
      ((r.1 = "" ∧ r.2.2.2.2 = "") ∨ (r.1 = "ContextTracer" ∧ r.2.2.2.2 = ownSeverity r.2.1)) ∧
      ownSeverity r.2.1 ∈ PB.Gen.Log.severities.map (·.1) := by decide

/-- The table is complete: for every severity there are the plain and the formatting function, as package
    functions and as tracer methods (and nothing else takes such a decision: the extractor refuses any other
    function of input.go / trace.go that calls `fastcheck`, `log` or `tracer.log`). -/
theorem every_severity_has_its_functions :
    ∀ c ∈ PB.Gen.Log.severities, ∀ recv ∈ ["", "ContextTracer"],
      ((PB.Gen.Log.levelCalls.filter (fun r => r.1 == recv && r.2.2.1 == c.1)).map (·.2.1)).length = 2 ∧
      PB.Gen.Log.levelCalls.length = 4 * PB.Gen.Log.severities.length := by decide

/-- The lowest severity is Trace: whatever a tracer collects is at or above it. -/
theorem trace_is_lowest_severity (lvl : Nat) (h : isSeverity lvl = true) : PB.Gen.Log.traceLevel ≤ lvl :=
  isSeverity_ge h

/-- `AddTracer` (non-nil context without a tracer, caller known) hands out a live tracer iff Trace is enabled
    for the caller's origin under the levels in force — by exactly the filter `log()` applies to a Trace line. -/
theorem tracer_iff_trace_enabled (c : Levels) (pkg : Option Nat) :
    addTracer c false true pkg false = true ↔ enabled c pkg PB.Gen.Log.traceLevel = true :=
  addTracer_iff c pkg

/-- The same with the level in force stated declaratively: a tracer is handed out iff the level in force for
    the caller's origin (its package level if package levels are active and it has one, the global level
    otherwise) is at or below Trace. -/
theorem tracer_iff_trace_in_force (c : Levels) (p : Nat) :
    addTracer c false true (some p) false = true ↔ threshold c p ≤ PB.Gen.Log.traceLevel := by
  rw [addTracer_iff, enabled_iff_threshold]

/-- Case by case — the three states of the package levels: inactive → the global level decides; active and the
    caller's package listed → its own level decides, whatever the global level is; active and the caller's
    package NOT listed → the global level decides again (`fastcheck` has not looked at it: it returns true as
    soon as package levels are active). -/
theorem tracer_decision_by_package_state (c : Levels) (p : Nat) :
    (c.active = false → (addTracer c false true (some p) false = true ↔ c.glob ≤ PB.Gen.Log.traceLevel)) ∧
    (∀ v, c.active = true → lookupPkg c.pkgs p = some v →
      (addTracer c false true (some p) false = true ↔ v ≤ PB.Gen.Log.traceLevel)) ∧
    (c.active = true → lookupPkg c.pkgs p = none →
      (addTracer c false true (some p) false = true ↔ c.glob ≤ PB.Gen.Log.traceLevel)) := by
  refine ⟨?_, ?_, ?_⟩
  · intro h; rw [tracer_iff_trace_in_force]; simp [threshold, h]
  · intro v h hl; rw [tracer_iff_trace_in_force]; simp [threshold, h, hl]
  · intro h hl; rw [tracer_iff_trace_in_force]; simp [threshold, h, hl]

/-- No tracer for a nil context, for a context that already carries one, and — package levels active — when
    the caller cannot be determined (`runtime.Caller` fails, file path without a directory). -/
theorem tracer_refused (c : Levels) (ok : Bool) (pkg : Option Nat) (ex : Bool) :
    addTracer c true ok pkg ex = false ∧ addTracer c false ok pkg true = false ∧
      (c.active = true → addTracer c false false pkg ex = false) ∧
      (c.active = true → addTracer c false ok none ex = false) :=
  addTracer_refuses c ok pkg ex

/-- In every reachable state a live tracer was created while Trace was enabled for the origin that called
    `AddTracer`, under the levels in force at that moment. -/
theorem live_tracer_was_created_at_trace_level {s : St} (h : Reachable s) (p : Nat) (t : Tracer)
    (ht : s.tr p = some t) : enabled t.lv t.pkg PB.Gen.Log.traceLevel = true :=
  ((tcinv_reachable h).c1 p t ht).1

/-- Hence a submission never carries a line below the level that was in force, for the origin of its
    `AddTracer` call, WHEN THE TRACER WAS CREATED: every line it carries (collected entries and main line)
    passes the filter of `log()` under those levels. -/
theorem submission_lines_at_or_above_creation_level {s : St} (h : Reachable s) (p : Nat) (sb : Sub)
    (hsb : sb ∈ s.subs p) : ∀ e ∈ sb.line.entries, enabled sb.tr.lv sb.tr.pkg e.lvl = true := by
  obtain ⟨hok, hsub⟩ := (tcinv_reachable h).c2 p sb hsb
  intro e he
  rw [(submit_carries_all _ _ hsub).1] at he
  obtain ⟨x, hx, rfl⟩ := List.mem_map.mp he
  exact hok.enabled hx

/-- The tracer lines a goroutine got accepted are exactly its submissions, in order (plain calls never carry
    a tracer: every logging function passes `nil` to `log()`). -/
theorem tracer_lines_are_submissions {s : St} (h : Reachable s) (p : Nat) :
    (s.logged p).filter (·.trace.isSome) = (s.subs p).map (·.line) := (tcinv_reachable h).c3 p

/-- Whatever tracer line reaches the adapter is such a submission: all the lines it carries were at or above
    the level in force at the creation of its tracer. -/
theorem written_tracer_lines_respect_creation_level {s : St} (h : Reachable s) (l : Line)
    (hl : l ∈ expand s.out) (ht : l.trace.isSome = true) :
    ∃ p sb, sb ∈ s.subs p ∧ sb.line = l ∧ ∀ e ∈ l.entries, enabled sb.tr.lv sb.tr.pkg e.lvl = true := by
  obtain ⟨p, hp⟩ := written_lines_were_accepted h l hl
  have hm : l ∈ (s.subs p).map (·.line) := by
    rw [← tracer_lines_are_submissions h p]; exact List.mem_filter.mpr ⟨hp, ht⟩
  obtain ⟨sb, hsb, rfl⟩ := List.mem_map.mp hm
  exact ⟨p, sb, hsb, rfl, submission_lines_at_or_above_creation_level h p sb hsb⟩

/-- What this means for each collected line AT ITS OWN CALL (the property's reading: "below the level in force
    … never emitted"): if the line was collected from the origin that created the tracer while the levels were
    still those of the creation, it was at or above the level in force for its origin when it was logged. -/
theorem collected_line_enabled_at_its_call_partial {s : St} (h : Reachable s) (p : Nat) (sb : Sub)
    (hsb : sb ∈ s.subs p) (x : Collected) (hx : x ∈ sb.tr.logs)
    (horg : x.pkg = sb.tr.pkg) (hlv : x.lv = sb.tr.lv) : enabled x.lv x.pkg x.e.lvl = true := by
  rw [horg, hlv]
  exact ((tcinv_reachable h).c2 p sb hsb).1.enabled hx

/-- `AddTracer` at trace level, `SetLogLevel(error)`, then a Debug line through the tracer, `Submit`. -/
def demoRaise : List Act :=
  [.addTracer 0 (some 0) true, .setLevel 5, .collect 0 ⟨7, 2, 1, 30⟩ (some 0), .p 0 (.submit ⟨7, 2, 1, 30, some []⟩)]

/-- Package 0 has level trace, package 1 no entry (global level info): package 0 creates the tracer, package 1
    logs a Debug line through it. -/
def demoOther : List Act :=
  [.addTracer 0 (some 0) true, .collect 0 ⟨7, 2, 1, 30⟩ (some 1), .p 0 (.submit ⟨7, 2, 1, 30, some []⟩)]

/-- Without the second hypothesis the statement is FALSE on the code: `SetLogLevel(error)` between `AddTracer`
    and a `tracer.Debug(…)` — the Debug line is collected and submitted (the decision was taken once, at
    `AddTracer`) although error was in force for its origin when it was logged. -/
theorem not_collected_line_enabled_after_level_change :
    ¬ ∀ s, Reachable s → ∀ p sb, sb ∈ s.subs p → ∀ x ∈ sb.tr.logs, x.pkg = sb.tr.pkg →
        enabled x.lv x.pkg x.e.lvl = true := by
  intro hall
  have := hall ((run (St.init 4 false ⟨1, false, []⟩) demoRaise).get (by decide))
    (reachable_of_run _) 0
    ⟨⟨7, 2, 1, 30, some []⟩, ⟨[⟨⟨7, 2, 1, 30⟩, some 0, ⟨5, false, []⟩⟩], ⟨1, false, []⟩, some 0⟩⟩ (by decide)
    ⟨⟨7, 2, 1, 30⟩, some 0, ⟨5, false, []⟩⟩ (by decide) rfl
  revert this; decide

/-- Without the first hypothesis it is false as well: a tracer created by a package whose level is trace and
    used from a package that has no entry (global level info) carries that package's Debug line. -/
theorem not_collected_line_enabled_from_other_origin :
    ¬ ∀ s, Reachable s → ∀ p sb, sb ∈ s.subs p → ∀ x ∈ sb.tr.logs, x.lv = sb.tr.lv →
        enabled x.lv x.pkg x.e.lvl = true := by
  intro hall
  have := hall ((run (St.init 4 false ⟨3, true, [(0, 1)]⟩) demoOther).get (by decide))
    (reachable_of_run _) 0
    ⟨⟨7, 2, 1, 30, some []⟩, ⟨[⟨⟨7, 2, 1, 30⟩, some 1, ⟨3, true, [(0, 1)]⟩⟩], ⟨3, true, [(0, 1)]⟩, some 0⟩⟩ (by decide)
    ⟨⟨7, 2, 1, 30⟩, some 1, ⟨3, true, [(0, 1)]⟩⟩ (by decide) rfl
  revert this; decide

/-! ### Constants regenerated from the source -/

/-- The severities are ordered as the property reads them ("at or above"). -/
theorem severities_ascending :
    PB.Gen.Log.severities.map (·.1) =
      ["TraceLevel", "DebugLevel", "InfoLevel", "WarningLevel", "ErrorLevel", "CriticalLevel"] ∧
    (PB.Gen.Log.severities.map (·.2)).Pairwise (· < ·) := ⟨rfl, by decide⟩

/-- The channel shapes the model assumes: a buffered `logBuffer`, a one-token `logsWaiting`, a rendezvous
    `forceEmptyingOfBuffer`. -/
theorem channel_shapes :
    1 ≤ PB.Gen.Log.bufferCap ∧ PB.Gen.Log.logsWaitingCap = 1 ∧ PB.Gen.Log.forceEmptyingCap = 0 := by decide

/-- The theorems above hold in particular for the logger as configured in the source. -/
theorem reachable_from_source_config (paced : Bool) (lv : Levels) :
    Reachable (St.init PB.Gen.Log.bufferCap paced lv) := Reachable.init _ _ _

/-! ### Non-vacuity: concrete runs of the model that meet the hypotheses above -/

def l1 : Line := ⟨1, 3, 1, 10, none⟩
def l2 : Line := ⟨2, 5, 1, 20, none⟩
def lt : Line := ⟨9, 4, 1, 30, some [⟨7, 1, 1, 30⟩, ⟨8, 2, 1, 30⟩]⟩

/-- Two identical lines from one goroutine, merged into one write with one repetition; second call finds
    the flag already set; a second goroutine, from a package whose own level is trace (the global level is
    info), gets a tracer, collects three lines and submits them; then Shutdown drains and the writer exits. -/
def demoMerge : List Act :=
  [.setPkgs [(5, 1)],
   .p 0 (.call l1 (some 0) true), .p 0 (.filter true), .p 0 .enq, .p 0 (.flag true), .p 0 .tok,
   .p 0 (.call l1 (some 0) true), .p 0 (.filter true), .p 0 .enq, .p 0 (.flag false),
   .w .token, .w .unset, .w .slot, .w (.deq l1), .w (.deq l1), .w .empty, .w .timer,
   .addTracer 1 (some 5) true, .collect 1 ⟨7, 1, 1, 30⟩ (some 5), .collect 1 ⟨8, 2, 1, 30⟩ (some 5),
   .collect 1 ⟨9, 4, 1, 30⟩ (some 5),
   .p 1 (.submit lt), .p 1 .enq, .p 1 (.flag true), .p 1 .tok,
   .shutdown, .w .shut, .w (.fdeq lt), .w .ftimeout]

example : (run (St.init 2 false ⟨3, false, []⟩) demoMerge).map (fun s => (s.out, s.w.pc)) =
    some ([(l1, 1), (lt, 0)], .done) := rfl
example : (run (St.init 2 false ⟨3, false, []⟩) demoMerge).map (fun s => (s.buf.length, s.enqAtShut)) =
    some (0, 3) := rfl
example : (run (St.init 2 false ⟨3, false, []⟩) demoMerge).map (fun s => (s.logged 0, s.logged 1)) =
    some ([l1, l1], [lt]) := rfl

/-- The hypotheses of `shutdown_drains`, `exactly_once_when_drained` are met by a reachable state with
    non-empty output. -/
example : ∃ s, Reachable s ∧ s.w.pc = .done ∧ s.buf = [] ∧ expand s.out = [l1, l1, lt] := by
  refine ⟨(run (St.init 2 false ⟨3, false, []⟩) demoMerge).get (by decide),
    reachable_of_run _, ?_, ?_, ?_⟩ <;> decide

/-- Capacity 1, paced writer: the second goroutine finds the buffer full, forces the writer through both
    selects, enqueues afterwards; per-goroutine order and exactly-once hold. -/
def demoFull : List Act :=
  [.p 0 (.call l1 none true), .p 0 (.filter true), .p 0 .enq, .p 0 (.flag true), .p 0 .tok,
   .p 1 (.call l2 none true), .p 1 (.filter true), .p 1 .full,
   .wforce 1, .wforce 1, .w (.deq l1), .w .empty,
   .p 1 .enqB, .p 1 (.flag false),
   .w .timer, .w .token, .w .unset, .trigger, .w (.deq l2), .w .empty]

example : (run (St.init 1 true ⟨1, false, []⟩) demoFull).map (fun s => (s.out, s.w.pc)) =
    some ([(l1, 0), (l2, 0)], .backoff) := rfl
example : (run (St.init 1 true ⟨1, false, []⟩) demoFull).map (fun s => (s.buf.length, s.flag, s.token)) =
    some (0, false, false) := rfl

/-! The filter: below the global level nothing passes `fastcheck`; with package levels the package's own
    level decides, other packages fall back to the global level. -/
example : (step (St.init 4 false ⟨4, false, []⟩) (.p 0 (.call l1 (some 0) true))).isNone = true := by decide
example : (run (St.init 4 false ⟨4, false, []⟩)
    [.setPkgs [(7, 2)], .p 0 (.call l1 (some 7) true), .p 0 (.filter true),
     .p 1 (.call l1 (some 8) true), .p 1 (.filter false)]).map (fun s => (s.logged 0, s.logged 1)) =
    some ([l1], []) := rfl
example : enabled ⟨4, true, [(7, 2)]⟩ (some 7) 3 = true ∧ enabled ⟨4, true, [(7, 2)]⟩ (some 8) 3 = false ∧
    threshold ⟨4, true, [(7, 2)]⟩ 7 = 2 ∧ threshold ⟨4, true, [(7, 2)]⟩ 8 = 4 := by decide

/-- Merging and expansion on a batch with runs, a tracer line (never merged) and a twin at another site. -/
example : mergeRuns [l1, l1, l1, l2, lt, lt, ⟨1, 3, 1, 11, none⟩] =
    [(l1, 2), (l2, 0), (lt, 0), (lt, 0), (⟨1, 3, 1, 11, none⟩, 0)] := rfl
example : submitLine [⟨7, 1, 1, 30⟩, ⟨8, 2, 1, 30⟩, ⟨9, 4, 1, 30⟩] = some lt := rfl

/-! The same text, file, line and level once as a plain line and once as the main line of a submission
    (one call site reached through a possibly-nil tracer): never merged, in either order, nor between two
    plain lines; two submissions are never merged either, whether they collected the same lines or not. -/
def l1t : Line := { l1 with trace := some [] }
def l1u : Line := { l1 with trace := some [⟨7, 1, 1, 30⟩] }
example : mergeRuns [l1, l1t] = [(l1, 0), (l1t, 0)] := rfl
example : mergeRuns [l1t, l1] = [(l1t, 0), (l1, 0)] := rfl
example : mergeRuns [l1, l1, l1t, l1, l1] = [(l1, 1), (l1t, 0), (l1, 1)] := rfl
example : mergeRuns [l1t, l1t, l1u, l1u] = [(l1t, 0), (l1t, 0), (l1u, 0), (l1u, 0)] := rfl
/-- Identical text from another file, another line, at another level: not merged. -/
example : mergeRuns [l1, { l1 with file := 2 }, { l1 with line := 11 }, { l1 with lvl := 4 }, l1] =
    [(l1, 0), ({ l1 with file := 2 }, 0), ({ l1 with line := 11 }, 0), ({ l1 with lvl := 4 }, 0), (l1, 0)] := rfl
/-- Two identical plain lines and, directly behind them in one batch, a submission of the same text: a run that
    meets the hypotheses of `writer_counts_only_plain_lines` / `tracer_submissions_exactly_once`. -/
def demoMixed : List Act :=
  [.setPkgs [(5, 1)],
   .p 0 (.call l1 (some 0) true), .p 0 (.filter true), .p 0 .enq, .p 0 (.flag true), .p 0 .tok,
   .p 0 (.call l1 (some 0) true), .p 0 (.filter true), .p 0 .enq, .p 0 (.flag false),
   .addTracer 0 (some 5) true, .collect 0 ⟨1, 3, 1, 10⟩ (some 5),
   .p 0 (.submit l1t), .p 0 .enq, .p 0 (.flag false),
   .w .token, .w .unset, .trigger, .w (.deq l1), .w (.deq l1), .w (.deq l1t), .w .empty]
example : (run (St.init 8 true ⟨3, false, []⟩) (demoMixed.take 20)).map (fun s => (s.w.cur, s.w.dups)) =
    some (some l1, 1) := rfl
example : (run (St.init 8 true ⟨3, false, []⟩) demoMixed).map (fun s => s.out) =
    some [(l1, 1), (l1t, 0)] := rfl

/-- The level decision of `AddTracer` in the three states of the package levels, at several global levels:
    inactive (global level decides); active with the caller listed (its own level decides, whatever the global
    level is); active with the caller NOT listed (the global level decides — `fastcheck` has let everything
    through). -/
example :
    addTracer ⟨3, false, []⟩ false true (some 8) false = false ∧ addTracer ⟨1, false, []⟩ false true (some 8) false = true ∧
    addTracer ⟨0, false, [(8, 6)]⟩ false true (some 8) false = true ∧
    addTracer ⟨3, true, [(7, 1)]⟩ false true (some 7) false = true ∧ addTracer ⟨6, true, [(7, 0)]⟩ false true (some 7) false = true ∧
    addTracer ⟨1, true, [(7, 2)]⟩ false true (some 7) false = false ∧ addTracer ⟨0, true, [(7, 7)]⟩ false true (some 7) false = false ∧
    addTracer ⟨3, true, [(7, 1)]⟩ false true (some 8) false = false ∧ addTracer ⟨2, true, []⟩ false true (some 8) false = false ∧
    addTracer ⟨6, true, [(7, 1), (9, 1)]⟩ false true (some 8) false = false ∧
    addTracer ⟨1, true, [(7, 5)]⟩ false true (some 8) false = true ∧ addTracer ⟨0, true, [(7, 5)]⟩ false true (some 8) false = true := by
  decide
/-- In the interleaving model: package levels active, caller not listed, global level info — no tracer can be
    handed out (the step is not enabled), the call returns nil; the listed package gets one. -/
example : (step (St.init 4 false ⟨3, true, [(7, 1)]⟩) (.addTracer 0 (some 8) true)).isNone = true ∧
    (step (St.init 4 false ⟨3, true, [(7, 1)]⟩) (.addTracer 0 (some 8) false)).isSome = true ∧
    (step (St.init 4 false ⟨3, true, [(7, 1)]⟩) (.addTracer 0 (some 7) true)).isSome = true := by decide
/-- The hypotheses of `live_tracer_was_created_at_trace_level` / `submission_lines_at_or_above_creation_level`
    are met: in `demoMerge` goroutine 1 holds a live tracer with two collected lines (step 20), and its
    submission is recorded with the levels of the creation. -/
example : ((run (St.init 2 false ⟨3, false, []⟩) (demoMerge.take 20)).bind (·.tr 1)).map (fun t => (t.logs.map (·.e.lvl), t.lv, t.pkg)) =
    some ([1, 2], ⟨3, true, [(5, 1)]⟩, some 5) := rfl
example : (run (St.init 2 false ⟨3, false, []⟩) demoMerge).map (fun s => (s.subs 1).map (fun sb => (sb.line, sb.tr.lv, sb.tr.pkg))) =
    some [(lt, ⟨3, true, [(5, 1)]⟩, some 5)] := rfl
/-- A second `AddTracer` on a context that carries a tracer returns nil; Submit needs a live tracer. -/
example : (run (St.init 2 false ⟨1, false, []⟩) [.addTracer 0 (some 0) true, .addTracer 0 (some 0) true]).isNone = true ∧
    (run (St.init 2 false ⟨1, false, []⟩) [.addTracer 0 (some 0) true, .addTracer 0 (some 0) false]).isSome = true ∧
    (run (St.init 2 false ⟨1, false, []⟩) [.p 0 (.submit lt)]).isNone = true := by decide
example : ownSeverity "Criticalf" = "CriticalLevel" ∧ ownSeverity "Info" = "InfoLevel" ∧ ownSeverity "Infof" = "InfoLevel" :=
  ⟨rfl, rfl, rfl⟩
example : fastcheck ⟨4, false, []⟩ 3 = false ∧ fastcheck ⟨4, false, []⟩ 4 = true ∧ fastcheck ⟨4, true, []⟩ 1 = true := by decide

/-- Start with flags: the pairs of `-plog orga=debug,zz=trace,orga=ERROR,bad,orgb=info`: orga error (the later
    entry wins), zz trace, the malformed pair ends the reading (orgb is not read). An unknown `-log` name
    falls back to info and leaves the package levels set before Start alone. -/
example : parsePairs [["orga", "debug"], ["zz", "trace"], ["orga", "ERROR"], ["bad"], ["orgb", "info"]] [] =
    [("orga", 5), ("zz", 1)] := by
  with_unfolding_all decide
example : startLevels (fun _ => 9) ⟨2, true, [(1, 6)]⟩ "verbose" "" = ⟨3, true, [(1, 6)]⟩ := by
  with_unfolding_all decide
example : parseLevel "WARNing" = 4 ∧ parseLevel "Trace" = 1 ∧ parseLevel " info" = 0 := by
  with_unfolding_all decide
example : lookupLevel "warning" = 4 ∧ lookupLevel "warn" = 0 ∧ lookupLevel "" = 0 ∧ severityName 5 = "error" ∧
    severityName 0 = "none" ∧ severityName 7 = "none" := by decide

/-- The run checker: a conforming output passes, a lost / duplicated / filtered / reordered one fails. -/
def exps0 : Nat → List Item := fun g =>
  if g = 0 then [⟨1, 3, 0, .plain, [⟨some ⟨3, false, []⟩, true, 2⟩], [], 3⟩,
                 ⟨2, 2, 0, .plain, [⟨some ⟨3, false, []⟩, true, 1⟩], [], 2⟩,
                 ⟨3, 4, 0, .tracer, [⟨some ⟨3, false, []⟩, true, 1⟩], [7, 8], 4⟩] else []
example : checkRun 1 exps0 [⟨0, 1, 1, none⟩, ⟨0, 3, 0, some [7, 8]⟩] = .pass := rfl
example : checkRun 1 exps0 [⟨0, 1, 0, none⟩, ⟨0, 3, 0, some [7, 8]⟩] = .fail "lost" 0 1 := rfl
example : checkRun 1 exps0 [⟨0, 1, 2, none⟩, ⟨0, 3, 0, some [7, 8]⟩] = .fail "duplicated" 0 1 := rfl
example : checkRun 1 exps0 [⟨0, 1, 1, none⟩, ⟨0, 2, 0, none⟩, ⟨0, 3, 0, some [7, 8]⟩] = .fail "filtered" 0 2 := rfl
example : checkRun 1 exps0 [⟨0, 3, 0, some [7, 8]⟩, ⟨0, 1, 1, none⟩] = .fail "lost" 0 1 := rfl
example : checkRun 1 exps0 [⟨0, 1, 1, none⟩, ⟨0, 3, 0, some [7]⟩] = .fail "tracer-lost" 0 3 := rfl
/-- A plain line (item 1), two submissions of the same text that collected different lines (item 5, entries
    `[]` and `[7]`), and the plain call again. -/
def exps1 : Nat → List Item := fun g =>
  if g = 0 then [⟨1, 3, 0, .plain, [⟨some ⟨3, false, []⟩, true, 1⟩], [], 3⟩,
                 ⟨5, 3, 0, .tracer, [⟨some ⟨3, false, []⟩, true, 1⟩], [], 3⟩,
                 ⟨5, 3, 0, .tracer, [⟨some ⟨3, false, []⟩, true, 2⟩], [7], 3⟩,
                 ⟨1, 3, 0, .plain, [⟨some ⟨3, false, []⟩, true, 1⟩], [], 3⟩] else []
example : checkRun 1 exps1 [⟨0, 1, 0, none⟩, ⟨0, 5, 0, some []⟩, ⟨0, 5, 0, some [7]⟩, ⟨0, 5, 0, some [7]⟩, ⟨0, 1, 0, none⟩] = .pass := rfl
/-- the submission swallowed by the preceding plain line (`duplicates = 1`) -/
example : checkRun 1 exps1 [⟨0, 1, 1, none⟩, ⟨0, 5, 0, some [7]⟩, ⟨0, 5, 0, some [7]⟩, ⟨0, 1, 0, none⟩] = .fail "tracer-lost" 0 5 := rfl
/-- a submission counted as a repetition of another one -/
example : checkRun 1 exps1 [⟨0, 1, 0, none⟩, ⟨0, 5, 0, some []⟩, ⟨0, 5, 1, some [7]⟩, ⟨0, 1, 0, none⟩] = .fail "trace" 0 5 := rfl
/-- a submission that arrives with other entries than it collected, while nothing has to arrive (Shutdown
    requested during the call): still not accepted -/
example : checkRun 1 (fun _ => [⟨5, 3, 0, .tracer, [⟨some ⟨3, false, []⟩, false, 1⟩], [7], 3⟩]) [⟨0, 5, 0, some [8]⟩] =
    .fail "unexpected" 0 5 := rfl
example : checkRun 1 (fun _ => [⟨5, 3, 0, .tracer, [⟨some ⟨3, false, []⟩, false, 1⟩], [7], 3⟩]) [] = .pass := rfl
/-- A submission whose tracer lived (from `AddTracer` to `Submit`) under ONE configuration in which a line it
    carries is below the level in force for its origin — package levels active, origin 0 not listed, global
    level info, a Debug line among the collected ones — must not reach the adapter; with the origin listed at
    trace it must; when the configuration changed during the tracer's life nothing is demanded either way. -/
def exps3 (c : Option Levels) : Nat → List Item := fun _ => [⟨5, 4, 0, .tracer, [⟨c, true, 1⟩], [58], 2⟩]
example : checkRun 1 (exps3 (some ⟨3, true, [(1, 1)]⟩)) [⟨0, 5, 0, some [58]⟩] = .fail "filtered" 0 5 := rfl
example : checkRun 1 (exps3 (some ⟨3, true, [(1, 1)]⟩)) [] = .pass := rfl
example : checkRun 1 (exps3 (some ⟨3, true, [(0, 1)]⟩)) [⟨0, 5, 0, some [58]⟩] = .pass := rfl
example : checkRun 1 (exps3 (some ⟨3, true, [(0, 1)]⟩)) [] = .fail "tracer-lost" 0 5 := rfl
example : checkRun 1 (exps3 (some ⟨2, true, [(1, 1)]⟩)) [⟨0, 5, 0, some [58]⟩] = .pass := rfl
example : checkRun 1 (exps3 none) [⟨0, 5, 0, some [58]⟩] = .pass ∧ checkRun 1 (exps3 none) [] = .pass := ⟨rfl, rfl⟩
/-- `A B A` with `B` below the level in force: the two `A` lines arrive next to each other (and may have
    been merged); the greedy walk alone would call the second one a duplicate. -/
def exps2 : Nat → List Item := fun _ =>
  [⟨1, 3, 0, .plain, [⟨some ⟨3, false, []⟩, true, 1⟩], [], 3⟩, ⟨2, 2, 0, .plain, [⟨some ⟨3, false, []⟩, true, 1⟩], [], 2⟩,
   ⟨1, 3, 0, .plain, [⟨some ⟨3, false, []⟩, true, 1⟩], [], 3⟩]
example : greedyProd 0 (exps2 0) [⟨1, none⟩, ⟨1, none⟩] = .fail "duplicated" 0 1 := rfl
example : checkRun 1 exps2 [⟨0, 1, 1, none⟩] = .pass := rfl
example : checkRun 1 exps2 [⟨0, 1, 2, none⟩] = .fail "duplicated" 0 1 := rfl
example : checkRun 1 exps2 [⟨0, 1, 0, none⟩] = .fail "lost" 0 1 := rfl
/-- `A B A` with `B` LOST also arrives as `A A`: not a duplicate of `A` (it is not emitted more often than the two
    `A` items allow) — `B` is named as lost; a line that IS emitted too often stays a duplicate. -/
def exps4 : Nat → List Item := fun _ =>
  [⟨1, 3, 0, .plain, [⟨some ⟨3, false, []⟩, true, 1⟩], [], 3⟩, ⟨2, 3, 0, .plain, [⟨some ⟨3, false, []⟩, true, 1⟩], [], 3⟩,
   ⟨1, 3, 0, .plain, [⟨some ⟨3, false, []⟩, true, 1⟩], [], 3⟩]
example : greedyProd 0 (exps4 0) [⟨1, none⟩, ⟨1, none⟩] = .fail "duplicated" 0 1 := rfl
example : checkRun 1 exps4 [⟨0, 1, 1, none⟩] = .fail "lost" 0 2 := rfl
example : checkRun 1 exps4 [⟨0, 1, 0, none⟩, ⟨0, 2, 0, none⟩, ⟨0, 1, 0, none⟩] = .pass := rfl
example : checkRun 1 exps4 [⟨0, 1, 1, none⟩, ⟨0, 2, 0, none⟩, ⟨0, 1, 0, none⟩] = .fail "duplicated" 0 1 := rfl
/-- A submission that must not be emitted is named as such also when the walk along the items would get stuck
    earlier, at a legitimate `A A` (`A B A` with `B` disabled). -/
example : checkRun 1 (fun g => exps2 g ++ exps3 (some ⟨3, true, [(1, 1)]⟩) g) [⟨0, 1, 1, none⟩, ⟨0, 5, 0, some [58]⟩] =
    .fail "filtered" 0 5 := rfl

end PB.C20
