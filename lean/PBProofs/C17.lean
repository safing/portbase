import PB.Model.FsAtomic
import PB.Spec.FsCrash
import PB.Model.FsSerial
import PBProofs.Lemmas.FsInterleave
import PBProofs.Lemmas.FsAtomic
import PBProofs.Lemmas.FsWriters
import PBProofs.Lemmas.FsDownload
/-
C17 — Files are published atomically: old content or new content, never a fragment.

The theorems are about the file-system model `PB.FsAtomic` (volatile view + crash semantics `Crash`) and the
checker `safePublish` that `./check C17` runs on the system-call sequence recorded from every real writer.
-/
namespace PB.C17
open PB.FsAtomic

/-- Soundness of the checker, single file / symlink destination. If `safePublish` accepts a call sequence `t`,
    then at EVERY crash point (after every prefix `p` of `t`):
    * a concurrent reader of `dest` (and a reader after a mere kill of the process) sees `old` or `new`;
    * after a power loss — name space rolled back to that of ANY earlier point of the run, data of every inode
      that was not fsynced after its last modification replaced by ARBITRARY data — a reader of `dest` still
      sees `old` or `new`. -/
theorem safePublish_sound (s0 : FS) (dest : Path) (old new : Obs) (t : List Call)
    (h : safePublish s0 dest old new t = true) (p q : List Call) (hp : t = p ++ q) :
    (vview (run s0 p) dest = old ∨ vview (run s0 p) dest = new) ∧
    ∀ c : Crash s0 p, c.view dest = old ∨ c.view dest = new := by
  subst hp
  rw [safePublish_eq, chkRun_append] at h
  have hk := (chkRun_mono dest old new q _).2.2 h
  obtain ⟨hgood, habs, hvol⟩ := (chkRun_inv s0 dest old new p).2.2 hk
  rw [chkRun_s] at hgood hvol
  refine ⟨(allowed_iff ..).1 hvol, fun c => (allowed_iff ..).1 ?_⟩
  -- the checker state at the name-space point of the crash
  obtain ⟨hname, hnone, -⟩ := chkRun_inv s0 dest old new c.pre
  obtain ⟨hhist, habsent, -⟩ := chkRun_mono dest old new c.post (chkRun dest old new (chkInit s0 dest old new) c.pre)
  rw [← chkRun_append, ← c.split] at hhist habsent
  rw [chkRun_s] at hname hnone
  cases hl : lookup (run s0 c.pre).names dest with
  | none =>
    rw [show c.view dest = none by simp [Crash.view, view, hl]]
    exact habs (habsent (hnone hl))
  | some i =>
    have hg := hgood i (hhist i (hname i hl))
    unfold goodIno at hg
    split at hg
    · cases hg
    · rename_i n hn
      simp only [Bool.and_eq_true, bne_iff_ne] at hg
      rw [show c.view dest = _ from view_nondir _ _ _ _ i n hl hn hg.1.1, c.legal i n hn hg.1.2]
      exact hg.2

/-- Soundness of the directory checker (archive unpacking): every intermediate state shows the previous state or
    the complete new tree to a reader (and to a reader after a kill of the process). -/
theorem safePublishDir_sound (dest : Path) (old new : Obs) (t : List Call) :
    ∀ s0, safePublishDir s0 dest old new t = true → ∀ p q, t = p ++ q →
      vview (run s0 p) dest = old ∨ vview (run s0 p) dest = new := by
  intro s0 h p q hp
  subst hp
  induction p generalizing s0 with
  | nil => cases q with
    | nil => exact (allowed_iff ..).1 h
    | cons c t => exact (allowed_iff ..).1 (Bool.and_eq_true_iff.1 h).1
  | cons c p ih => exact ih (step s0 c) (Bool.and_eq_true_iff.1 h).2

/-- The canonical sequence of renameio (`TempFile` → `Chmod` → any number of `Write`s → `Sync` → `Close` →
    `Rename`) is accepted by the checker for every chunking of every content, every mode, every descriptor
    number, whether the destination is absent or holds any (durable) previous content. Together with
    `safePublish_sound`: it publishes atomically at every crash point under every legal power-loss outcome. -/
theorem publish_sequence_safe (old : Option (Content × Nat)) (fd perm : Nat) (chunks : List Seg) :
    safePublish (baseFS old) destF (baseOld old) (some (.file (written chunks), []))
      (publishSeq tmpF destF fd perm chunks) = true := by
  rw [safePublish_eq, chkRun_publishSeq]; rfl

/-- Why the `Sync()` cannot be skipped (the comment in CloseAtomicallyReplace, as a theorem): the same sequence
    without the fsync is rejected by the checker, and the model exhibits the legal power-loss outcome in which
    the destination is a ZERO-LENGTH file — which is not the new content. -/
theorem fsync_before_rename_needed (old : Option (Content × Nat)) (fd perm : Nat) (chunks : List Seg)
    (hne : written chunks ≠ []) :
    safePublish (baseFS old) destF (baseOld old) (some (.file (written chunks), []))
      (publishSeqNoSync tmpF destF fd perm chunks) = false ∧
    (∃ c : Crash (baseFS old) (publishSeqNoSync tmpF destF fd perm chunks), c.view destF = some (.file [], [])) ∧
    (some (Node.file [], []) : Obs) ≠ some (.file (written chunks), []) := by
  have hk := chkRun_publishSeqNoSync old fd perm chunks
  refine ⟨by rw [safePublish_eq, hk]; rfl, ?_, ?_⟩
  · have hrun : run (baseFS old) (publishSeqNoSync tmpF destF fd perm chunks) = endFS old perm (written chunks) false :=
      (chkRun_s ..).symm.trans (congrArg Chk.s hk)
    refine ⟨Crash.dirtyLost _ _, ?_⟩
    simp only [Crash.view, Crash.dirtyLost, hrun]
    rcases old with _ | ⟨c, m⟩ <;> simp [view, endFS, midFS, lookup, destF, inodeAt, nodeOf, dirInode]
  · intro h
    simp only [Option.some.injEq, Prod.mk.injEq, Node.file.injEq, and_true] at h
    exact hne h.symm

/-- Leftovers. If every name a call sequence creates is the destination (or below it), a directory on the way to
    the destination, or temporary (`onlyTemp`, with any notion `tmp` of "temporary" that is inherited by
    everything below a temporary path), then in every intermediate state — and in the name space found after a
    crash at any point — every existing path either existed before the operation or is the destination /
    below it / on the way to it / temporary. A failed or interrupted operation leaves nothing else behind. -/
theorem leftovers_only_temp (dest : Path) (tmp : Path → Bool)
    (hmono : ∀ p r, tmp p = true → tmp (p ++ r) = true) (s0 : FS) (t : List Call)
    (h : onlyTemp dest tmp t = true) (p q : List Call) (hp : t = p ++ q) :
    (∀ x i, (x, i) ∈ (run s0 p).names →
      (∃ j, (x, j) ∈ s0.names) ∨ dest.isPrefixOf x = true ∨ x.isPrefixOf dest = true ∨ tmp x = true) ∧
    (∀ c : Crash s0 p, ∀ x i, (x, i) ∈ c.names →
      (∃ j, (x, j) ∈ s0.names) ∨ dest.isPrefixOf x = true ∨ x.isPrefixOf dest = true ∨ tmp x = true) := by
  subst hp
  have hrun (r : List Call) (hr : onlyTemp dest tmp r = true) :=
    run_ok dest tmp hmono s0.names r s0 hr fun x i hx => .inl ⟨i, hx⟩
  have hp := onlyTemp_prefix h
  exact ⟨hrun p hp, fun c => hrun c.pre (onlyTemp_prefix (c.split ▸ hp))⟩

/-- The harness' concrete notion of "temporary file in the temporary location" is inherited downwards, so
    `leftovers_only_temp` applies to it. -/
theorem isTemp_mono (tmpdirs : List Path) (destDir : Path) (prefixes : List String) (p r : Path)
    (h : isTemp tmpdirs destDir prefixes p = true) : isTemp tmpdirs destDir prefixes (p ++ r) = true := by
  simp only [isTemp, Bool.or_eq_true, List.any_eq_true, Bool.and_eq_true] at *
  rcases h with ⟨d, hd, hb⟩ | ⟨hb, hh⟩
  · exact .inl ⟨d, hd, below_append r hb⟩
  · refine .inr ⟨below_append r hb, ?_⟩
    have hlen : destDir.length < p.length := by
      simp only [below, Bool.and_eq_true, decide_eq_true_eq] at hb; exact hb.2
    rw [List.drop_append_of_le_length (Nat.le_of_lt hlen)]
    cases hd : p.drop destDir.length with
    | nil => rw [hd] at hh; cases hh
    | cons a b => rw [hd] at hh; exact hh

/-! ### The writers as programs (PB.Model.FsWriters), explored exhaustively -/

/-- If the exhaustive exploration `checkAll` of a writer program succeeds, then for EVERY pattern of failing
    system calls, at EVERY crash point of the resulting run, a reader sees old or new — concurrently, after a
    kill, and after every legal power-loss outcome — and only allowed names are ever created. -/
theorem explored_program_is_atomic (s0 : FS) (dest : Path) (old new : Obs) (tmp : Path → Bool) (prog : Prog)
    (h : checkAll dest old new tmp prog (chkInit s0 dest old new) 0 = true)
    (fails : List Bool) (p q : List Call) (hp : runProg prog s0 (oracleOf 0 fails) = p ++ q) :
    ((vview (run s0 p) dest = old ∨ vview (run s0 p) dest = new) ∧
      ∀ c : Crash s0 p, c.view dest = old ∨ c.view dest = new) ∧
    onlyTemp dest tmp (runProg prog s0 (oracleOf 0 fails)) = true := by
  have hs := checkAll_sound dest old new tmp prog (chkInit s0 dest old new) 0 h fails
  exact ⟨safePublish_sound s0 dest old new _ ((safePublish_eq ..).trans hs.1) p q hp, hs.2⟩

/-- (old state, os.TempDir(), chunks written): destination absent / present, TMPDIR on the same file system /
    on another one / missing, two chunks / empty content. -/
def writeFileConfigs : List (Option Inode × Path × List Seg) :=
  [(none, ["R", "tmp"], exChunks), (some exOldFile, ["R", "tmp"], exChunks),
   (none, ["X"], exChunks), (some exOldFile, ["X"], exChunks),
   (none, ["R", "missing"], exChunks), (some exOldFile, ["R", "missing"], exChunks),
   (some exOldFile, ["R", "tmp"], []), (some exOldLink, ["R", "tmp"], exChunks)]

/-- renameio.WriteFile / fstree.writeFile, modelled branch by branch (tempDir probing with its deferred
    removals, TempFile, Chmod, Write, CloseAtomicallyReplace, Cleanup): whichever system calls fail and wherever
    the run stops, the checker accepts what was executed. -/
theorem writeFile_explored : ∀ cfg ∈ writeFileConfigs,
    checkAll destF (worldOld cfg.1) (some (.file (written cfg.2.2), [])) exTmp
      (writeFileP cfg.2.1 destF 0o640 cfg.2.2)
      (chkInit (worldFS cfg.1) destF (worldOld cfg.1) (some (.file (written cfg.2.2), []))) 0 = true := by
  decide +kernel

/-- (old state, opts.TempDir, os.TempDir(), opts.Mode, chunks, reader fails) -/
def createAtomicConfigs : List (Option Inode × Option Path × Path × Nat × List Seg × Bool) :=
  [(none, none, ["R", "tmp"], 0, exChunks, false), (some exOldFile, none, ["R", "tmp"], 0o600, exChunks, false),
   (some exOldFile, some ["R", "tmp2"], ["R", "tmp"], 0o644, exChunks, false),
   (some exOldFile, none, ["X"], 0, exChunks, true), (none, some ["R", "tmp2"], ["R", "tmp"], 0o600, exChunks, true),
   (some exOldFile, none, ["R", "missing"], 0o600, [], false), (some exOldFile, none, ["R", "tmp"], 0o600, exChunks, true),
   (some exOldFile, some ["X"], ["R", "tmp"], 0o600, exChunks, false)]

def caNew (cfg : Option Inode × Option Path × Path × Nat × List Seg × Bool) : Obs :=
  some (.file (written cfg.2.2.2.2.1), [])

/-- utils.CreateAtomic (hence CopyFileAtomic, ReplaceFileAtomic, File.Unpack), including a reader that fails
    after all chunks were copied: nothing but old or new is ever visible, for every failure pattern. -/
theorem createAtomic_explored : ∀ cfg ∈ createAtomicConfigs,
    checkAll destF (worldOld cfg.1) (caNew cfg) exTmp
      (createAtomicP cfg.2.1 cfg.2.2.1 destF cfg.2.2.2.1 cfg.2.2.2.2.1 cfg.2.2.2.2.2)
      (chkInit (worldFS cfg.1) destF (worldOld cfg.1) (caNew cfg)) 0 = true := by
  decide +kernel

/-- fstree.Put on a nested key whose directory does not exist (writeFile fails with ENOENT from the model,
    MkdirAll, second writeFile), TMPDIR same fs / other fs / missing, no injected failure: the whole run is
    accepted (hence atomic at each of its crash points by `safePublish_sound`), only allowed names are created,
    and it ends with the new content in place. (The exploration of ALL failure patterns of the two-attempt
    program is the product of two `writeFile_explored` trees and is not evaluated in the kernel.) -/
theorem fstreePut_retry_path_safe : ∀ tmpdir ∈ [["R", "tmp"], ["X"], ["R", "missing"]],
    let t := runProg (fstreePutP tmpdir destF exChunks) worldNested (oracleOf 0 (List.replicate 40 false))
    safePublish worldNested destF none (some (.file (written exChunks), [])) t = true ∧
    onlyTemp destF exTmp t = true ∧
    vview (run worldNested t) destF = some (.file (written exChunks), []) := by
  decide +kernel

/-- (resource folder exists, old state, HTTP request fails, body fails) -/
def fetchConfigs : List (Bool × Option Inode × Bool × Bool) :=
  [(false, none, false, false), (true, none, false, false), (true, some exOldFile, false, false),
   (true, some exOldFile, true, false), (true, some exOldFile, false, true), (false, none, false, true)]

def fetchOld (cfg : Bool × Option Inode × Bool × Bool) : Obs := if cfg.1 then worldOld cfg.2.1 else none

/-- updater.fetchFile (unsigned) as run by DownloadUpdates: folder creation through EnsureAbsPath, temp file in
    the registry's tmp dir, failing request, truncated body, CloseAtomicallyReplace, chmod after the rename —
    for every failure pattern and stopping point only the old state or the complete download is visible. -/
theorem fetchFile_explored : ∀ cfg ∈ fetchConfigs,
    checkAll destF (fetchOld cfg) (some (.file (written exChunks), [])) exTmp
      (fetchFileP [(["R"], 0o755), (["R", "dst"], 0o755)] ["R", "tmp"] destF exChunks cfg.2.2.1 cfg.2.2.2)
      (chkInit (worldFetch cfg.1 cfg.2.1) destF (fetchOld cfg) (some (.file (written exChunks), []))) 0 = true := by
  decide +kernel

/-! ### The download writer: when does fetchFile publish? (PB.Model.FsDownload)

The two comparisons of the code — `resp.StatusCode != http.StatusOK` in makeRequest and `resp.ContentLength != n`
after io.Copy — are the definitions `PB.Gen.FsDownload.statusRefused` / `lengthRefused`, regenerated from
updater/fetch.go on every run, so the theorems below are about the guards as the source has them. -/

/-- fetchFile's decision, guard by guard: it reaches CloseAtomicallyReplace iff a required signature was
    verifiable, the request succeeded, neither the status guard nor the length guard refuses, io.Copy returned no
    error, and a required signature matches the bytes written. -/
theorem fetch_publish_iff (v : Option Verif) (r : Resp) :
    (fetchDecision v r).publishes = true ↔
      (∀ x, v = some x → x.policy = .require → x.sigOk = true ∧ r.digestOk = true) ∧
      r.reqErr = false ∧ PB.Gen.FsDownload.statusRefused (r.status : Int) = false ∧ r.copyErr = false ∧
      PB.Gen.FsDownload.lengthRefused r.contentLength r.got = false := by
  unfold fetchDecision
  simp only [publishes_guard _ _ _ (rfl : Outcome.refusedEarly.publishes = false),
    publishes_guard _ _ _ (rfl : Outcome.abort.publishes = false)]
  cases v with
  | none => simp [Outcome.publishes]
  | some x =>
    obtain ⟨pol, sigOk⟩ := x
    cases pol <;> cases sigOk <;> cases r.digestOk <;> simp [Outcome.publishes]

/-- THE decision theorem. For every behaviour of server and connection (any status, any framing, any announced
    length, any number of body bytes arriving, any way the stream ends, with or without transparent gzip) and any
    verification setting: if fetchFile reaches CloseAtomicallyReplace then the status was 200, the length was
    announced (`Content-Length: l`, no transparent decompression), all `l` announced bytes arrived, exactly these
    `l` bytes were written to the pending file, and io.Copy returned no error. A response whose body is cut short
    — by an early close or a reset, in any framing — is never published. -/
theorem fetch_publishes_only_complete (v : Option Verif) (w : Wire)
    (h : (fetchDecision v (transport w)).publishes = true) :
    w.status = 200 ∧ ∃ l, w.complete l ∧ (transport w).got = l ∧ (transport w).copyErr = false := by
  obtain ⟨-, hreq, hst, hcp, hlen⟩ := (fetch_publish_iff v (transport w)).1 h
  unfold transport at hreq hst hcp hlen ⊢
  cases hc : w.connects with
  | false => simp [hc] at hreq
  | true =>
    cases hg : w.gzip with
    | true => simp [hc, hg, lengthRefused_unknown] at hlen
    | false =>
      simp only [hc, hg, Bool.not_true, Bool.false_eq_true, if_false] at hst hcp hlen ⊢
      refine ⟨status_of_not_refused hst, ?_⟩
      cases hf : w.framing with
      | length l =>
        simp only [hf, framed, decide_eq_false_iff_not, Nat.not_lt] at hcp ⊢
        exact ⟨l, ⟨hc, hg, hf, hcp⟩, Nat.min_eq_right hcp, by simpa using hcp⟩
      | _ => simp [hf, lengthRefused_unknown] at hlen

/-- What the code does with a response that does not announce its length (chunked or close-delimited): it
    REFUSES it, complete or not (resp.ContentLength is -1 and never equals the number of bytes written). -/
theorem fetch_refuses_unannounced_length (v : Option Verif) (w : Wire) (h : ∀ l, w.framing ≠ .length l) :
    (fetchDecision v (transport w)).publishes = false := by
  cases hp : (fetchDecision v (transport w)).publishes with
  | false => rfl
  | true =>
    obtain ⟨_, l, ⟨_, _, hf, _⟩, _⟩ := fetch_publishes_only_complete v w hp
    exact absurd hf (h l)

/-- … and likewise a response the transport decompresses transparently (`Content-Encoding: gzip`). -/
theorem fetch_refuses_transparent_gzip (v : Option Verif) (w : Wire) (h : w.gzip = true) :
    (fetchDecision v (transport w)).publishes = false := by
  cases hp : (fetchDecision v (transport w)).publishes with
  | false => rfl
  | true =>
    obtain ⟨_, l, ⟨_, hg, _, _⟩, _⟩ := fetch_publishes_only_complete v w hp
    rw [h] at hg; cases hg

/-- With a required signature nothing is published unless the signature was verified and the bytes written have
    the signed hash (so a truncated or altered body is refused even if every other guard were to let it pass). -/
theorem fetch_required_signature (x : Verif) (hx : x.policy = .require) (r : Resp)
    (h : (fetchDecision (some x) r).publishes = true) : x.sigOk = true ∧ r.digestOk = true :=
  ((fetch_publish_iff (some x) r).1 h).1 x rfl hx

/-- Not vacuous: a complete, announced 200 response IS published (extra bytes after the announced ones and the
    way the connection ends afterwards do not matter). -/
theorem fetch_complete_is_published (w : Wire) (l : Nat) (hc : w.complete l) (hs : w.status = 200) :
    fetchDecision none (transport w) = .publish false := by
  obtain ⟨h1, h2, h3, h4⟩ := hc
  have hmin : min w.arrived l = l := Nat.min_eq_right h4
  have hnl : ¬ w.arrived < l := Nat.not_lt.2 h4
  simp [fetchDecision, transport, framed, h1, h2, h3, hs, hmin, hnl, PB.Gen.FsDownload.statusRefused,
    PB.Gen.FsDownload.lengthRefused]

def mkWire (status : Nat) (f : Framing) (arrived : Nat) (e : Ending) : Wire :=
  { connects := true, status := status, framing := f, gzip := false, arrived := arrived, ending := e, plain := 0, gzipOk := true,
    digestOk := true }

/-- The seeded case, concretely: 200, no Content-Length, no chunking, connection closed after 102400 of 1048576
    bytes — refused. -/
example : fetchDecision none (transport (mkWire 200 .close 102400 .fin)) = .abort := by decide
example : fetchDecision none (transport (mkWire 200 (.length 1048576) 102400 .fin)) = .abort := by decide
example : fetchDecision none (transport (mkWire 206 (.length 100) 100 .fin)) = .abort := by decide
example : fetchDecision (some ⟨.require, true⟩) (transport { mkWire 200 (.length 100) 100 .fin with digestOk := false }) = .abort := by decide
example : fetchDecision (some ⟨.warn, true⟩) (transport { mkWire 200 (.length 100) 100 .fin with digestOk := false }) = .publish false := by decide
example : fetchDecision (some ⟨.require, true⟩) (transport (mkWire 200 (.length 100) 100 .fin)) = .publish true := by decide
example : fetchDecision (some ⟨.require, false⟩) (transport (mkWire 200 (.length 100) 100 .fin)) = .refusedEarly := by decide

/-- System-call level, unbounded (every file system state, every pattern of failing calls and every stopping
    point, every chunking, every list of folders, any number of attempts, DownloadUpdates or GetFile, with or
    without verification): if none of the responses is a complete announced 200 response, the download issues NO
    rename at all — the only call by which these programs change what a path names. -/
theorem download_renames_only_complete (dirs : List (Path × Nat)) (regTmp dest : Path) (v : Option Verif)
    (sig : Option SigFile) (getFile : Bool) (attempts : List (Wire × List Seg))
    (h : ∀ wc ∈ attempts, ¬ (wc.1.status = 200 ∧ ∃ l, wc.1.complete l)) (s : FS) (o : List Choice) :
    ∀ c ∈ runProg (downloadP dirs regTmp dest v sig getFile attempts) s o, ∀ a b, c ≠ .rename a b := by
  apply NoRename.run
  unfold downloadP
  apply noRename_attemptsK
  · intro b; exact .ret _
  · intro wc hwc
    cases hp : (fetchDecision v (transport wc.1)).publishes with
    | false => rfl
    | true =>
      obtain ⟨h200, l, hc, _⟩ := fetch_publishes_only_complete v wc.1 hp
      exact absurd ⟨h200, l, hc⟩ (h wc hwc)

/-! Exploration of the download program over server behaviours on concrete worlds. -/

/-- The resource on the server: 5000 bytes (content 1). -/
def dlBody : Content := written exChunks

/-- The bytes io.Copy writes for a response, as the two chunks of the example cut to `got` bytes. -/
def dlChunks (w : Wire) : List Seg := takeBytes (transport w).got dlBody

/-- Statuses 200/206/301/404/500; announced length exact (5000) / shorter (4096) / longer (6000) / absent
    (chunked, close-delimited); 0 / 4096 / 5000 body bytes arriving; orderly close / reset / chunk terminator;
    no response at all; transparent gzip (complete and cut). -/
def dlWires : List Wire :=
  [{ mkWire 200 (.length 5000) 0 .fin with connects := false },
   mkWire 206 (.length 5000) 5000 .fin, mkWire 301 (.length 5000) 5000 .fin, mkWire 404 (.length 5000) 5000 .fin,
   mkWire 500 (.length 5000) 5000 .fin, mkWire 206 (.length 4096) 4096 .fin,
   { mkWire 200 (.length 300) 300 .fin with gzip := true, plain := 5000 },
   { mkWire 200 (.length 300) 100 .fin with gzip := true, plain := 4096, gzipOk := false }] ++
  ([Framing.length 5000, .length 4096, .length 6000, .chunked, .close].flatMap fun f =>
    [0, 4096, 5000].flatMap fun a => [Ending.fin, .reset].map fun e => mkWire 200 f a e) ++
  [mkWire 200 .chunked 5000 .terminated, mkWire 200 .chunked 4096 .terminated, mkWire 200 .chunked 0 .terminated]

/-- What the destination may show besides the old state: the COMPLETE announced body if the response is a
    complete announced 200 response — and nothing new otherwise. (This is the specification, not the decision
    function of the code.) -/
def dlNew (old : Obs) (w : Wire) : Obs :=
  match w.framing with
  | .length l => if w.connects && !w.gzip && w.status == 200 && decide (l ≤ w.arrived) then some (.file (takeBytes l dlBody), []) else old
  | _ => old

/-- fetchFile as run by DownloadUpdates, one attempt, for EVERY server behaviour of `dlWires`, resource folder
    present (old file present) or absent, every pattern of failing system calls and every stopping point: a reader
    sees the old state, or — only for a complete announced 200 response — the complete announced body; only
    temporary names are created; the destination is never absent unless it was. In particular every truncated
    body (announced or not, closed or reset) leaves the old state at every instant. -/
theorem download_explored : ∀ w ∈ dlWires, ∀ cfg ∈ [(true, some exOldFile), (false, none)],
    checkAll destF (fetchOld (cfg.1, cfg.2, false, false)) (dlNew (fetchOld (cfg.1, cfg.2, false, false)) w) exTmp
      (downloadP [(["R"], 0o755), (["R", "dst"], 0o755)] ["R", "tmp"] destF none none false [(w, dlChunks w)])
      (chkInit (worldFetch cfg.1 cfg.2) destF (fetchOld (cfg.1, cfg.2, false, false))
        (dlNew (fetchOld (cfg.1, cfg.2, false, false)) w)) 0 = true := by
  decide +kernel

/-- Retry: a first attempt whose close-delimited body is cut at 4096 bytes (refused, temporary file removed),
    then a complete announced answer — through GetFile and through DownloadUpdates, no injected failure: the whole
    run is accepted with new = the complete body (so the fragment of the first attempt is never visible, at no
    crash point), only temporary names are created, the complete body is in place at the end and no stray file
    is left in the temporary directory. -/
theorem download_retry_path_safe : ∀ getFile ∈ [true, false],
    let w1 := mkWire 200 .close 4096 .fin
    let w2 := mkWire 200 (.length 5000) 5000 .fin
    let t := runProg (downloadP [(["R"], 0o755), (["R", "dst"], 0o755)] ["R", "tmp"] destF none none getFile
      [(w1, dlChunks w1), (w2, dlChunks w2)]) (worldFetch true (some exOldFile)) (oracleOf 0 (List.replicate 40 false))
    safePublish (worldFetch true (some exOldFile)) destF (worldOld (some exOldFile)) (some (.file dlBody, [])) t = true ∧
    onlyTemp destF exTmp t = true ∧
    vview (run (worldFetch true (some exOldFile)) t) destF = some (.file dlBody, []) ∧
    (run (worldFetch true (some exOldFile)) t).names.all (fun e => !below ["R", "tmp"] e.1) = true := by
  decide +kernel

/-- Not vacuous: the same exploration FAILS for a writer that publishes a close-delimited body as it came
    (length guard skipped when the length is unknown). -/
example : checkAll destF (worldOld (some exOldFile)) (worldOld (some exOldFile)) exTmp
    (.sys (.createTemp ["R", "tmp"] ".f") fun r =>
      match r with
      | .created t fd => writeAllP fd (dlChunks (mkWire 200 .close 4096 .fin)) (cleanupP t fd false (.ret false))
          (closeAtomicallyReplaceK t fd destF fun _ => .ret false)
      | _ => .ret false)
    (chkInit (worldFetch true (some exOldFile)) destF (worldOld (some exOldFile)) (worldOld (some exOldFile))) 0 = false := by
  decide +kernel

/-! ### The unpack writers -/

/-- File.Unpack publishes only a stream that was read to its end without error, and only when the unpacked file
    does not exist yet. -/
theorem fileUnpack_publishes_only_complete (there : Bool) (g : GzFile) (h : fileUnpackPublishes there g = true) :
    there = false ∧ g.headerOk = true ∧ g.streamOk = true := by
  simp only [fileUnpackPublishes, Bool.and_eq_true, Bool.not_eq_true'] at h
  exact ⟨h.1.1, h.1.2, h.2⟩

/-- (unpacked file exists, header valid, stream valid) × old state -/
def unpackConfigs : List (GzFile × Option Inode) :=
  [(⟨true, true⟩, none), (⟨true, true⟩, some exOldFile), (⟨true, false⟩, none), (⟨true, false⟩, some exOldFile),
   (⟨false, true⟩, none), (⟨false, false⟩, none), (⟨false, false⟩, some exOldFile)]

/-- File.Unpack for every kind of gzip file (bad header: refused before any file exists; error while reading —
    corrupt data, bad trailer, truncated file, trailing garbage: Cleanup; valid), destination absent or present,
    every failure pattern and stopping point: old, or — only for a valid stream onto an absent destination — the
    complete unpacked content. -/
theorem fileUnpack_explored : ∀ cfg ∈ unpackConfigs,
    checkAll destF (worldOld cfg.2) (if fileUnpackPublishes cfg.2.isSome cfg.1 then some (.file dlBody, []) else worldOld cfg.2) exTmp
      (fileUnpackD ["R", "tmp2"] ["R", "tmp"] destF cfg.1 exChunks)
      (chkInit (worldFS cfg.2) destF (worldOld cfg.2)
        (if fileUnpackPublishes cfg.2.isSome cfg.1 then some (.file dlBody, []) else worldOld cfg.2)) 0 = true := by
  decide +kernel

/-- unpackZipArchive (decision level, every archive, every member size): the directory is renamed into place only
    if the archive opened and EVERY member was delivered by its reader without error and written completely — a
    corrupt or short member (flate error, checksum error, unexpected EOF) and a member larger than MaxUnpackSize
    abort the unpacking. Proved over the regenerated `zipLimitChecked`: it fails for a copyFromZipArchive that
    returns nil right after io.CopyN. -/
theorem unpackZip_publishes_only_complete (opens : Bool) (members : List ZipMember)
    (h : unpackZipPublishes opens members = true) :
    opens = true ∧ ∀ m ∈ members, (zipCopy m).1 = m.size ∧ m.readErr = false := by
  simp only [unpackZipPublishes, Bool.and_eq_true, List.all_eq_true, Bool.not_eq_true'] at h
  refine ⟨h.1, fun m hm => ?_⟩
  have h2 := h.2 m hm
  have hc : PB.Gen.FsDownload.zipLimitChecked = true := by decide
  simp only [zipCopy, zipCopyWith, hc, if_true] at h2 ⊢
  by_cases h3 : m.size < PB.Gen.FsDownload.maxUnpackSize
  · simp only [h3, if_true] at h2 ⊢
    exact ⟨trivial, h2⟩
  · simp only [h3, if_false] at h2 ⊢
    by_cases h4 : m.size = PB.Gen.FsDownload.maxUnpackSize
    · simp only [h4, if_true] at h2 ⊢
      exact ⟨trivial, h2⟩
    · simp [h4] at h2

/-- Why the check after io.CopyN is needed (a defect copyFromZipArchive had, as a theorem): for a copyFromZipArchive
    that returns nil as soon as MaxUnpackSize bytes were copied, the statement above is FALSE — a member of
    MaxUnpackSize+1 bytes is cut, accepted, and the directory is published. -/
theorem unpackZip_limit_check_needed :
    ¬ (∀ (members : List ZipMember), (members.all fun m => !(zipCopyWith false m).2) = true →
        ∀ m ∈ members, (zipCopyWith false m).1 = m.size) := by
  intro h
  have := h [⟨PB.Gen.FsDownload.maxUnpackSize + 1, false⟩] (by decide) _ (List.mem_singleton.2 rfl)
  revert this
  decide

/-- The limit itself is not a cut: a member of exactly MaxUnpackSize bytes is written completely, and its read
    error (checksum verdict at the end) is still seen. -/
example : zipCopy ⟨PB.Gen.FsDownload.maxUnpackSize, false⟩ = (PB.Gen.FsDownload.maxUnpackSize, false) := by decide
example : zipCopy ⟨PB.Gen.FsDownload.maxUnpackSize, true⟩ = (PB.Gen.FsDownload.maxUnpackSize, true) := by decide
example : (zipCopy ⟨PB.Gen.FsDownload.maxUnpackSize + 1, false⟩).2 = true := by decide
example : unpackZipPublishes true [⟨100, false⟩, ⟨0, false⟩] = true := by decide

/-- renameio.Symlink over an absent destination, an existing symlink and an existing regular file. -/
theorem symlink_explored : ∀ old ∈ [none, some exOldLink, some exOldFile],
    checkAll destF (worldOld old) (some (.symlink "new-target", [])) exTmp (symlinkP "new-target" destF)
      (chkInit (worldFS old) destF (worldOld old) (some (.symlink "new-target", []))) 0 = true := by
  decide +kernel

/-- The exploration is not vacuous: with the `Sync()` removed from the program it fails. -/
example : checkAll destF (worldOld none) (some (.file (written exChunks), [])) exTmp
    (.sys (.createTemp ["R", "tmp"] ".f") fun r =>
      match r with
      | .created t fd => writeAllP fd exChunks (.ret true)
          (.sys (.call (.close fd)) fun _ => osRenameP t destF fun _ => .ret false)
      | _ => .ret true)
    (chkInit (worldFS none) destF (worldOld none) (some (.file (written exChunks), []))) 0 = false := by decide +kernel

/-! ### Non-vacuity: the hypotheses are met by the sequences recorded from the real writers -/

/-- fstree.Put of a new record, TMPDIR on another file system (recorded run, `tmp=cross`): the probe rename
    fails with EXDEV, the temp file is created next to the destination. -/
def exCross : List Call :=
  [.openC ["X", ".f#1"] true true false 0o600 (some 5), .close 5,
   .openC ["R", "dst", ".f#2"] true true false 0o600 (some 5), .close 5,
   .rename ["X", ".f#1"] ["R", "dst", ".f#2"], .unlink ["R", "dst", ".f#2"], .unlink ["X", ".f#1"],
   .openC ["R", "dst", ".f#3"] true true false 0o600 (some 5), .fchmod 5 0o644,
   .write 5 ⟨1, 0, 4096⟩, .write 5 ⟨1, 4096, 904⟩, .fsync 5, .close 5,
   .rename ["R", "dst", ".f#3"] ["R", "dst", "f"]]

def exWorld : FS :=
  { inodes := [dirInode, dirInode, dirInode, { kind := .file, mode := 0o644, data := [⟨0, 0, 100⟩], target := "", clean := true }],
    names := [(["R", "dst", "f"], 3), (["R", "dst"], 0), (["R"], 1), (["X"], 2)], fds := [] }

example : safePublish exWorld destF (some (.file [⟨0, 0, 100⟩], [])) (some (.file [⟨1, 0, 5000⟩], [])) exCross = true := by decide
example : (exec (run exWorld (exCross.take 4)) (.rename ["X", ".f#1"] ["R", "dst", ".f#2"])).2 = .err .EXDEV := by decide
example : onlyTemp destF (isTemp [["X"]] ["R", "dst"] [".f"]) exCross = true := by decide
example : vview (run exWorld exCross) destF = some (.file [⟨1, 0, 5000⟩], []) := by decide
/-- the same writer writing the destination in place is rejected (a reader sees the empty file) -/
example : safePublish exWorld destF (some (.file [⟨0, 0, 100⟩], [])) (some (.file [⟨1, 0, 5000⟩], []))
    [.openC destF true false true 0o644 (some 5), .write 5 ⟨1, 0, 5000⟩, .fsync 5, .close 5] = false := by decide
/-- renaming before the data is complete is rejected -/
example : safePublish exWorld destF (some (.file [⟨0, 0, 100⟩], [])) (some (.file [⟨1, 0, 5000⟩], []))
    [.openC ["R", "dst", ".f#1"] true true false 0o600 (some 5), .fsync 5, .rename ["R", "dst", ".f#1"] destF,
     .write 5 ⟨1, 0, 5000⟩, .fsync 5, .close 5] = false := by decide
/-- a crash outcome exists for every run (the lossless one), so the crash clause quantifies over a non-empty set -/
example : Nonempty (Crash exWorld exCross) := ⟨Crash.lossless exWorld exCross⟩

/-- archive unpacking (recorded shape): extract below the temp dir, rename the directory into place -/
def exUnpack : List Call :=
  [.mkdir ["R", "tmp", "pack"] 0o700, .openC ["R", "tmp", "pack", "a.txt"] true false true 0o644 (some 6),
   .write 6 ⟨1, 0, 10⟩, .close 6, .mkdir ["R", "tmp", "pack", "sub"] 0o755,
   .openC ["R", "tmp", "pack", "sub", "b"] true false true 0o600 (some 6), .write 6 ⟨2, 0, 7⟩, .close 6,
   .rename ["R", "tmp", "pack"] ["R", "dst", "pack"], .chmod ["R", "dst", "pack"] 0o755]

def exTree : Obs := some (.dir, [(["a.txt"], .file [⟨1, 0, 10⟩]), (["sub"], .dir), (["sub", "b"], .file [⟨2, 0, 7⟩])])

example : safePublishDir (baseFS none) ["R", "dst", "pack"] none exTree exUnpack = true := by decide
/-- extracting directly into the destination is rejected: readers see an incomplete directory -/
example : safePublishDir (baseFS none) ["R", "dst", "pack"] none exTree
    [.mkdir ["R", "dst", "pack"] 0o700, .openC ["R", "dst", "pack", "a.txt"] true false true 0o644 (some 6)] = false := by decide

/-! ### Several writers of one destination -/

/-- Under serialisation the single-writer theorem applies to every writer in turn. Let `P` be the set of allowed
    states of the destination — the state before the first operation or any complete new content — and let every
    writer, whenever it is STARTED in an allowed state, be accepted by the single-writer checker for "what it found"
    → "some allowed state" (that is what `safePublishDir_sound`'s hypothesis asks of one writer). Then after EVERY
    prefix of the combined run of any number of such writers executed one after the other, a reader of the
    destination sees an allowed state. -/
theorem serialised_writers_atomic (dest : Path) (P : Obs → Prop) (ws : List Writer)
    (hw : ∀ w ∈ ws, ∀ s, P (vview s dest) → ∃ n, P n ∧ safePublishDir s dest (vview s dest) n (w s) = true) :
    ∀ s0, P (vview s0 dest) → ∀ p q, serialRuns s0 ws = p ++ q → P (vview (run s0 p) dest) := by
  induction ws with
  | nil =>
    intro s0 h0 p q hpq
    obtain ⟨rfl, -⟩ := List.nil_eq_append_iff.1 hpq
    exact h0
  | cons w ws ih =>
    intro s0 h0 p q hpq
    obtain ⟨n, hn, hsafe⟩ := hw w (List.mem_cons_self ..) s0 h0
    have hone (p m) (e : w s0 = p ++ m) : P (vview (run s0 p) dest) :=
      (safePublishDir_sound dest (vview s0 dest) n (w s0) s0 hsafe p m e).elim (· ▸ h0) (· ▸ hn)
    rcases List.append_eq_append_iff.1 hpq with ⟨m, rfl, hm⟩ | ⟨m, hm, -⟩
    · -- p = w s0 ++ m : the first writer has finished, `m` is a prefix of the rest
      rw [run_append]
      exact ih (fun w' hw' => hw w' (List.mem_cons_of_mem _ hw')) _ (hone _ [] (List.append_nil _).symm) m _ hm
    · -- w s0 = p ++ m : still inside the first writer
      exact hone p m hm

/-- … and what has been published stays published: when the destination shows a complete new content (an element
    of `news`: some operation has succeeded), every later state under any number of further serialised writers —
    successful, failed or interrupted — shows a complete new content again (never the absent / older state, never a
    fragment). -/
theorem serialised_writers_keep_published (dest : Path) (news : List Obs) (ws : List Writer)
    (hw : ∀ w ∈ ws, ∀ s, vview s dest ∈ news → ∃ n ∈ news, safePublishDir s dest (vview s dest) n (w s) = true)
    (s0 : FS) (h0 : vview s0 dest ∈ news) (p q : List Call) (hpq : serialRuns s0 ws = p ++ q) :
    vview (run s0 p) dest ∈ news :=
  serialised_writers_atomic dest (· ∈ news) ws
    hw s0 h0 p q hpq

/-- The assumption "writers of one destination are serialised" is DISCHARGED for archive unpacking by the lock that
    `UnpackArchive` takes in the source (regenerated: `PB.Gen.FsDownload.unpackLock`, 2 = exclusive): every combined
    run of two unpackers the model admits shows, after every prefix, an allowed state. With `RLock` or no lock
    (`unpackLock` ≠ 2) this proof fails — and the statement is false, see `two_unpackers_need_the_lock`. -/
theorem unpack_two_writers_atomic (dest : Path) (P : Obs → Prop) (wa wb : Writer)
    (ha : ∀ s, P (vview s dest) → ∃ n, P n ∧ safePublishDir s dest (vview s dest) n (wa s) = true)
    (hb : ∀ s, P (vview s dest) → ∃ n, P n ∧ safePublishDir s dest (vview s dest) n (wb s) = true)
    (s0 : FS) (h0 : P (vview s0 dest)) (t : List Call) (ht : TwoUnpackRuns unpackLockKind s0 wa wb t)
    (p q : List Call) (hpq : t = p ++ q) : P (vview (run s0 p) dest) := by
  -- `unpackLockKind` is 2: the runs admitted are the two serial orders
  rcases (ht : _ ∨ _) with rfl | rfl
  · exact serialised_writers_atomic dest P [wa, wb] (by simpa using ⟨ha, hb⟩) s0 h0 p q hpq
  · exact serialised_writers_atomic dest P [wb, wa] (by simpa using ⟨hb, ha⟩) s0 h0 p q hpq

/-! Writers that need NO serialisation: renameio's private temp files. -/

/-- Two renameio writers of ONE destination that are not serialised at all (two downloads / two File.Unpack of the
    same file, each with its own O_EXCL temp file and descriptor): EVERY interleaving of their two call sequences
    (924) is accepted by the single-file checker — readers and crash outcomes see old or new throughout — whether
    the destination was absent or held a previous file. Bounded: the concrete one-chunk content `oneChunk`
    (kernel exploration in Lemmas/FsInterleave.lean; `Interleave` is the inductive definition, unbounded). -/
theorem two_renameio_writers_any_interleaving :
    ∀ old ∈ [none, some (([⟨0, 0, 100⟩] : Content), 0o644)], ∀ t,
      Interleave (publishSeq tmpF destF 6 0o644 oneChunk) (publishSeq tmpF2 destF 7 0o600 oneChunk) t →
      safePublish (baseFS old) destF (baseOld old) (some (.file (written oneChunk), [])) t = true := by
  intro old hold t ht
  have h := List.all_eq_true.1 renameio_pair_explored old hold
  rw [show 12 = t.length from ht.length_eq.symm] at h
  rw [safePublish_eq]
  exact explore_sound _ _ _ _ ht h (List.mem_singleton.2 rfl) rfl rfl

/-- … and that rests on the temp file being PRIVATE: with one shared temp name (opened O_TRUNC instead of
    O_EXCL under a fresh name) some interleaving publishes a fragment — B truncates what A is about to rename. -/
def sharedTmpSeq (fd : Nat) : List Call :=
  [.openC tmpF true false true 0o600 (some fd), .fchmod fd 0o644] ++ oneChunk.map (.write fd) ++
  [.fsync fd, .close fd, .rename tmpF destF]

theorem shared_temp_name_needs_serialisation :
    ∃ t, Interleave (sharedTmpSeq 6) (sharedTmpSeq 7) t ∧
      safePublish (baseFS none) destF none (some (.file (written oneChunk), [])) t = false := by
  have h := ((Interleave.nil_left ((sharedTmpSeq 7).drop 1)).append_left ((sharedTmpSeq 6).drop 3)).append_right
    ((sharedTmpSeq 7).take 1) |>.append_left ((sharedTmpSeq 6).take 3)
  rw [List.append_nil, List.take_append_drop, List.take_append_drop] at h
  exact ⟨_, h, by decide⟩

/-- Two unpackers of one archive (members `a.txt`, `b`) that are NOT serialised, as recorded from the code with
    `RLock` in `UnpackArchive`: both find the destination absent and work in the same name-derived temp directory
    `R/tmp/pack`; B truncates `b` just before A renames the directory into place; B's next open below the temp
    directory fails, and its error clean-up `os.RemoveAll(destDir)` removes what A published. -/
def exTwoUnpackers : List Call :=
  [.mkdir ["R", "tmp", "pack"] 0o700,                                                   -- A: EnsureAbsPath(tmpDir)
   .openC ["R", "tmp", "pack", "a.txt"] true false true 0o644 (some 6), .write 6 ⟨1, 0, 10⟩, .close 6,   -- A: a.txt
   .mkdir ["R", "tmp", "pack"] 0o700,                                                   -- B: EnsureAbsPath (EEXIST is fine)
   .openC ["R", "tmp", "pack", "a.txt"] true false true 0o644 (some 7), .write 7 ⟨1, 0, 10⟩, .close 7,   -- B: a.txt again
   .openC ["R", "tmp", "pack", "b"] true false true 0o600 (some 6), .write 6 ⟨2, 0, 7⟩, .close 6,        -- A: b
   .openC ["R", "tmp", "pack", "b"] true false true 0o600 (some 7),                     -- B: b, O_TRUNC
   .rename ["R", "tmp", "pack"] ["R", "dst", "pack"],                                   -- A: publishes, returns nil
   .write 7 ⟨2, 0, 7⟩, .close 7,                                                        -- B: goes on writing below the destination
   .rename ["R", "tmp", "pack"] ["R", "dst", "pack"],                                   -- B: ENOENT → error
   .unlink ["R", "dst", "pack", "a.txt"], .unlink ["R", "dst", "pack", "b"], .rmdir ["R", "dst", "pack"]] -- B: RemoveAll(destDir)

def exTree2 : Obs := some (.dir, [(["a.txt"], .file [⟨1, 0, 10⟩]), (["b"], .file [⟨2, 0, 7⟩])])

/-- The lock is needed: the unserialised interleaving above is rejected by the checker; a reader sees the directory
    with an EMPTY member right after A's rename (a fragment), and at the end — A has returned nil — the destination
    is absent again. (The same two runs one after the other are accepted: B finds the destination and does nothing.) -/
theorem two_unpackers_need_the_lock :
    safePublishDir (baseFS none) ["R", "dst", "pack"] none exTree2 exTwoUnpackers = false ∧
    vview (run (baseFS none) (exTwoUnpackers.take 13)) ["R", "dst", "pack"]
      = some (.dir, [(["a.txt"], .file [⟨1, 0, 10⟩]), (["b"], .file [])]) ∧
    vview (run (baseFS none) exTwoUnpackers) ["R", "dst", "pack"] = none := by
  decide

/-- one unpacker alone, and a second one after it (finds the destination: no calls) — accepted, ends published -/
def exOneUnpacker : Writer := fun s =>
  if (lookup s.names ["R", "dst", "pack"]).isSome then [] else
  [.mkdir ["R", "tmp", "pack"] 0o700,
   .openC ["R", "tmp", "pack", "a.txt"] true false true 0o644 (some 6), .write 6 ⟨1, 0, 10⟩, .close 6,
   .openC ["R", "tmp", "pack", "b"] true false true 0o600 (some 6), .write 6 ⟨2, 0, 7⟩, .close 6,
   .rename ["R", "tmp", "pack"] ["R", "dst", "pack"], .chmod ["R", "dst", "pack"] 0o755]

example : safePublishDir (baseFS none) ["R", "dst", "pack"] none exTree2
    (serialRuns (baseFS none) [exOneUnpacker, exOneUnpacker]) = true := by decide
example : vview (run (baseFS none) (serialRuns (baseFS none) [exOneUnpacker, exOneUnpacker])) ["R", "dst", "pack"] = exTree2 := by decide
example : TwoUnpackRuns unpackLockKind (baseFS none) exOneUnpacker exOneUnpacker
    (serialRuns (baseFS none) [exOneUnpacker, exOneUnpacker]) := by
  exact (Or.inl rfl : _ ∨ _)

end PB.C17
