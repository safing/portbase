import PB.Model.DbApi
/-
Lemmas for C13: handlers against the reply automaton (`Sim`, `Legal`), connections against the trace
acceptor (`Good`), the abstract database through `slot`.
-/

namespace PB.DbApi
open PB PB.DbApiProto

/-! ### what the statements of C13 speak of -/

/-- Well-formed requests: the operation ID (and the key of a write) contain no separator. -/
def WF : Msg → Prop
  | .cancel op => bar ∉ op
  | .read _ op _ => bar ∉ op
  | .write _ op key _ => bar ∉ op ∧ bar ∉ key
  | _ => False

def tys (out : List Reply) : List RType := out.map (·.ty)

/-- Declarative meaning of a trace: the events can be consumed one by one, every request opening a
    new conversation, every reply advancing ONE conversation of its operation ID by a legal step. -/
inductive Explained : Config → List Ev → Config → Prop where
  | nil (c : Config) : Explained c [] c
  | req (c c' : Config) (op : Bytes) (k : Kind) (es : List Ev) :
      Explained (c ++ [{ op := op, kind := k, ph := init k }]) es c' → Explained c (.req op k :: es) c'
  | rep (c c' : Config) (op : Bytes) (t : RType) (es : List Ev) (i : Nat) (r : Req) (p' : Ph) :
      c[i]? = some r → r.op = op → delta r.ph t = some p' →
      Explained (c.set i { r with ph := p' }) es c' → Explained c (.rep op t :: es) c'

/-- What the database holds under a parsed key: the database's kind and the stored record. -/
def slot (dbs : List Db) (dn k : Bytes) : Option (DbKind × Option Rec) :=
  (findDb dn dbs).map (fun d => (d.kind, lookupRec k d.recs))

/-- Does this message write or delete the record under the parsed key `(dn, k)`? -/
def touches (msg : Bytes) (dn k : Bytes) : Prop :=
  match classify msg with
  | .write _ _ key _ => parseKey key = (dn, k)
  | .read .delete _ key => parseKey key = (dn, k)
  | _ => False

/-- The state after a history of messages. -/
def runMsgs (st : St) : List (Bytes × Annot) → St
  | [] => st
  | (m, an) :: rest => runMsgs (handle st m an).1 rest

theorem cut_spec (sep : UInt8) (l : Bytes) :
    match cut sep l with
    | some (h, t) => l = h ++ sep :: t ∧ sep ∉ h
    | none => sep ∉ l := by
  fun_induction cut sep l <;> simp_all [eq_comm (a := sep)]

theorem cut_some (sep : UInt8) (l h t : Bytes) (hc : cut sep l = some (h, t)) :
    l = h ++ sep :: t ∧ sep ∉ h := by
  simpa [hc] using cut_spec sep l

theorem cut_eq_none (sep : UInt8) (l : Bytes) (hc : cut sep l = none) : sep ∉ l := by
  simpa [hc] using cut_spec sep l

theorem cut_none (sep : UInt8) (l : Bytes) (hn : sep ∉ l) : cut sep l = none := by
  have := cut_spec sep l
  cases hc : cut sep l with
  | none => rfl
  | some p => simp_all

theorem cut_append (sep : UInt8) (h t : Bytes) (hn : sep ∉ h) :
    cut sep (h ++ sep :: t) = some (h, t) := by
  induction h with
  | nil => simp [cut]
  | cons b bs ih => simp_all [cut, eq_comm (a := sep)]

theorem rcmd_bytes_nobar (c : RCmd) : bar ∉ c.bytes := by cases c <;> decide
theorem wcmd_bytes_nobar (c : WCmd) : bar ∉ c.bytes := by cases c <;> decide
theorem rcmdOf_bytes (c : RCmd) : rcmdOf c.bytes = some c := by cases c <;> decide
theorem wcmdOf_bytes (c : WCmd) : wcmdOf c.bytes = some c := by cases c <;> decide
theorem rcmdOf_wbytes (c : WCmd) : rcmdOf c.bytes = none := by cases c <;> decide

theorem rcmdOf_some (b : Bytes) (c : RCmd) (h : rcmdOf b = some c) : b = c.bytes := by
  grind [rcmdOf, RCmd.bytes]

theorem wcmdOf_some (b : Bytes) (c : WCmd) (h : wcmdOf b = some c) : b = c.bytes := by
  grind [wcmdOf, WCmd.bytes]

theorem run_append (p : Ph) (a b : List RType) :
    run p (a ++ b) = (run p a).bind (fun p' => run p' b) := by
  induction a generalizing p with
  | nil => rfl
  | cons t ts ih =>
    simp only [List.cons_append, run]
    cases delta p t with
    | none => rfl
    | some p' => exact ih p'

theorem run_fin {ts : List RType} {p : Ph} (h : run .fin ts = some p) : ts = [] := by
  cases ts with
  | nil => rfl
  | cons t ts => cases t <;> cases h

theorem run_get1 {ts : List RType} {p : Ph} (h : run .get1 ts = some p) (hc : Complete p) :
    ts = [.ok] ∨ ts = [.error] := by
  cases ts with
  | nil => cases h; exact hc.elim
  | cons t ts =>
    cases t with
    | ok | error => cases run_fin h; simp
    | _ => cases h

theorem run_write1 {ts : List RType} {p : Ph} (h : run .write1 ts = some p) (hc : Complete p) :
    ts = [.success] ∨ ts = [.error] := by
  cases ts with
  | nil => cases h; exact hc.elim
  | cons t ts =>
    cases t with
    | success | error => cases run_fin h; simp
    | _ => cases h

theorem run_q {ts : List RType} {p : Ph} (h : run .q ts = some p) (hc : Complete p) :
    ∃ recs t, ts = recs ++ [t] ∧ (∀ x ∈ recs, x = .ok ∨ x = .warning) ∧ (t = .done ∨ t = .error) := by
  induction ts with
  | nil => cases h; exact hc.elim
  | cons t ts ih =>
    cases t with
    | ok | warning =>
      obtain ⟨recs, t', rfl, hr, ht⟩ := ih h
      exact ⟨_ :: recs, t', rfl, by simpa using hr, ht⟩
    | done | error => cases run_fin h; exact ⟨[], _, rfl, by simp, by simp⟩
    | _ => cases h

/-! ### every handler step keeps its conversation inside the protocol -/

theorem queryItem_ty (op : Bytes) (r : RecView) :
    (queryItem op r).ty = .ok ∨ (queryItem op r).ty = .warning := by
  rcases r with ⟨_, _ | _, _, _⟩ <;> simp [queryItem]

theorem subItem_ty (op : Bytes) (r : RecView) :
    (subItem op r).ty = .warning ∨ (subItem op r).ty = .del ∨ (subItem op r).ty = .new ∨ (subItem op r).ty = .upd := by
  rcases r with ⟨_, _ | _, _ | _, _ | _⟩ <;> simp [subItem]

theorem queryItem_op (op : Bytes) (r : RecView) : (queryItem op r).op = op := by
  rcases r with ⟨_, _ | _, _, _⟩ <;> rfl

theorem subItem_op (op : Bytes) (r : RecView) : (subItem op r).op = op := by
  rcases r with ⟨_, _ | _, _ | _, _ | _⟩ <;> rfl

/-- Location `pc` of a handler answering under `op` fits phase `p` of its conversation. -/
inductive Sim (op : Bytes) : Pc → Ph → Prop
  | start {m : Msg} : m.op = op → Sim op (.start m) (init m.kind)
  | qsOpen : Sim op (.qsOpen op) .qs0
  | query : Sim op (.qloop op false) .q
  | qsub0 : Sim op (.qloop op true) .qs0
  | qsub : Sim op (.qloop op true) .qs
  | sub0 : Sim op (.sloop op) .s0
  | sub : Sim op (.sloop op) .s
  | fin {p : Ph} : Complete p → Sim op .fin p
  | down {p : Ph} : Open p → Sim op .down p

/-- One step from phase `p`: silence, or one reply under `op` that the protocol allows. -/
inductive Legal (op : Bytes) (p : Ph) : Pc × List Reply → Prop
  | silent {pc : Pc} : Sim op pc p → Legal op p (pc, [])
  | reply {pc : Pc} {r : Reply} {p' : Ph} :
      r.op = op → delta p r.ty = some p' → Sim op pc p' → Legal op p (pc, [r])

-- Below, the `rfl`s are the reply's operation ID and the automaton's transition, found by unification.

theorem stepOpen_legal {op : Bytes} {stay next : Pc} {p : Ph} (o : Obs) (hstay : Sim op stay p)
    (hnext : Sim op next p) (herr : delta p .error = some .fin) : Legal op p (stepOpen stay next op o) := by
  match o with
  | .res (.error e) => exact .reply rfl herr (.fin trivial)
  | .res (.ok _) => exact .silent hnext
  | .got _ | .item _ | .closed _ | .shutdown | .cancelRes _ => exact .silent hstay

theorem stepWrite_legal {op : Bytes} {m : Msg} (o : Obs) (hm : Sim op (.start m) .write1) :
    Legal op .write1 (stepWrite m op o) := by
  match o with
  | .res (.error e) | .res (.ok _) => exact .reply rfl rfl (.fin trivial)
  | .got _ | .item _ | .closed _ | .shutdown | .cancelRes _ => exact .silent hm

theorem stepGet_legal {op : Bytes} {m : Msg} (o : Obs) (hm : Sim op (.start m) .get1) :
    Legal op .get1 (stepGet m op o) := by
  match o with
  | .got (.error e) | .got (.ok ⟨_, .error _, _, _⟩) | .got (.ok ⟨_, .ok _, _, _⟩) =>
    exact .reply rfl rfl (.fin trivial)
  | .res _ | .item _ | .closed _ | .shutdown | .cancelRes _ => exact .silent hm

theorem stepCancel_legal {op : Bytes} {m : Msg} (o : Obs) (hm : Sim op (.start m) .c) :
    Legal op .c (stepCancel m op o) := by
  match o with
  | .cancelRes (some e) => exact .reply rfl rfl (.fin trivial)
  | .cancelRes none => exact .silent (.fin trivial)
  | .res _ | .got _ | .item _ | .closed _ | .shutdown => exact .silent hm

theorem stepQuery_legal {op : Bytes} {ts : Bool} {p : Ph} (o : Obs) (h : Sim op (.qloop op ts) p) :
    Legal op p (stepQuery op ts o) := by
  match o with
  | .item r =>
    rcases queryItem_ty op r with ht | ht <;> cases h <;>
      exact .reply (queryItem_op op r) (by rw [ht]; rfl) (by constructor)
  | .closed (some e) => cases h <;> exact .reply rfl rfl (.fin trivial)
  | .closed none =>
    cases h with
    | query => exact .reply rfl rfl (.fin trivial)
    | qsub0 | qsub => exact .reply rfl rfl .sub
  | .shutdown => exact .silent (.down (by cases h <;> trivial))
  | .res _ | .got _ | .cancelRes _ => exact .silent h

theorem stepSub_legal {op : Bytes} {p : Ph} (o : Obs) (h : Sim op (.sloop op) p) :
    Legal op p (stepSub op o) := by
  match o with
  | .item r =>
    rcases subItem_ty op r with ht | ht | ht | ht <;> cases h <;>
      exact .reply (subItem_op op r) (by rw [ht]; rfl) .sub
  | .closed _ => cases h <;> exact .reply rfl rfl (.fin trivial)
  | .shutdown => exact .silent (.down (by cases h <;> trivial))
  | .res _ | .got _ | .cancelRes _ => exact .silent h

theorem step_legal {op : Bytes} {pc : Pc} {p : Ph} (o : Obs) (h : Sim op pc p) : Legal op p (step pc o) := by
  cases h with
  | @start m hop =>
    subst hop
    match m with
    | .malformed | .unknown _ => exact .silent (.start rfl)
    | .cancel _ => exact stepCancel_legal o (.start rfl)
    | .read .get _ _ => exact stepGet_legal o (.start rfl)
    | .read .query _ _ => exact stepOpen_legal o (.start rfl) .query rfl
    | .read .sub _ _ => exact stepOpen_legal o (.start rfl) .sub0 rfl
    | .read .qsub _ _ => exact stepOpen_legal o (.start rfl) .qsOpen rfl
    | .read .delete _ _ | .write _ _ _ _ => exact stepWrite_legal o (.start rfl)
  | qsOpen => exact stepOpen_legal o .qsOpen .qsub0 rfl
  | query | qsub0 | qsub => exact stepQuery_legal o (by constructor)
  | sub0 | sub => exact stepSub_legal o (by constructor)
  | fin hp => exact .silent (.fin hp)
  | down hp => exact .silent (.down hp)

theorem runPc_cons (pc : Pc) (o : Obs) (os : List Obs) :
    runPc pc (o :: os) = ((runPc (step pc o).1 os).1, (step pc o).2 ++ (runPc (step pc o).1 os).2) := rfl

/-- Running a handler over any observations keeps the conversation inside the protocol. -/
theorem runPc_legal {op : Bytes} {pc : Pc} {p : Ph} (obs : List Obs) (h : Sim op pc p) :
    ∃ p', run p (tys (runPc pc obs).2) = some p' ∧ Sim op (runPc pc obs).1 p' ∧
      ∀ r ∈ (runPc pc obs).2, r.op = op := by
  induction obs generalizing pc p with
  | nil => exact ⟨p, rfl, h, by simp [runPc]⟩
  | cons o os ih =>
    have hl := step_legal o h
    rw [runPc_cons]
    generalize step pc o = res at hl
    cases hl with
    | silent h1 => exact ih h1
    | reply hop hd h1 =>
      obtain ⟨p'', hr, hs, ho⟩ := ih h1
      refine ⟨p'', ?_, hs, ?_⟩
      · simpa [tys, run, hd] using hr
      · simpa [hop] using ho

/-! ### every interleaving of a connection is accepted by the trace acceptor -/

theorem accRun_append (cs : AccSt) (a b : List Ev) : accRun cs (a ++ b) = accRun (accRun cs a) b := by
  induction a generalizing cs with
  | nil => rfl
  | cons e es ih => exact ih _

theorem mem_dedup {x : Config} {l : List Config} : x ∈ dedup l ↔ x ∈ l := by
  induction l with
  | nil => rfl
  | cons c cs ih => grind [dedup]

theorem mem_advance {op : Bytes} {t : RType} {cfg x : Config} :
    x ∈ advance op t cfg ↔
      ∃ i r p', cfg[i]? = some r ∧ r.op = op ∧ delta r.ph t = some p' ∧ x = cfg.set i { r with ph := p' } := by
  induction cfg generalizing x with
  | nil => simp [advance]
  | cons c cs ih =>
    rw [advance, List.mem_append, List.mem_map]
    constructor
    · rintro (h | ⟨y, hy, rfl⟩)
      · split at h
        · cases hd : delta c.ph t with
          | none => simp [hd] at h
          | some p' => exact ⟨0, c, p', rfl, ‹_›, hd, by simpa [hd] using h⟩
        · cases h
      · obtain ⟨i, r, p', hi, hop, hd, rfl⟩ := ih.mp hy
        exact ⟨i + 1, r, p', hi, hop, hd, rfl⟩
    · rintro ⟨i, r, p', hi, hop, hd, rfl⟩
      cases i with
      | zero => cases hi; exact .inl (by simp [hop, hd])
      | succ i => exact .inr ⟨_, ih.mpr ⟨i, r, p', hi, hop, hd, rfl⟩, rfl⟩

theorem mem_accStep_rep {cs : AccSt} {op : Bytes} {t : RType} {x : Config} :
    x ∈ accStep cs (.rep op t) ↔ ∃ cfg ∈ cs, ∃ i r p',
      cfg[i]? = some r ∧ r.op = op ∧ delta r.ph t = some p' ∧ x = cfg.set i { r with ph := p' } := by
  simp only [accStep, mem_dedup, List.mem_flatMap, mem_advance]

theorem accStep_rep_mem {cs : AccSt} {cfg : Config} {op : Bytes} {t : RType} {i : Nat} {r : Req} {p' : Ph}
    (hc : cfg ∈ cs) (hi : cfg[i]? = some r) (hop : r.op = op) (hd : delta r.ph t = some p') :
    cfg.set i { r with ph := p' } ∈ accStep cs (.rep op t) :=
  mem_accStep_rep.mpr ⟨cfg, hc, i, r, p', hi, hop, hd, rfl⟩

def Rel (t : Thread) (r : Req) : Prop :=
  r.op = t.msg.op ∧ r.kind = t.msg.kind ∧ Sim t.msg.op t.pc r.ph

inductive Match : List Thread → Config → Prop
  | nil : Match [] []
  | cons {t r ts cfg} : Rel t r → Match ts cfg → Match (t :: ts) (r :: cfg)

theorem Match.append {ts cfg t r} (hm : Match ts cfg) (hr : Rel t r) : Match (ts ++ [t]) (cfg ++ [r]) := by
  induction hm with
  | nil => exact .cons hr .nil
  | cons h _ ih => exact .cons h ih

theorem Match.set {ts cfg t r} (hm : Match ts cfg) (i : Nat) (hr : Rel t r) :
    Match (ts.set i t) (cfg.set i r) := by
  induction hm generalizing i with
  | nil => exact .nil
  | cons h hm ih =>
    cases i with
    | zero => exact .cons hr hm
    | succ i => exact .cons h (ih i)

theorem Match.get {ts cfg t} {i : Nat} (hm : Match ts cfg) (ht : ts[i]? = some t) :
    ∃ r, cfg[i]? = some r ∧ Rel t r := by
  induction hm generalizing i with
  | nil => cases ht
  | cons h _ ih =>
    cases i with
    | zero => cases ht; exact ⟨_, rfl, h⟩
    | succ i => exact ih ht

/-- One of the attributions the acceptor still holds is the true one. -/
def Good (c : Conn) : Prop := ∃ cfg ∈ accRun accInit c.trace, Match c.threads cfg

theorem good_init : Good {} := ⟨[], .head _, .nil⟩

theorem not_spawns {m : Msg} (hs : m.spawns = false) :
    m.kind = .bad ∧ ∃ e, syncReplies m = [errReply m.op e] := by
  cases m <;> cases hs <;> exact ⟨rfl, _, rfl⟩

theorem good_step (c : Conn) (a : Act) (h : Good c) : Good (connStep c a) := by
  obtain ⟨cfg, hcfg, hm⟩ := h
  cases a with
  | deliver msg =>
    simp only [connStep]
    generalize classify msg = m
    have h1 : cfg ++ [⟨m.op, m.kind, init m.kind⟩] ∈ accRun accInit (c.trace ++ [.req m.op m.kind]) := by
      rw [accRun_append]
      exact List.mem_map.mpr ⟨cfg, hcfg, rfl⟩
    cases hs : m.spawns with
    | true => exact ⟨_, by simpa using h1, hm.append (t := ⟨m, .start m⟩) ⟨rfl, rfl, .start rfl⟩⟩
    | false =>
      -- a malformed message / unknown method: the error `Handle` sends completes the conversation
      obtain ⟨hk, e, he⟩ := not_spawns hs
      have hd : delta (init m.kind) .error = some .fin := by rw [hk]; rfl
      have h2 : cfg ++ [⟨m.op, m.kind, .fin⟩] ∈
          accStep (accRun accInit (c.trace ++ [.req m.op m.kind])) (.rep m.op .error) := by
        simpa using accStep_rep_mem h1 List.getElem?_concat_length rfl hd
      refine ⟨_, ?_, hm.append (t := ⟨m, .fin⟩) (r := ⟨m.op, m.kind, .fin⟩) ⟨rfl, rfl, .fin trivial⟩⟩
      rw [if_neg Bool.false_ne_true, he, accRun_append]
      exact h2
  | tstep i o =>
    simp only [connStep]
    cases ht : c.threads[i]? with
    | none => exact ⟨cfg, hcfg, hm⟩
    | some t =>
      obtain ⟨r, hr, hop, hkind, hsim⟩ := hm.get ht
      have hl := step_legal o hsim
      simp only
      generalize step t.pc o = res at hl
      cases hl with
      | @silent pc' h1 =>
        obtain ⟨hi, rfl⟩ := List.getElem?_eq_some_iff.mp hr
        have := hm.set i (t := { t with pc := pc' }) ⟨hop, hkind, h1⟩
        rw [List.set_getElem_self] at this
        exact ⟨cfg, by simpa using hcfg, this⟩
      | @reply pc' x p' hx hd h1 =>
        refine ⟨cfg.set i { r with ph := p' }, ?_, hm.set i ⟨hop, hkind, h1⟩⟩
        rw [accRun_append]
        exact accStep_rep_mem hcfg hr (hop.trans hx.symm) hd

theorem good_run (c : Conn) (acts : List Act) (h : Good c) : Good (connRun c acts) := by
  induction acts generalizing c with
  | nil => exact h
  | cons a as ih => exact ih _ (good_step c a h)

/-- The executable acceptor computes exactly the declarative meaning: a configuration survives iff the
    trace can be explained from one of the starting configurations to it. -/
theorem accRun_iff (cs : AccSt) (es : List Ev) (c' : Config) :
    c' ∈ accRun cs es ↔ ∃ c ∈ cs, Explained c es c' := by
  induction es generalizing cs with
  | nil => exact ⟨fun h => ⟨c', h, .nil c'⟩, fun ⟨c, hc, he⟩ => by cases he; exact hc⟩
  | cons e es ih =>
    rw [accRun, ih]
    constructor
    · rintro ⟨c1, hc1, he⟩
      cases e with
      | req op k =>
        obtain ⟨c, hc, rfl⟩ := List.mem_map.mp hc1
        exact ⟨c, hc, .req _ _ _ _ _ he⟩
      | rep op t =>
        obtain ⟨c, hc, i, r, p', hi, hop, hd, rfl⟩ := mem_accStep_rep.mp hc1
        exact ⟨c, hc, .rep _ _ _ _ _ i r p' hi hop hd he⟩
    · rintro ⟨c, hc, he⟩
      cases he with
      | req _ _ _ _ _ he' => exact ⟨_, List.mem_map.mpr ⟨c, hc, rfl⟩, he'⟩
      | rep _ _ _ _ _ i r p' hi hop hd he' =>
        exact ⟨_, accStep_rep_mem hc hi hop hd, he'⟩

def Reach (r : Req) : Prop := ∃ ts, run (init r.kind) ts = some r.ph

theorem explained_reach (c c' : Config) (es : List Ev) (h : Explained c es c')
    (hc : ∀ r ∈ c, Reach r) : ∀ r ∈ c', Reach r := by
  induction h with
  | nil c => exact hc
  | req c c' op k es _ ih =>
    apply ih
    intro r hr
    rcases List.mem_append.mp hr with hr | hr
    · exact hc r hr
    · cases List.mem_singleton.mp hr
      exact ⟨[], rfl⟩
  | rep c c' op t es i r p' hi hop hd _ ih =>
    apply ih
    intro x hx
    rcases List.mem_or_eq_of_mem_set hx with hx | rfl
    · exact hc x hx
    · obtain ⟨ts, hts⟩ := hc r (List.mem_of_getElem? hi)
      exact ⟨ts ++ [t], by rw [run_append, hts]; simp [run, hd]⟩

theorem lookup_insert (k k2 : Bytes) (r : Rec) (l : List (Bytes × Rec)) :
    lookupRec k (insertRec k2 r l) = if k = k2 then some r else lookupRec k l := by
  induction l with
  | nil => simp [insertRec, lookupRec]
  | cons p ps ih => grind [insertRec, lookupRec]

theorem lookup_erase_other (k k2 : Bytes) (l : List (Bytes × Rec)) (hne : k ≠ k2) :
    lookupRec k (eraseRec k2 l) = lookupRec k l := by
  induction l with
  | nil => rfl
  | cons p ps ih => grind [eraseRec, lookupRec]

theorem findDb_name (n : Bytes) (dbs : List Db) (d : Db) (h : findDb n dbs = some d) : d.name = n := by
  induction dbs with
  | nil => cases h
  | cons d' ds ih => grind [findDb]

theorem findDb_setDb (n : Bytes) (d : Db) (dbs : List Db) :
    findDb n (setDb d dbs) = if n = d.name ∧ (findDb n dbs).isSome then some d else findDb n dbs := by
  induction dbs with
  | nil => simp [setDb, findDb]
  | cons x xs ih => grind [setDb, findDb]

theorem slot_setDb (dbs : List Db) (d d0 : Db) (hd : findDb d.name dbs = some d0) (dn k : Bytes) :
    slot (setDb d dbs) dn k = if dn = d.name then some (d.kind, lookupRec k d.recs) else slot dbs dn k := by
  unfold slot
  rw [findDb_setDb]
  by_cases h : dn = d.name <;> simp [h, hd]

theorem getRec_slot (st : St) (key : Bytes) :
    getRec st key =
      match slot st.dbs (parseKey key).1 (parseKey key).2 with
      | none => .error .nodb
      | some (.sink, _) | some (.plain, none) => .error .notfound
      | some (.plain, some r) =>
        if r.expired then .error .notfound else if !permitted r then .error .denied
        else .ok ((parseKey key).1, (parseKey key).2, r) := by
  unfold getRec slot
  generalize parseKey key = pk
  obtain ⟨dn, k⟩ := pk
  dsimp only
  cases findDb dn st.dbs with
  | none => rfl
  | some d =>
    dsimp only [Option.map_some]
    cases d.kind with
    | sink => rfl
    | plain => cases lookupRec k d.recs <;> rfl

/-- `getRec` is a function of the slot. -/
theorem getRec_eq_of_slot (st st' : St) (key : Bytes)
    (h : slot st'.dbs (parseKey key).1 (parseKey key).2 = slot st.dbs (parseKey key).1 (parseKey key).2) :
    getRec st' key = getRec st key := by
  rw [getRec_slot, getRec_slot, h]

theorem getRec_ok_key (st : St) (key a b : Bytes) (r : Rec) (h : getRec st key = .ok (a, b, r)) :
    (a, b) = parseKey key ∧ ∃ d, findDb a st.dbs = some d ∧ d.kind = .plain ∧ lookupRec b d.recs = some r := by
  -- `getRec` has one `.ok` leaf, below exactly these three matches
  grind [getRec]

/-- `putRec`: the addressed slot of a key/record store afterwards holds exactly the new record; every
    other slot is unchanged. -/
theorem putRec_slot (st st' : St) (key : Bytes) (r : Rec) (out : List Reply)
    (h : putRec st key r = .ok (st', out)) (dn k : Bytes) :
    slot st'.dbs dn k =
      if (dn, k) = parseKey key ∧ (slot st.dbs dn k).map (·.1) = some .plain then some (.plain, some r)
      else slot st.dbs dn k := by
  unfold putRec at h
  generalize parseKey key = pk at h ⊢
  obtain ⟨dn2, k2⟩ := pk
  dsimp only at h
  cases hf : findDb dn2 st.dbs with
  | none => simp [hf] at h
  | some d =>
    cases findDb_name _ _ _ hf
    simp only [hf] at h
    split at h
    · cases h
    · cases h
      have hs : findDb (storeIn d k2 r).name st.dbs = some d := by
        unfold storeIn; cases d.kind <;> exact hf
      rw [slot_setDb _ _ _ hs]
      unfold storeIn
      cases hk : d.kind with
      | sink =>
        -- nothing stored; the right side's condition fails on the kind
        by_cases hdn : dn = d.name <;> simp [slot, hdn, hf, hk]
      | plain =>
        by_cases hdn : dn = d.name
        · simp [slot, hdn, hf, hk, lookup_insert]
          split <;> rfl  -- both sides branch on `k = k2`
        · simp [slot, hdn]

/-- The database part of a write command, as `handle` performs it. -/
def writeEffect (st : St) (an : Annot) : Msg → Except Err (St × List Reply)
  | .read .delete _ key =>
    match getRec st key with
    | .error e => .error e
    | .ok (dn, k, r) =>
      let dbs' := match findDb dn st.dbs with
        | some d => setDb { d with recs := eraseRec k d.recs } st.dbs
        | none => st.dbs
      let (subs', out) := notify st.subs dn k r true
      .ok ({ st with dbs := dbs', subs := subs' }, out)
  | .write .insert _ key _ =>
    match getRec st key with
    | .error e => .error e
    | .ok (_, _, r) =>
      if r.fmt != fmtJSON || r.data.isEmpty then .error .noacc
      else if !an.ins then .error .insert
      else putRec st key { r with untracked := true, obj := an.obj }
  | .write _ _ key (f :: b :: rest) => putRec st key { fmt := f, data := b :: rest, obj := an.obj }
  | _ => .error .malformed

def ack (st : St) (op : Bytes) : Except Err (St × List Reply) → St × List Reply
  | .error e => (st, [errReply op e])
  | .ok (st', out) => (st', out ++ [{ op := op, ty := .success }])

theorem handle_write (st : St) (msg : Bytes) (an : Annot) (hk : (classify msg).kind = .write) :
    handle st msg an = ack st (classify msg).op (writeEffect st an (classify msg)) := by
  unfold handle
  generalize classify msg = m at hk ⊢
  cases m with
  | malformed | unknown | cancel => cases hk
  | read c _ key =>
    cases c with
    | delete =>
      dsimp only [writeEffect]
      cases getRec st key <;> rfl
    | _ => cases hk
  | write c _ key payload =>
    cases c with
    | insert =>
      dsimp only [writeEffect]
      cases getRec st key with
      | error e => rfl
      | ok v =>
        dsimp only
        cases (v.2.2.fmt != fmtJSON || v.2.2.data.isEmpty) with
        | true => rfl
        | false =>
          cases !an.ins with
          | true => rfl
          | false => cases putRec st key _ <;> rfl
    | create | update =>
      dsimp only
      rcases payload with _ | ⟨f, _ | ⟨b, rest⟩⟩
      · rfl
      · rfl
      · dsimp only [writeEffect]; cases putRec st key _ <;> rfl

theorem writeEffect_put {st : St} {an : Annot} {c : WCmd} {op key payload : Bytes} {w : St × List Reply}
    (hw : writeEffect st an (.write c op key payload) = .ok w) : ∃ r, putRec st key r = .ok w := by
  cases c with
  | insert =>
    -- refused: no record, no accessor, the JSON library
    dsimp only [writeEffect] at hw
    split at hw
    · cases hw
    · split at hw
      · cases hw
      · split at hw
        · cases hw
        · exact ⟨_, hw⟩
  | create | update =>
    rcases payload with _ | ⟨f, _ | ⟨b, rest⟩⟩
    · cases hw
    · cases hw
    · exact ⟨_, hw⟩

theorem writeEffect_delete {st st' : St} {an : Annot} {op key : Bytes} {out : List Reply}
    (hw : writeEffect st an (.read .delete op key) = .ok (st', out)) :
    ∃ d, findDb (parseKey key).1 st.dbs = some d ∧
      st'.dbs = setDb { d with recs := eraseRec (parseKey key).2 d.recs } st.dbs := by
  dsimp only [writeEffect] at hw
  cases hg : getRec st key with
  | error e => rw [hg] at hw; cases hw
  | ok v =>
    obtain ⟨a, b, r⟩ := v
    obtain ⟨hkey, d, hf, -, -⟩ := getRec_ok_key st key a b r hg
    rw [hg] at hw
    dsimp only at hw
    rw [hf] at hw
    cases hw
    rw [← hkey]
    exact ⟨d, hf, rfl⟩

theorem handle_dbs (st : St) (msg : Bytes) (an : Annot) (hk : (classify msg).kind ≠ .write) :
    (handle st msg an).1.dbs = st.dbs := by
  unfold handle
  generalize classify msg = m at hk ⊢
  cases m with
  | malformed | unknown => rfl
  | cancel op => dsimp only; cases lookupMap op st.subMap <;> rfl
  | write => exact absurd rfl hk
  | read c =>
    cases c with
    | get => rfl
    | delete => exact absurd rfl hk
    | query =>
      dsimp only
      cases an.q with
      | none => rfl
      | some q => dsimp only; cases openQuery st q <;> rfl
    | sub =>
      dsimp only
      cases an.q with
      | none => rfl
      | some q => dsimp only; cases findDb q.db st.dbs <;> rfl
    | qsub =>
      dsimp only
      cases an.q with
      | none => rfl
      | some q =>
        dsimp only
        cases findDb q.db st.dbs with
        | none => rfl
        | some _ => dsimp only; cases openQuery st q <;> rfl

theorem handle_frame (st : St) (msg : Bytes) (an : Annot) (dn k : Bytes) (hnt : ¬ touches msg dn k) :
    slot (handle st msg an).1.dbs dn k = slot st.dbs dn k := by
  by_cases hk : (classify msg).kind = .write
  · rw [handle_write st msg an hk]
    unfold touches at hnt
    generalize classify msg = m at hk hnt
    cases hw : writeEffect st an m with
    | error e => rfl
    | ok w =>
      obtain ⟨st', out⟩ := w
      show slot st'.dbs dn k = _
      cases m with
      | malformed | unknown | cancel => cases hk
      | read c _ key =>
        cases c with
        | delete =>
          obtain ⟨d, hf, hdbs⟩ := writeEffect_delete hw
          have hn := findDb_name _ _ _ hf
          rw [hdbs, slot_setDb _ { d with recs := _ } d (hn ▸ hf)]
          split
          · -- same database, hence another key: the message does not touch `(dn, k)`
            subst dn
            have hne : k ≠ (parseKey key).2 := fun e => hnt (by rw [e, hn])
            simp [slot, hn ▸ hf, lookup_erase_other k _ _ hne]
          · rfl
        | _ => cases hk
      | write c _ key payload =>
        obtain ⟨r, hp⟩ := writeEffect_put hw
        rw [putRec_slot _ _ _ _ _ hp, if_neg (fun h => hnt h.1.symm)]
  · rw [handle_dbs st msg an hk]

theorem runMsgs_frame (st : St) (hist : List (Bytes × Annot)) (dn k : Bytes)
    (hnt : ∀ x ∈ hist, ¬ touches x.1 dn k) : slot (runMsgs st hist).dbs dn k = slot st.dbs dn k := by
  induction hist generalizing st with
  | nil => rfl
  | cons x xs ih =>
    rw [runMsgs, ih _ (fun y hy => hnt y (.tail _ hy))]
    exact handle_frame st x.1 x.2 dn k (hnt x (.head _))

/-- An acknowledged create/update leaves exactly the written record in the addressed slot. -/
theorem put_ack_slot (st : St) (msg : Bytes) (an : Annot) (c : WCmd) (op key : Bytes) (f b : UInt8) (rest : Bytes)
    (hc : classify msg = .write c op key (f :: b :: rest)) (hci : c ≠ .insert)
    (hack : ({ op := op, ty := .success } : Reply) ∈ (handle st msg an).2)
    (hplain : (slot st.dbs (parseKey key).1 (parseKey key).2).map (·.1) = some .plain) :
    slot (handle st msg an).1.dbs (parseKey key).1 (parseKey key).2 =
      some (.plain, some { fmt := f, data := b :: rest, obj := an.obj }) := by
  have hw : writeEffect st an (.write c op key (f :: b :: rest)) =
      putRec st key { fmt := f, data := b :: rest, obj := an.obj } := by
    cases c with
    | insert => exact absurd rfl hci
    | _ => rfl
  rw [handle_write st msg an (by rw [hc]; rfl), hc, hw] at hack ⊢
  cases hp : putRec st key _ with
  | error e => simp [hp, ack, errReply] at hack
  | ok w => rw [ack, putRec_slot _ _ _ _ _ hp]; simp [hplain]

theorem append_success_ne_err (out : List Reply) (op op' : Bytes) (e : Err) :
    out ++ [({ op := op, ty := .success } : Reply)] ≠ [errReply op' e] := by
  intro h
  cases out with
  | nil => simp [errReply] at h
  | cons x xs => cases xs <;> simp at h

/-- What `get` answers is determined by `getRec` (and the marshalling of the record found). -/
def getAnswer (st : St) (op key : Bytes) : List Reply :=
  match getRec st key with
  | .error e => [errReply op e]
  | .ok (dn, k, r) =>
    match marshal r with
    | .error e => [errReply op e]
    | .ok d => [{ op := op, ty := .ok, key := fullKey dn k, data := some d }]

theorem handle_get (st : St) (msg : Bytes) (an : Annot) (op key : Bytes)
    (hc : classify msg = .read .get op key) : handle st msg an = (st, getAnswer st op key) := by
  unfold handle getAnswer
  rw [hc]
  dsimp only
  cases getRec st key with
  | error e => rfl
  | ok v =>
    obtain ⟨dn, k, r⟩ := v
    dsimp only [runPc, step, stepStart, stepGet, view]
    cases marshal r <;> rfl

end PB.DbApi
