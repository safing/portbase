import PB.Model.Base64
/- Round trip of the base64 / JSON-bytes codec model (used by C16 for container/serialization.go). -/
namespace PB.Base64
open PB

theorem val_char : ∀ v, v < 64 → val (char v) = some v := by decide

theorem val_ne_pad {c : UInt8} {v : Nat} (h : val c = some v) : c ≠ pad := by
  rintro rfl
  cases h

theorem pad_canonical : canonicalChar pad = true := by decide

/-- Also above 63, where `char` answers `/`. -/
theorem char_canonical (v : Nat) : canonicalChar (char v) = true := by
  by_cases h : v < 64
  · simp [canonicalChar, val_char v h]
  · have : char v = 47 := by
      unfold char
      rw [if_neg (by omega), if_neg (by omega), if_neg (by omega), if_neg (by omega)]
    rw [this]
    decide

section
variable {c0 c1 c2 c3 : UInt8} {v0 v1 v2 v3 : Nat} (h0 : val c0 = some v0) (h1 : val c1 = some v1)
include h0 h1

theorem dec_pad2 : dec [c0, c1, pad, pad] = some [UInt8.ofNat ((v0 * 64 + v1) / 16)] := by
  simp [dec, h0, h1]

variable (h2 : val c2 = some v2)
include h2

theorem dec_pad1 : dec [c0, c1, c2, pad] =
    some [UInt8.ofNat ((v0 * 4096 + v1 * 64 + v2) / 1024), UInt8.ofNat ((v0 * 4096 + v1 * 64 + v2) / 4 % 256)] := by
  simp [dec, h0, h1, h2, val_ne_pad h2]

theorem dec_quad (h3 : val c3 = some v3) {rest r : Bytes} (hr : dec rest = some r) :
    dec (c0 :: c1 :: c2 :: c3 :: rest) =
      some (UInt8.ofNat ((v0 * 262144 + v1 * 4096 + v2 * 64 + v3) / 65536) ::
        UInt8.ofNat ((v0 * 262144 + v1 * 4096 + v2 * 64 + v3) / 256 % 256) ::
        UInt8.ofNat ((v0 * 262144 + v1 * 4096 + v2 * 64 + v3) % 256) :: r) := by
  simp [dec, h0, h1, h2, h3, val_ne_pad h3, hr]
end

theorem sextets (n : Nat) : n / 262144 * 262144 + n / 4096 % 64 * 4096 + n / 64 % 64 * 64 + n % 64 = n := by
  omega

theorem dec_enc (b : Bytes) : dec (enc b) = some b := by
  induction b using enc.induct with
  | case1 => rfl
  | case2 a =>
    have ha := a.toNat_lt
    obtain ⟨h0, h1, e⟩ : a.toNat * 16 / 64 < 64 ∧ a.toNat * 16 % 64 < 64 ∧
        (a.toNat * 16 / 64 * 64 + a.toNat * 16 % 64) / 16 = a.toNat := by omega
    simp only [enc]
    rw [dec_pad2 (val_char _ h0) (val_char _ h1), e, UInt8.ofNat_toNat]
  | case3 a b =>
    have ha := a.toNat_lt
    have hb := b.toNat_lt
    simp only [enc]
    generalize hn : (a.toNat * 256 + b.toNat) * 4 = n
    obtain ⟨hlt, h0, e1, e2⟩ : n < 262144 ∧ n / 4096 < 64 ∧ n / 1024 = a.toNat ∧ n / 4 % 256 = b.toNat := by omega
    rw [dec_pad1 (val_char _ h0) (val_char _ (Nat.mod_lt _ (by decide))) (val_char _ (Nat.mod_lt _ (by decide)))]
    have e := sextets n
    rw [Nat.div_eq_of_lt hlt, Nat.zero_mul, Nat.zero_add, Nat.mod_eq_of_lt h0] at e
    rw [e, e1, e2, UInt8.ofNat_toNat, UInt8.ofNat_toNat]
  | case4 a b c rest ih =>
    have ha := a.toNat_lt
    have hb := b.toNat_lt
    have hc := c.toNat_lt
    simp only [enc]
    generalize hn : a.toNat * 65536 + b.toNat * 256 + c.toNat = n
    obtain ⟨h0, e1, e2, e3⟩ : n / 262144 < 64 ∧ n / 65536 = a.toNat ∧ n / 256 % 256 = b.toNat ∧ n % 256 = c.toNat := by
      omega
    rw [dec_quad (val_char _ h0) (val_char _ (Nat.mod_lt _ (by decide))) (val_char _ (Nat.mod_lt _ (by decide)))
      (val_char _ (Nat.mod_lt _ (by decide))) ih, sextets, e1, e2, e3,
      UInt8.ofNat_toNat, UInt8.ofNat_toNat, UInt8.ofNat_toNat]

theorem enc_canonical (b : Bytes) : (enc b).all canonicalChar = true := by
  induction b using enc.induct with
  | case1 => rfl
  | case2 a => simp [enc, char_canonical, pad_canonical]
  | case3 a b => simp [enc, char_canonical, pad_canonical]
  | case4 a b c rest ih => simp [enc, char_canonical, ih]

/-- `json.Unmarshal(json.Marshal(b), &raw)` gives back `b`: every byte string survives the JSON form. -/
theorem jsonDec_jsonEnc (b : Bytes) : jsonDec (jsonEnc b) = .ok b := by
  unfold jsonDec jsonEnc
  have hne : (quote :: (enc b ++ [quote])) ≠ nullText := by
    intro h
    have := congrArg List.head? h
    simp [quote, nullText] at this
  simp only [hne, if_false]
  have h1 : (enc b ++ [quote]).getLast? = some quote := by simp
  have h2 : (enc b ++ [quote]).dropLast = enc b := by simp
  simp [h1, h2, enc_canonical, dec_enc]

end PB.Base64
