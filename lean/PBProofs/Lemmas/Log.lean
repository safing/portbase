import PB.Model.Log
import PB.Spec.Log
/-
Helper lemmas for C20 (PB.Model.Log). The global `step` is opened once, into the relation `Step` (`step_sound`), and
every invariant is preserved rule by rule. What the writer does to the line it holds is proved of `wstep` alone, so
that it serves one writeLoop round over a batch (`mergeRuns`) as well as the reachable states.
-/
namespace PB.Log

/-- `Equal` identifies two lines iff neither carries a tracer and text, call site and level agree (read off the
    regenerated `PB.Gen.Log.lineEqual`). -/
theorem equal_iff (a b : Line) :
    a.equal b = true ↔
      (a.trace = none ∧ b.trace = none ∧ a.msg = b.msg ∧ a.file = b.file ∧ a.line = b.line ∧ a.lvl = b.lvl) := by
  unfold Line.equal PB.Gen.Log.lineEqual Line.key
  cases a with | mk am al af an at_ =>
  cases b with | mk bm bl bf bn bt =>
  cases at_ <;> cases bt <;> simp <;> grind

theorem equal_eq {a b : Line} (h : a.equal b = true) : a = b := by
  have := (equal_iff a b).mp h
  cases a; cases b; simp_all

theorem equal_self_of_plain (a : Line) (h : a.trace = none) : a.equal a = true := by
  rw [equal_iff]; simp [h]

theorem expand_append (a b : List Write) : expand (a ++ b) = expand a ++ expand b := by
  induction a with
  | nil => rfl
  | cons x xs ih => cases x; simp [expand, ih]

theorem proj_append (p : Nat) (a b : List Owned) : proj p (a ++ b) = proj p a ++ proj p b := by
  simp [proj]

theorem proj_single (p q : Nat) (l : Line) : proj p [(q, l)] = if q = p then [l] else [] := by
  by_cases h : q = p <;> simp [proj, h]

theorem proj_single_self (p : Nat) (l : Line) : proj p [(p, l)] = [l] := by simp [proj_single]

theorem proj_single_other {p q : Nat} (l : Line) (h : q ≠ p) : proj p [(q, l)] = [] := by
  simp [proj_single, h]

def St.setPc (s : St) (pc : WPc) : St := { s with w := { s.w with pc := pc } }

/-- One rule per branch of `step` that yields a state: its guard and the state. -/
inductive Step (s : St) : Act → St → Prop
  | call {pid l pkg pass} : s.prods pid = .idle → l.trace = none → pass = fastcheck s.lv l.lvl →
      Step s (.p pid (.call l pkg pass)) { s with prods := upd s.prods pid (if pass then .inLog l pkg else .idle) }
  | accept {pid l pkg} : s.prods pid = .inLog l pkg → enabled s.lv pkg l.lvl = true →
      Step s (.p pid (.filter true)) (s.accept pid l)
  | reject {pid l pkg} : s.prods pid = .inLog l pkg → enabled s.lv pkg l.lvl = false →
      Step s (.p pid (.filter false)) { s with prods := upd s.prods pid .idle }
  | submit {pid l t} : s.prods pid = .idle → l.trace.isSome = true → s.tr pid = some t →
      submitLine (t.logs.map (·.e)) = some l →
      Step s (.p pid (.submit l))
        { (s.accept pid l) with tr := upd s.tr pid none, subs := upd s.subs pid (s.subs pid ++ [⟨l, t⟩]) }
  | enq {pid l} : s.prods pid = .ready l → s.buf.length < s.cap → Step s (.p pid .enq) (s.push pid l)
  | full {pid l} : s.prods pid = .ready l → ¬ s.buf.length < s.cap →
      Step s (.p pid .full) { s with prods := upd s.prods pid (.forcing l) }
  | enqB {pid l} : s.prods pid = .forcing l → s.buf.length < s.cap → Step s (.p pid .enqB) (s.push pid l)
  | flagWon {pid} : s.prods pid = .sent → s.flag = false →
      Step s (.p pid (.flag true)) { s with flag := true, prods := upd s.prods pid .won }
  | flagSet {pid} : s.prods pid = .sent → s.flag = true →
      Step s (.p pid (.flag false)) { s with flag := true, prods := upd s.prods pid .idle }
  | tok {pid} : s.prods pid = .won → s.token = false →
      Step s (.p pid .tok) { s with token := true, prods := upd s.prods pid .idle }
  | tokFull {pid} : s.prods pid = .won → s.token = true →
      Step s (.p pid .tokFull) { s with prods := upd s.prods pid .idle }
  | addTracer {pid pkg} : s.prods pid = .idle → addTracer s.lv false true pkg (s.tr pid).isSome = true →
      Step s (.addTracer pid pkg true) { s with tr := upd s.tr pid (some { logs := [], lv := s.lv, pkg := pkg }) }
  | noTracer {pid pkg} : s.prods pid = .idle → addTracer s.lv false true pkg (s.tr pid).isSome = false →
      Step s (.addTracer pid pkg false) s
  | collect {pid e pkg t} : s.prods pid = .idle → s.tr pid = some t → isSeverity e.lvl = true →
      Step s (.collect pid e pkg) { s with tr := upd s.tr pid (some { t with logs := t.logs ++ [⟨e, pkg, s.lv⟩] }) }
  | token : s.token = true → s.w.pc = .waitLogs →
      Step s (.w .token) { s.setPc .gotToken with token := false }
  | unset : s.w.pc = .gotToken → Step s (.w .unset) { s.setPc .waitSlot with flag := false }
  | forceLogs {pid l} : s.prods pid = .forcing l → s.w.pc = .waitLogs →
      Step s (.wforce pid) (s.setPc .waitSlot)
  | forceSlot {pid l} : s.prods pid = .forcing l → s.w.pc = .waitSlot →
      Step s (.wforce pid) (s.setPc .drain)
  | slot : s.paced = false → s.w.pc = .waitSlot → Step s (.w .slot) (s.setPc .drain)
  | trigger : s.paced = true → s.w.pc = .waitSlot → Step s .trigger (s.setPc .drain)
  | triggerMissed : Step s .trigger s
  | shut : s.shut = true → (s.w.pc = .waitLogs ∨ s.w.pc = .waitSlot ∨ s.w.pc = .backoff) →
      Step s (.w .shut) (s.setPc .fin)
  | deq {o l rest w' ws} : s.buf = (o, l) :: rest → wstep s.w (.deq l) = some (w', ws) →
      Step s (.w (.deq l)) { s with buf := rest, deq := s.deq ++ [(o, l)], w := w', out := s.out ++ ws }
  | empty {w' ws} : s.buf = [] → wstep s.w .empty = some (w', ws) →
      Step s (.w .empty) { s with w := w', out := s.out ++ ws }
  | timer : s.w.pc = .backoff → Step s (.w .timer) (s.setPc .waitLogs)
  | fdeq {o l rest w' ws} : s.buf = (o, l) :: rest → wstep s.w (.fdeq l) = some (w', ws) →
      Step s (.w (.fdeq l)) { s with buf := rest, deq := s.deq ++ [(o, l)], w := w', out := s.out ++ ws }
  | ftimeout : s.buf = [] → s.w.pc = .fin → Step s (.w .ftimeout) (s.setPc .done)
  | setLevel {g} : Step s (.setLevel g) { s with lv := { s.lv with glob := g } }
  | setPkgs {m} : Step s (.setPkgs m) { s with lv := { s.lv with pkgs := m, active := true } }
  | unsetPkgs : Step s .unsetPkgs { s with lv := { s.lv with active := false } }
  | shutdown : s.shut = false → Step s .shutdown { s with shut := true, enqAtShut := s.enq.length }
  | shutdownAgain : s.shut = true → Step s .shutdown s

theorem step_sound {s s' : St} {a : Act} (hs : step s a = some s') : Step s a s' := by
  cases a with
  | p pid e =>
    -- two splits (goroutine state `hp`, shared guard `h`); the `none` branches close, one goal per event is left, in the order of `PEv`
    cases e <;> simp only [step] at hs <;> (try cases hs) <;> (split at hs <;> try cases hs) <;>
      (try (split at hs <;> try cases hs)) <;> rename_i hp h
    · exact .call hp h.1 h.2
    · cases ‹Bool› <;> cases hs
      · exact .reject hp h.symm
      · exact .accept hp h.symm
    · split at hs <;> try cases hs
      split at hs <;> cases hs
      exact .submit hp h ‹_› ‹_›
    · exact .enq hp h
    · exact .full hp h
    · exact .enqB hp h
    · subst h
      cases hf : s.flag
      · exact .flagWon hp hf
      · exact .flagSet hp hf
    · exact .tok hp (Bool.not_eq_true _ ▸ h)
    · exact .tokFull hp h
  | w e =>
    -- likewise, in the order of `WEv`, with `h` the guard
    cases e <;> simp only [step] at hs <;> (try cases hs) <;> (split at hs <;> try cases hs) <;>
      (try (split at hs <;> try cases hs)) <;> rename_i h
    · exact .token h.1 h.2
    · exact .unset h
    · exact .slot (Bool.not_eq_true _ ▸ h.1) h.2
    · exact .shut h.1 h.2
    · -- where `wstep` writes nothing the rule yields `out := s.out ++ []`: hence `simpa`
      rename_i x rest hb
      obtain ⟨rfl, hw⟩ := h
      split at hs
      · cases hs
        have h' : wstep s.w (.deq x) = some ({ s.w with cur := some x }, []) := by simp [wstep, *]
        simpa using Step.deq hb h'
      · split at hs <;> cases hs
        · have h' : wstep s.w (.deq x) = some ({ s.w with dups := s.w.dups + 1 }, []) := by simp [wstep, *]
          simpa using Step.deq hb h'
        · exact .deq hb (by simp [wstep, *])
    · have h' : wstep s.w .empty = some (⟨.backoff, none, 0⟩, []) := by simp [wstep, *]
      simpa using Step.empty ‹_ ∧ _›.1 h'
    · exact .empty ‹_ ∧ _›.1 (by simp [wstep, *])
    · exact .timer h
    · rename_i hb
      obtain ⟨rfl, hw⟩ := h
      exact .fdeq hb (by simp [wstep, hw])
    · exact .ftimeout h.1 h.2
  | addTracer pid pkg live =>
    simp only [step] at hs
    split at hs <;> try cases hs
    split at hs <;> try cases hs
    rename_i hp h
    cases live <;> cases hs
    · exact .noTracer hp h.symm
    · exact .addTracer hp h.symm
  | collect pid e pkg =>
    simp only [step] at hs
    split at hs <;> try cases hs
    split at hs <;> cases hs
    exact .collect ‹_› ‹_› ‹_›
  | wforce pid =>
    simp only [step] at hs
    split at hs <;> try cases hs
    split at hs
    · cases hs; exact .forceLogs ‹_› ‹_›
    · split at hs <;> cases hs; exact .forceSlot ‹_› ‹_›
  | trigger =>
    simp only [step] at hs
    split at hs <;> cases hs
    · rename_i h; exact .trigger h.1 h.2
    · exact .triggerMissed
  | shutdown =>
    simp only [step] at hs
    split at hs <;> cases hs
    · exact .shutdownAgain ‹_›
    · exact .shutdown (Bool.not_eq_true _ ▸ ‹_›)
  | setLevel g | setPkgs m | unsetPkgs => cases hs; constructor

/-- `Inv.wc`, `Inv.wz` of a writer alone (a writeLoop round over a batch has no `St`). -/
def Writer.ok (w : Writer) : Prop := (w.pc ≠ .drain → w.cur = none) ∧ (w.cur = none → w.dups = 0)

def WEv.taken : WEv → List Line
  | .deq l | .fdeq l => [l]
  | _ => []

theorem Writer.pending_of_cur_none {w : Writer} (h : w.cur = none) : w.pending = [] := by
  simp [Writer.pending, h]

theorem wstep_deq_defined {w : Writer} (l : Line) (hpc : w.pc = .drain) :
    ∃ w' o, wstep w (.deq l) = some (w', o) := by
  simp only [wstep, hpc, if_true]
  split
  · exact ⟨_, _, rfl⟩
  · split <;> exact ⟨_, _, rfl⟩

theorem wstep_empty_defined {w : Writer} (hpc : w.pc = .drain) : ∃ w' o, wstep w .empty = some (w', o) := by
  simp only [wstep, hpc, if_true]
  split <;> exact ⟨_, _, rfl⟩

section
variable {w w' : Writer} {e : WEv} {o : List Write} (h : wstep w e = some (w', o))
include h

/-- What `Inv.d2` rests on: a move of the writer neither loses nor invents a line. -/
theorem wstep_pending (hok : w.ok) :
    w'.ok ∧ expand o ++ w'.pending = w.pending ++ e.taken := by
  obtain ⟨wc, wz⟩ := hok
  cases e with
  | deq l =>
    simp only [wstep] at h
    split at h <;> try cases h
    split at h
    · cases h; simp_all [Writer.ok, Writer.pending, WEv.taken, expand]
    · split at h <;> cases h
      · rename_i c hc he
        cases equal_eq he  -- the merged line is the held line: one more copy at the end
        simp [Writer.ok, Writer.pending, WEv.taken, expand, List.replicate_succ' (n := w.dups + 1), *]
      · simp_all [Writer.ok, Writer.pending, WEv.taken, expand]
  | shut =>
    simp only [wstep] at h
    split at h <;> cases h
    have : w.pc ≠ .drain := by rename_i hp; rcases hp with hp | hp | hp <;> simp [hp]
    simp_all [Writer.ok, Writer.pending, WEv.taken, expand]
  | _ =>
    simp only [wstep] at h
    (repeat' split at h) <;> cases h <;> simp_all [Writer.ok, Writer.pending, WEv.taken, expand]

theorem wstep_take_pc {l : Line} (he : e.taken = [l]) : w'.pc = w.pc ∧ (w.pc = .drain ∨ w.pc = .fin) := by
  -- only `deq` and `fdeq` take a line
  cases e <;> cases he <;> simp only [wstep] at h
  all_goals
    (repeat' split at h) <;> cases h
    all_goals simp [*]

end

theorem wstep_empty_pc {w w' : Writer} {o : List Write} (h : wstep w .empty = some (w', o)) :
    w.pc = .drain ∧ w'.pc = .backoff := by
  simp only [wstep] at h
  (repeat' split at h) <;> cases h <;> simp [*]

/-! ### The protocol invariant

* `d1 d2 p1 cp`: data — what was dequeued plus what is buffered is what was enqueued; the adapter output,
  expanded, plus what the writer still holds is what was dequeued; per goroutine, what it enqueued plus
  what it still holds is what it logged (in program order); the buffer respects its capacity.
* `f1`–`f5`: the wake-up handshake — `logsWaitingFlag` is set exactly while one wake-up is in flight
  (a producer about to send the token, the token in the channel, or the writer about to clear the flag).
* `nl`: no lost wake-up. `wc wz`: the writer holds a line only inside the writeLoop.
* `sh`: `finalizeWriting` only after Shutdown; `es`, `sd`: what was enqueued when Shutdown was requested is still
  enqueued, and is dequeued when the writer returns.
-/
structure Inv (s : St) : Prop where
  d1 : s.deq ++ s.buf = s.enq
  d2 : expand s.out ++ s.w.pending = s.deq.map (·.2)
  p1 : ∀ p, proj p s.enq ++ (s.prods p).pending = s.logged p
  cp : s.buf.length ≤ s.cap
  f1 : s.flag = false → s.token = false ∧ s.w.pc ≠ .gotToken ∧ ∀ p, s.prods p ≠ .won
  f2 : s.token = true → s.w.pc ≠ .gotToken ∧ ∀ p, s.prods p ≠ .won
  f3 : s.w.pc = .gotToken → ∀ p, s.prods p ≠ .won
  f4 : ∀ p q, s.prods p = .won → s.prods q = .won → p = q
  f5 : s.flag = true → s.token = true ∨ s.w.pc = .gotToken ∨ ∃ p, s.prods p = .won
  nl : (s.w.pc = .waitLogs ∨ s.w.pc = .backoff) → s.buf ≠ [] → s.flag = true ∨ ∃ p, s.prods p = .sent
  wc : s.w.pc ≠ .drain → s.w.cur = none
  wz : s.w.cur = none → s.w.dups = 0
  sh : (s.w.pc = .fin ∨ s.w.pc = .done) → s.shut = true
  es : s.shut = true → s.enqAtShut ≤ s.enq.length
  sd : s.w.pc = .done → s.enqAtShut ≤ s.deq.length

theorem inv_init (cap paced lv) : Inv (St.init cap paced lv) := by
  constructor <;> simp [St.init, Writer.init, Writer.pending, expand, proj, PState.pending]

macro "inv_open" hs:ident : tactic => `(tactic| (
  simp only [step, St.accept, St.push] at $hs:ident
  (repeat' split at $hs:ident) <;> (try cases $hs:ident) <;> (try simp only [])))

section
variable {P : Nat → PState} {pid : Nat} {x : PState}

theorem upd_won (h : P pid ≠ .won) (hx : x ≠ .won) (p : Nat) :
    upd P pid x p = .won ↔ P p = .won := by
  unfold upd; split <;> simp [*]

theorem upd_sent (x : PState) (h : P pid ≠ .sent) :
    (∃ p, P p = .sent) → ∃ p, upd P pid x p = .sent := by
  intro ⟨p, hp⟩
  refine ⟨p, ?_⟩
  unfold upd; split
  · subst p; exact absurd hp h
  · exact hp

theorem upd_pending (h : x.pending = (P pid).pending) (p : Nat) :
    (upd P pid x p).pending = (P p).pending := by
  unfold upd; split
  · subst p; exact h
  · rfl

end

section
variable {s : St} (hi : Inv s) {pid : Nat}
include hi

/-- A producer that neither holds nor takes over the wake-up duty moves on; `L'` is its ghost log afterwards. -/
theorem Inv.setProd {x : PState} {L' : Nat → List Line}
    (hw : s.prods pid ≠ .won) (hs : s.prods pid = .sent → s.flag = true) (hx : x ≠ .won)
    (hp : ∀ p, proj p s.enq ++ (upd s.prods pid x p).pending = L' p) :
    Inv { s with prods := upd s.prods pid x, logged := L' } :=
  have won := upd_won hw hx
  { hi with
    p1 := hp
    f1 := by simpa only [ne_eq, won] using hi.f1
    f2 := by simpa only [ne_eq, won] using hi.f2
    f3 := by simpa only [ne_eq, won] using hi.f3
    f4 := by simpa only [won] using hi.f4
    f5 := by simpa only [won] using hi.f5
    nl := fun h1 h2 => (hi.nl h1 h2).elim .inl fun h =>
      if hs' : s.prods pid = .sent then .inl (hs hs') else .inr (upd_sent x hs' h) }

/-- … and its ghost log stays as it is; `y` is the state it leaves. -/
theorem Inv.quiet {x y : PState} (hy : s.prods pid = y)
    (h : x.pending = y.pending ∧ y ≠ .won ∧ x ≠ .won) (hs : y = .sent → s.flag = true) :
    Inv { s with prods := upd s.prods pid x } :=
  hi.setProd (hy ▸ h.2.1) (hy ▸ hs) h.2.2 fun p => by rw [upd_pending (hy ▸ h.1), hi.p1 p]

theorem Inv.accept {l : Line} (hp : (s.prods pid).pending = [])
    (hw : s.prods pid ≠ .won) (hs : s.prods pid ≠ .sent) : Inv (s.accept pid l) :=
  hi.setProd hw (fun h => absurd h hs) nofun fun p => by
    have := hi.p1 p
    unfold upd; split
    · subst p; rw [← this, hp]; simp [PState.pending]
    · exact this

/-- The handshake fields do not read the queue: they come from the same move without the enqueue (`setProd`, with
    the ghost log that makes its `p1` hold); those that read the queue are given anew. -/
theorem Inv.push {l : Line} (hp : (s.prods pid).pending = [l]) (hw : s.prods pid ≠ .won)
    (hc : s.buf.length < s.cap) : Inv (s.push pid l) :=
  { hi.setProd (x := .sent) hw (fun h => by simp [h, PState.pending] at hp) nofun fun _ => rfl with
    d1 := by simp [St.push, ← hi.d1]
    p1 := fun p => by
      have := hi.p1 p
      simp only [St.push, upd, proj_append, proj_single]; split
      · subst p; simp [← this, hp]; rfl
      · rename_i h; simpa [Ne.symm h] using this
    cp := by simp [St.push]; omega
    nl := fun _ _ => .inr ⟨pid, by simp [St.push, upd]⟩
    es := fun h => by have := hi.es h; simp [St.push]; omega }

theorem Inv.flagWon (hp : s.prods pid = .sent) (hf : s.flag = false) :
    Inv { s with flag := true, prods := upd s.prods pid .won } :=
  have ⟨ht, hg, hn⟩ := hi.f1 hf
  have only : ∀ p, upd s.prods pid .won p = .won → p = pid := fun p => by
    unfold upd; split
    · exact fun _ => ‹_›
    · exact fun h => absurd h (hn p)
  { hi with
    p1 := fun p => by rw [upd_pending (hp ▸ rfl), hi.p1 p]
    f1 := nofun
    f2 := fun h => absurd (ht ▸ h) nofun
    f3 := fun h => absurd h hg
    f4 := fun p q h1 h2 => (only p h1).trans (only q h2).symm
    f5 := fun _ => .inr (.inr ⟨pid, by simp [upd]⟩)
    nl := fun _ _ => .inl rfl }

theorem Inv.tok (hp : s.prods pid = .won) :
    Inv { s with token := true, prods := upd s.prods pid .idle } :=
  have nowon : ∀ p, upd s.prods pid .idle p ≠ .won := fun p => by
    unfold upd; split
    · nofun
    · exact fun h => absurd (hi.f4 p pid h hp) ‹_›
  { hi with
    p1 := fun p => by rw [upd_pending (hp ▸ rfl), hi.p1 p]
    f1 := fun h => absurd hp ((hi.f1 h).2.2 pid)
    f2 := fun _ => ⟨fun h => hi.f3 h pid hp, nowon⟩
    f3 := fun _ => nowon
    f4 := fun p _ h => absurd h (nowon p)
    f5 := fun _ => .inl rfl
    nl := fun h1 h2 => (hi.nl h1 h2).imp_right (upd_sent _ (hp ▸ nofun)) }

theorem Inv.token (ht : s.token = true) (hw : s.w.pc = .waitLogs) :
    Inv { s.setPc .gotToken with token := false } :=
  { hi with
    f1 := fun h => absurd ((hi.f1 h).1 ▸ ht) nofun
    f2 := nofun
    f3 := fun _ => (hi.f2 ht).2
    f5 := fun _ => .inr (.inl rfl)
    nl := fun h => by simp [St.setPc] at h
    wc := fun _ => hi.wc (hw ▸ nofun)
    sh := fun h => by simp [St.setPc] at h
    sd := nofun }

theorem Inv.unset (hw : s.w.pc = .gotToken) :
    Inv { s.setPc .waitSlot with flag := false } :=
  { hi with
    f1 := fun _ => ⟨Bool.eq_false_iff.mpr fun h => (hi.f2 h).1 hw, nofun, hi.f3 hw⟩
    f2 := fun h => ⟨nofun, hi.f3 hw⟩
    f3 := nofun
    f5 := nofun
    nl := fun h => by simp [St.setPc] at h
    wc := fun _ => hi.wc (hw ▸ nofun)
    sh := fun h => by simp [St.setPc] at h
    sd := nofun }

/-- The writer moves from `pc` to `pc'`, neither being `gotToken`: it does not leave the writeLoop and does not
    fall asleep (`waitLogs`, `backoff`) unless it slept before. -/
theorem Inv.setPc {pc pc' : WPc} (hw : s.w.pc = pc)
    (h : pc ≠ .drain ∧ pc ≠ .gotToken ∧ pc' ≠ .gotToken ∧
      (pc' = .waitLogs ∨ pc' = .backoff → pc = .waitLogs ∨ pc = .backoff))
    (hsh : pc' = .fin ∨ pc' = .done → s.shut = true) (hsd : pc' = .done → s.buf = []) :
    Inv (s.setPc pc') :=
  { hi with
    f1 := fun hf => ⟨(hi.f1 hf).1, h.2.2.1, (hi.f1 hf).2.2⟩
    f2 := fun ht => ⟨h.2.2.1, (hi.f2 ht).2⟩
    f3 := fun hg => absurd hg h.2.2.1
    f5 := fun hf => (hi.f5 hf).imp_right (·.imp_left fun hg => absurd (hw ▸ hg) h.2.1)
    nl := fun hs => hi.nl (hw ▸ h.2.2.2 hs)
    wc := fun _ => hi.wc (hw ▸ h.1)
    sh := hsh
    sd := fun hd => by
      have := hi.es (hsh (.inr hd))
      rw [← hi.d1, hsd hd] at this
      simpa [St.setPc] using this }

theorem Inv.wok : s.w.ok := ⟨hi.wc, hi.wz⟩

theorem Inv.take {e : WEv} {o : Nat} {l : Line} {rest : List Owned} {w' : Writer}
    {ws : List Write} (hb : s.buf = (o, l) :: rest) (he : e.taken = [l]) (h : wstep s.w e = some (w', ws)) :
    Inv { s with buf := rest, deq := s.deq ++ [(o, l)], w := w', out := s.out ++ ws } :=
  have ⟨hok, hpend⟩ := wstep_pending h hi.wok
  have ⟨hpc, hdr⟩ := wstep_take_pc h he
  have awake : ¬ (w'.pc = .waitLogs ∨ w'.pc = .backoff ∨ w'.pc = .done) := by
    rw [hpc]; rcases hdr with hd | hd <;> simp [hd]
  { hi with
    d1 := by rw [← hi.d1, hb]; simp
    d2 := by
      rw [expand_append, List.append_assoc, hpend, he, ← List.append_assoc, hi.d2]; simp
    cp := by have := hi.cp; rw [hb] at this; exact Nat.le_of_succ_le this
    f1 := hpc ▸ hi.f1
    f2 := hpc ▸ hi.f2
    f3 := hpc ▸ hi.f3
    f5 := hpc ▸ hi.f5
    nl := fun h => absurd (h.imp_right .inl) awake
    wc := hok.1
    wz := hok.2
    sh := hpc ▸ hi.sh
    sd := fun h => absurd (.inr (.inr h)) awake }

theorem Inv.empty {w' : Writer} {ws : List Write} (hb : s.buf = [])
    (h : wstep s.w .empty = some (w', ws)) : Inv { s with w := w', out := s.out ++ ws } :=
  have ⟨hok, hpend⟩ := wstep_pending h hi.wok
  have ⟨hpc, hpc'⟩ := wstep_empty_pc h
  { hi with
    d2 := by rw [expand_append, List.append_assoc, hpend, ← hi.d2]; simp [WEv.taken]
    f1 := fun hf => ⟨(hi.f1 hf).1, hpc' ▸ nofun, (hi.f1 hf).2.2⟩
    f2 := fun ht => ⟨hpc' ▸ nofun, (hi.f2 ht).2⟩
    f3 := fun hg => absurd (hpc' ▸ hg) nofun
    f5 := fun hf => (hi.f5 hf).imp_right (·.imp_left fun hg => absurd (hpc ▸ hg) nofun)
    nl := fun _ hn => absurd hb hn
    wc := hok.1
    wz := hok.2
    sh := fun h => by simp [hpc'] at h
    sd := fun h => absurd (hpc' ▸ h) nofun }

end

theorem inv_step {s s' : St} {a : Act} (hi : Inv s) (hs : step s a = some s') : Inv s' := by
  cases step_sound hs with
  | @call _ _ _ pass hp => exact hi.quiet hp (by cases pass <;> simp [PState.pending]) nofun
  | reject hp | full hp => exact hi.quiet hp (by simp [PState.pending]) nofun
  -- the rule writes `flag := true` over a flag that is set already
  | flagSet hp hf => exact hf ▸ hi.quiet hp (by simp [PState.pending]) fun _ => hf
  | accept hp => exact hi.accept (hp ▸ rfl) (hp ▸ nofun) (hp ▸ nofun)
  | submit hp => exact { hi.accept (hp ▸ rfl) (hp ▸ nofun) (hp ▸ nofun) with }
  | enq hp hc | enqB hp hc => exact hi.push (hp ▸ rfl) (hp ▸ nofun) hc
  | flagWon hp hf => exact hi.flagWon hp hf
  | tok hp => exact hi.tok hp
  | tokFull hp ht => exact absurd hp ((hi.f2 ht).2 _)
  -- only `lv`, `tr`, `subs` change and no field of `Inv` reads them: each field is accepted as it is
  | addTracer | collect | setLevel | setPkgs | unsetPkgs => exact { hi with }
  | noTracer | triggerMissed | shutdownAgain => exact hi
  | token ht hw => exact hi.token ht hw
  | unset hw => exact hi.unset hw
  | forceLogs _ hw | forceSlot _ hw | slot _ hw | trigger _ hw | timer hw =>
    exact hi.setPc hw (by decide) (by simp) nofun
  | shut hsh hw => rcases hw with hw | hw | hw <;> exact hi.setPc hw (by decide) (fun _ => hsh) nofun
  | ftimeout hb hw => exact hi.setPc hw (by decide) (fun _ => hi.sh (.inl hw)) fun _ => hb
  | deq hb h | fdeq hb h => exact hi.take hb rfl h
  | empty hb h => exact hi.empty hb h
  | shutdown hn =>
    exact { hi with
      es := fun _ => Nat.le_refl _
      sh := fun _ => rfl
      sd := fun h => absurd (hi.sh (.inr h)) (hn ▸ nofun) }

theorem Inv.wakeup {s : St} (hi : Inv s) (hw : s.w.pc = .waitLogs) (hb : s.buf ≠ []) :
    s.token = true ∨ ∃ p, s.prods p = .sent ∨ s.prods p = .won := by
  rcases hi.nl (.inl hw) hb with hf | ⟨p, hp⟩
  · rcases hi.f5 hf with ht | hg | ⟨p, hp⟩
    · exact .inl ht
    · exact absurd (hw ▸ hg) nofun
    · exact .inr ⟨p, .inr hp⟩
  · exact .inr ⟨p, .inl hp⟩

theorem inv_reachable {s : St} (h : Reachable s) : Inv s := by
  induction h with
  | init cap paced lv => exact inv_init cap paced lv
  | step _ hs ih => exact inv_step ih hs

/-! ### Tracer submissions are never part of a merge

`t1`: while the writer counts repetitions, the line it holds is a plain line; `t2`: no adapter write of a
tracer line carries a repetition count. Both rest on `equal_iff`, i.e. on the regenerated `Equal`. -/
structure TrInv (cur : Option Line) (dups : Nat) (out : List Write) : Prop where
  t1 : ∀ c, cur = some c → 0 < dups → c.trace = none
  t2 : ∀ x ∈ out, x.1.trace.isSome = true → x.2 = 0

theorem TrInv.write {c : Line} {d : Nat} {out : List Write} (hi : TrInv (some c) d out) :
    ∀ x ∈ out ++ [(c, d)], x.1.trace.isSome = true → x.2 = 0 := by
  intro x hx ht
  rcases List.mem_append.mp hx with hx | hx
  · exact hi.t2 x hx ht
  · cases List.mem_singleton.mp hx
    cases d with
    | zero => rfl
    | succ n => simp [hi.t1 c rfl (Nat.succ_pos n)] at ht

theorem trinv_wstep {w w' : Writer} {e : WEv} {o out : List Write} (hi : TrInv w.cur w.dups out)
    (hok : w.ok) (h : wstep w e = some (w', o)) : TrInv w'.cur w'.dups (out ++ o) := by
  -- an event that writes nothing leaves `out ++ []`
  have t2 : ∀ x ∈ out ++ [], x.1.trace.isSome = true → x.2 = 0 := by simpa using hi.t2
  cases e with
  | deq l =>
    simp only [wstep] at h
    split at h <;> try cases h
    split at h
    · cases h
      exact ⟨fun _ _ hd => absurd (hok.2 ‹_› ▸ hd) (Nat.lt_irrefl 0), t2⟩
    · rename_i c hc
      split at h <;> cases h
      · refine ⟨fun c' hc' _ => ?_, t2⟩
        cases hc.symm.trans hc'
        exact ((equal_iff l c).mp ‹_›).2.1
      · exact ⟨fun _ _ hd => absurd hd (Nat.lt_irrefl 0), (hc ▸ hi).write⟩
  | empty =>
    simp only [wstep] at h
    split at h <;> try cases h
    split at h <;> cases h
    · exact ⟨nofun, t2⟩
    · exact ⟨nofun, (‹w.cur = some _› ▸ hi).write⟩
  | fdeq l =>
    simp only [wstep] at h
    split at h <;> cases h
    refine ⟨hi.t1, fun x hx ht => ?_⟩
    rcases List.mem_append.mp hx with hx | hx
    · exact hi.t2 x hx ht
    · cases List.mem_singleton.mp hx; rfl
  | _ =>
    simp only [wstep] at h
    (repeat' split at h) <;> cases h <;> exact ⟨hi.t1, t2⟩

theorem trinv_reachable {s : St} (h : Reachable s) : TrInv s.w.cur s.w.dups s.out := by
  induction h with
  | init => exact ⟨nofun, nofun⟩
  | step hr hs ih =>
    cases step_sound hs with
    | deq _ h | fdeq _ h | empty _ h => exact trinv_wstep ih (inv_reachable hr).wok h
    | _ => exact ih

/-- Expanding writes whose tracer lines carry no repetition count keeps every tracer line exactly once. -/
theorem expand_filter_tracer (ws : List Write) (h : ∀ w ∈ ws, w.1.trace.isSome = true → w.2 = 0) :
    (expand ws).filter (·.trace.isSome) = (ws.filter (·.1.trace.isSome)).map (·.1) := by
  induction ws with
  | nil => rfl
  | cons w ws ih =>
    obtain ⟨l, d⟩ := w
    have ih' := ih (fun w hw => h w (List.mem_cons_of_mem _ hw))
    by_cases ht : l.trace.isSome = true
    · have hd : d = 0 := h (l, d) List.mem_cons_self ht
      subst hd
      simp [expand, ht, ih']
    · simp [expand, ht, ih']

theorem drainBatch_spec (ls : List Line) : ∀ (w : Writer) (out : List Write), w.pc = .drain → w.ok →
    TrInv w.cur w.dups out →
    (drainBatch w ls).1.pc = .drain ∧ (drainBatch w ls).1.ok ∧
      expand (drainBatch w ls).2 ++ (drainBatch w ls).1.pending = w.pending ++ ls ∧
      TrInv (drainBatch w ls).1.cur (drainBatch w ls).1.dups (out ++ (drainBatch w ls).2) := by
  induction ls with
  | nil => intro w out hpc hok ht; simpa [drainBatch, expand] using ⟨hpc, hok, ht⟩
  | cons l ls ih =>
    intro w out hpc hok ht
    obtain ⟨w', o, h⟩ := wstep_deq_defined l hpc
    have ⟨hok', hp⟩ := wstep_pending h hok
    obtain ⟨hpc', hok'', hexp, htr⟩ := ih w' (out ++ o) ((wstep_take_pc h rfl).1.trans hpc) hok' (trinv_wstep ht hok h)
    simp only [drainBatch, h]
    refine ⟨hpc', hok'', ?_, by rwa [List.append_assoc] at htr⟩
    rw [expand_append, List.append_assoc, hexp, ← List.append_assoc, hp]
    simp [WEv.taken]

theorem mergeRuns_spec (ls : List Line) :
    expand (mergeRuns ls) = ls ∧ ∀ x ∈ mergeRuns ls, x.1.trace.isSome = true → x.2 = 0 := by
  obtain ⟨hpc, hok, he, ht⟩ :=
    drainBatch_spec ls ⟨.drain, none, 0⟩ [] rfl ⟨fun _ => rfl, fun _ => rfl⟩ ⟨nofun, nofun⟩
  unfold mergeRuns
  generalize drainBatch ⟨.drain, none, 0⟩ ls = r at *
  obtain ⟨w', o, h⟩ := wstep_empty_defined hpc
  have ⟨hok', hp⟩ := wstep_pending h hok
  have hcur : w'.cur = none := hok'.1 (by rw [(wstep_empty_pc h).2]; nofun)
  simp only [h]
  refine ⟨?_, by simpa using (trinv_wstep ht hok h).t2⟩
  simp [Writer.pending, hcur, WEv.taken] at hp
  simp [Writer.pending] at he
  rw [expand_append, hp, he]

/-! ### The run checker against its specification -/

theorem matches_iff (e : Item) (g : Got) : e.matches g = true ↔ (g.item = e.item ∧ e.formOk g = true) := by
  simp [Item.matches]

theorem takeBlock_prefix (e : Item) (got : List Got) :
    got = takeBlock e got ++ got.drop (takeBlock e got).length ∧
      ∀ g ∈ takeBlock e got, g.item = e.item ∧ e.formOk g = true := by
  fun_induction takeBlock e got with
  | case1 => simp
  | case2 g gs h ih => exact ⟨by simpa using ih.1, by simpa [(matches_iff e g).mp h] using ih.2⟩
  | case3 => simp

theorem greedyProd_sound (gid : Nat) (es : List Item) (got : List Got) (h : greedyProd gid es got = .pass) :
    Conforms es got := by
  fun_induction greedyProd gid es got with
  | case1 => exact .nil
  | case2 | case3 | case4 => cases h
  | case5 e es got blk hlo hhi ih =>
    have hp := takeBlock_prefix e got
    rw [hp.1]
    exact .cons hp.2 (Nat.le_of_not_lt hlo) (Nat.le_of_not_lt hhi) (ih h)

/-- `splits` lists exactly the ways to take a block off the front, `k` lines of it being taken already. The empty
    continuation is listed whatever `k` is: `hi` limits only further taking. -/
theorem mem_splits (e : Item) (got : List Got) (k n : Nat) (r : Rem) :
    r ∈ splits e k n got ↔ ∃ blk, got = blk ++ r.2 ∧ (∀ g ∈ blk, e.matches g = true) ∧
      e.lo ≤ k + blk.length ∧ (blk = [] ∨ k + blk.length ≤ e.hi) ∧ r.1 = n - blk.length := by
  have stop : ∀ k n got, r ∈ (if e.lo ≤ k then [(n, got)] else []) ↔ e.lo ≤ k ∧ r = (n, got) := by
    intro k n got; split <;> simp [*]
  induction got generalizing k n with
  | nil =>
    rw [splits, stop]
    constructor
    · rintro ⟨h, rfl⟩; exact ⟨[], rfl, nofun, h, .inl rfl, rfl⟩
    · rintro ⟨blk, h1, -, h3, -, h5⟩
      obtain ⟨rfl, h6⟩ := List.append_eq_nil_iff.mp h1.symm
      exact ⟨h3, Prod.ext h5 h6⟩
  | cons g gs ih =>
    rw [splits, List.mem_append, stop]
    constructor
    · rintro (⟨h, rfl⟩ | h)
      · exact ⟨[], rfl, nofun, h, .inl rfl, rfl⟩
      · split at h
        · rename_i hk
          obtain ⟨blk, h1, h2, h3, h4, h5⟩ := (ih _ _).mp h
          have hhi : k + (g :: blk).length ≤ e.hi := by
            rcases h4 with rfl | h4 <;> simp <;> omega
          refine ⟨g :: blk, by rw [h1]; rfl, fun x hx => ?_, by simp; omega, .inr hhi, ?_⟩
          · rcases List.mem_cons.mp hx with rfl | hx
            · exact hk.2
            · exact h2 x hx
          · rw [h5, List.length_cons]; omega
        · cases h
    · rintro ⟨blk, h1, h2, h3, h4, h5⟩
      cases blk with
      | nil => exact .inl ⟨h3, Prod.ext h5 h1.symm⟩
      | cons b bs =>
        obtain ⟨rfl, h6⟩ := List.cons.inj h1
        simp only [List.length_cons, reduceCtorEq, false_or] at h3 h4 h5
        rw [if_pos ⟨by omega, h2 g List.mem_cons_self⟩]
        refine .inr ((ih _ _).mpr ⟨bs, h6, fun x hx => h2 x (List.mem_cons_of_mem _ hx), ?_, .inr ?_, ?_⟩)
        all_goals omega

theorem mem_addRem (x y : Rem) (fr : List Rem) : y ∈ addRem x fr → y = x ∨ y ∈ fr := by
  unfold addRem
  split
  · exact Or.inr
  · intro h; rcases List.mem_cons.mp h with h | h
    · exact Or.inl h
    · exact Or.inr h

theorem mem_dedupRem (fr : List Rem) : ∀ y, y ∈ dedupRem fr → y ∈ fr := by
  induction fr with
  | nil => intro y h; simp [dedupRem] at h
  | cons x xs ih =>
    intro y h
    simp only [dedupRem, List.foldr_cons] at h
    rcases mem_addRem x y _ h with rfl | h
    · exact List.mem_cons_self
    · exact List.mem_cons_of_mem _ (ih y h)

theorem addRem_keeps (a z : Rem) (fr : List Rem) (h : z = a ∨ ∃ y ∈ fr, y.1 = z.1) :
    ∃ y ∈ addRem a fr, y.1 = z.1 := by
  unfold addRem
  split
  · rename_i hany
    rcases h with rfl | h
    · obtain ⟨y, hy, hyz⟩ := List.any_eq_true.mp hany
      exact ⟨y, hy, by simpa using hyz⟩
    · exact h
  · rcases h with rfl | ⟨y, hy, hyz⟩
    · exact ⟨z, List.mem_cons_self, rfl⟩
    · exact ⟨y, List.mem_cons_of_mem _ hy, hyz⟩

theorem dedupRem_keeps (fr : List Rem) : ∀ x ∈ fr, ∃ y ∈ dedupRem fr, y.1 = x.1 := by
  induction fr with
  | nil => nofun
  | cons a as ih => exact fun x hx => addRem_keeps a x _ ((List.mem_cons.mp hx).imp_right (ih x))

theorem mem_splitsAll (e : Item) (fr : List Rem) (r : Rem) :
    r ∈ splitsAll e fr ↔ ∃ x ∈ fr, r ∈ splits e 0 x.1 x.2 := by
  induction fr with
  | nil => simp [splitsAll]
  | cons a as ih => simp [splitsAll, ih]

/-- What the frontier elements are: suffixes of the goroutine's output, tagged with their length. -/
def RemOk (got : List Got) (x : Rem) : Prop := x.1 = x.2.length ∧ x.2 <:+ got

theorem remOk_eq {got : List Got} {x y : Rem} (hx : RemOk got x) (hy : RemOk got y) (h : x.1 = y.1) : x = y := by
  obtain ⟨x1, x2⟩ := x
  obtain ⟨y1, y2⟩ := y
  simp only [RemOk] at hx hy h
  cases (List.suffix_of_suffix_length_le hx.2 hy.2 (by omega)).eq_of_length (by omega)
  cases h; rfl

/-- The tags make the frontier duplicate-free in effect: an element whose tag is kept is itself kept. -/
theorem mem_dedupRem_iff {got : List Got} {fr : List Rem} (hok : ∀ x ∈ fr, RemOk got x) (y : Rem) :
    y ∈ dedupRem fr ↔ y ∈ fr := by
  refine ⟨mem_dedupRem fr y, fun h => ?_⟩
  obtain ⟨z, hz, hzy⟩ := dedupRem_keeps fr y h
  cases remOk_eq (hok z (mem_dedupRem fr z hz)) (hok y h) hzy
  exact hz

theorem remOk_splitsAll {got : List Got} {e : Item} {fr : List Rem} (hok : ∀ x ∈ fr, RemOk got x) :
    ∀ r ∈ splitsAll e fr, RemOk got r := by
  intro r hr
  obtain ⟨y, hy, hs⟩ := (mem_splitsAll e fr r).mp hr
  obtain ⟨b, h1, _, _, _, h5⟩ := (mem_splits e y.2 0 y.1 r).mp hs
  refine ⟨?_, .trans ⟨b, h1.symm⟩ (hok y hy).2⟩
  rw [h5, (hok y hy).1, h1]; simp

theorem conformsFrom_iff (got : List Got) (es : List Item) : ∀ fr, (∀ x ∈ fr, RemOk got x) →
    (conformsFrom es fr = true ↔ ∃ x ∈ fr, Conforms es x.2) := by
  induction es with
  | nil =>
    intro fr _
    simp only [conformsFrom, List.any_eq_true, List.isEmpty_iff]
    constructor
    · exact fun ⟨x, hx, h⟩ => ⟨x, hx, h ▸ .nil⟩
    · rintro ⟨x, hx, h⟩
      generalize hl : x.2 = l at h
      cases h
      exact ⟨x, hx, hl⟩
  | cons e es ih =>
    intro fr hok
    have hok' := remOk_splitsAll (e := e) hok
    rw [conformsFrom, ih _ fun r hr => hok' r ((mem_dedupRem_iff hok' r).mp hr)]
    simp only [mem_dedupRem_iff hok', mem_splitsAll, mem_splits]
    constructor
    · rintro ⟨r, ⟨x, hx, blk, h1, h2, h3, h4, -⟩, hc⟩
      have hhi : blk.length ≤ e.hi := by
        rcases h4 with rfl | h4 <;> simp at * <;> omega
      exact ⟨x, hx, h1 ▸ .cons (fun g hg => (matches_iff e g).mp (h2 g hg)) (by simpa using h3) hhi hc⟩
    · rintro ⟨x, hx, hc⟩
      generalize hx2 : x.2 = l at hc
      cases hc with
      | @cons _ _ blk rest hb hlo hhi hrest =>
        exact ⟨(x.1 - blk.length, rest), ⟨x, hx, blk, hx2, fun g hg => (matches_iff e g).mpr (hb g hg),
          by simpa using hlo, .inr (by simpa using hhi), rfl⟩, hrest⟩

theorem conformsB_iff (es : List Item) (got : List Got) : conformsB es got = true ↔ Conforms es got := by
  rw [conformsB, conformsFrom_iff got es _ (by simp [RemOk])]
  simp

theorem diagnose_ne_pass (gid : Nat) (es : List Item) (got : List Got) (v : Verdict) :
    diagnose gid es got v ≠ .pass := by
  unfold diagnose
  cases v with
  | pass => simp
  | fail cls g i =>
    simp only
    split
    · split <;> simp
    · simp

theorem checkProd_sound (gid : Nat) (es : List Item) (got : List Got) (h : checkProd gid es got = .pass) :
    Conforms es got := by
  unfold checkProd at h
  split at h
  · rename_i hg; exact greedyProd_sound gid es got hg
  · split at h
    · rename_i hb; exact (conformsB_iff es got).mp hb
    · exact absurd h (diagnose_ne_pass gid es got _)

theorem checkProd_complete (gid : Nat) {es : List Item} {got : List Got} (h : Conforms es got) :
    checkProd gid es got = .pass := by
  unfold checkProd
  split
  · rfl
  · rw [if_pos ((conformsB_iff es got).mpr h)]

theorem firstMissing_iff (must got : List Got) : firstMissing must got = none ↔ must.Sublist got := by
  fun_induction firstMissing must got with
  | case1 => simp
  | case2 => simp
  | case3 _ _ _ ih => simpa using ih
  | case4 m ms g gs hne ih => simp [ih, List.sublist_cons_iff, hne]

theorem checkTracers_sound (outs : List OutW) (exps : Nat → List Item) (gid n : Nat)
    (h : checkTracers outs exps gid n = .pass) (g : Nat) (h1 : gid ≤ g) (h2 : g < gid + n) :
    (tracerMust (exps g)).Sublist (tracerGot g outs) := by
  fun_induction checkTracers outs exps gid n with
  | case1 => omega
  | case2 => cases h
  | case3 gid n hp ih =>
    rcases Nat.eq_or_lt_of_le h1 with rfl | hlt
    · exact (firstMissing_iff _ _).mp hp
    · exact ih h hlt (by omega)

theorem checkProds_sound (outs : List OutW) (exps : Nat → List Item) (gid n : Nat)
    (h : checkProds outs exps gid n = .pass) (g : Nat) (h1 : gid ≤ g) (h2 : g < gid + n) :
    Conforms (exps g) (expandOut g outs) := by
  fun_induction checkProds outs exps gid n with
  | case1 => omega
  | case2 gid n hp ih =>
    rcases Nat.eq_or_lt_of_le h1 with rfl | hlt
    · exact checkProd_sound _ _ _ hp
    · exact ih h hlt (by omega)
  | case3 gid n hv => exact absurd h hv

theorem checkRun_sound (np : Nat) (exps : Nat → List Item) (outs : List OutW) (h : checkRun np exps outs = .pass) :
    (∀ o ∈ outs, o.gid < np) ∧ (∀ o ∈ outs, o.entries.isSome → o.dups = 0) ∧
      (∀ g, g < np → (tracerMust (exps g)).Sublist (tracerGot g outs)) ∧
      ∀ g, g < np → Conforms (exps g) (expandOut g outs) := by
  unfold checkRun at h
  split at h <;> try cases h
  split at h <;> try cases h
  split at h <;> try exact absurd h ‹_›
  split at h <;> try exact absurd h ‹_›
  rename_i _ h1 _ h2 _ _ _ htr
  refine ⟨fun o ho => by simpa using List.find?_eq_none.mp h1 o ho,
    fun o ho hs => by simpa [OutW.mergedTracer, hs] using List.find?_eq_none.mp h2 o ho,
    fun g hg => checkTracers_sound outs exps 0 np htr g (by omega) (by omega),
    fun g hg => checkProds_sound outs exps 0 np h g (by omega) (by omega)⟩

/-- The line-by-line pre-check never rejects what the specification allows: in a conforming output every line
    lies in the block of an item that matches it and may be emitted at least once. -/
theorem conforms_line_allowed {es : List Item} {got : List Got} (h : Conforms es got) :
    ∀ g ∈ got, neverAllowed es g = false := by
  have key : ∀ g ∈ got, ∃ e ∈ es, e.matches g = true ∧ 0 < e.hi := by
    induction h with
    | nil => nofun
    | @cons e es blk rest hb hlo hhi _ ih =>
      intro g hg
      rcases List.mem_append.mp hg with hg | hg
      · exact ⟨e, List.mem_cons_self, (matches_iff e g).mpr (hb g hg),
          Nat.lt_of_lt_of_le (List.length_pos_of_mem hg) hhi⟩
      · obtain ⟨e', he', hm⟩ := ih g hg
        exact ⟨e', List.mem_cons_of_mem _ he', hm⟩
  intro g hg
  obtain ⟨e, he, hm, hh⟩ := key g hg
  have : (es.any fun e => e.matches g && decide (0 < e.hi)) = true :=
    List.any_eq_true.mpr ⟨e, he, by simp [hm, hh]⟩
  simp [neverAllowed, this]

/-! ### Liveness: the writer alone can drain the buffer -/

theorem reachable_run {s : St} (h : Reachable s) {as : List Act} {s' : St} (hr : run s as = some s') :
    Reachable s' := by
  fun_induction run s as with
  | case1 => cases hr; exact h
  | case2 => cases hr
  | case3 s a as s1 hs ih => exact ih (h.step hs) hr

theorem reachable_of_run {cap paced lv} {as : List Act} (h : (run (St.init cap paced lv) as).isSome) :
    Reachable ((run (St.init cap paced lv) as).get h) :=
  reachable_run (.init ..) (Option.some_get h).symm

theorem w_frame {s s' : St} {e : WEv} (hs : step s (.w e) = some s') : s'.enq = s.enq := by
  cases step_sound hs <;> rfl

/-- From here the writer alone (no producer step, no shutdown needed) can empty the buffer. -/
def CanDrain (s : St) : Prop :=
  ∃ as s', (∀ a ∈ as, ∃ e, a = Act.w e) ∧ run s as = some s' ∧ s'.buf = [] ∧ s'.w.cur = none ∧ s'.enq = s.enq

theorem canDrain_now {s : St} (hb : s.buf = []) (hc : s.w.cur = none) : CanDrain s :=
  ⟨[], s, by simp, rfl, hb, hc, rfl⟩

theorem canDrain_step {s s1 : St} {e : WEv} (hs : step s (.w e) = some s1) (h : CanDrain s1) : CanDrain s := by
  obtain ⟨as, s', hw, hr, hb, hc, he⟩ := h
  refine ⟨.w e :: as, s', ?_, ?_, hb, hc, ?_⟩
  · intro a ha
    rcases List.mem_cons.mp ha with rfl | ha
    · exact ⟨e, rfl⟩
    · exact hw a ha
  · simp [run, hs, hr]
  · rw [he, w_frame hs]

theorem canDrain_drain : ∀ (n : Nat) (s : St), s.buf.length = n → s.w.pc = .drain → CanDrain s
  | 0, s, hn, hp => by
    have hb := List.length_eq_zero_iff.mp hn
    obtain ⟨s1, hs, hb1, hc1⟩ : ∃ s1, step s (.w .empty) = some s1 ∧ s1.buf = [] ∧ s1.w.cur = none := by
      simp only [step, hb, hp, and_self, if_true]
      split <;> exact ⟨_, rfl, rfl, rfl⟩
    exact canDrain_step hs (canDrain_now hb1 hc1)
  | n + 1, s, hn, hp => by
    match hbuf : s.buf with
    | [] => simp [hbuf] at hn
    | (o, x) :: rest =>
      obtain ⟨s1, hs, hb1, hp1⟩ : ∃ s1, step s (.w (.deq x)) = some s1 ∧ s1.buf = rest ∧ s1.w.pc = .drain := by
        simp only [step, hbuf, hp, and_self, if_true]
        (repeat' split) <;> exact ⟨_, rfl, rfl, rfl⟩
      exact canDrain_step hs (canDrain_drain n s1 (by simpa [hb1, hbuf] using hn) hp1)

theorem canDrain_fin : ∀ (n : Nat) (s : St), s.buf.length = n → s.w.pc = .fin → s.w.cur = none → CanDrain s
  | 0, s, hn, _, hc => canDrain_now (List.length_eq_zero_iff.mp hn) hc
  | n + 1, s, hn, hp, hc => by
    match hbuf : s.buf with
    | [] => simp [hbuf] at hn
    | (o, x) :: rest =>
      exact canDrain_step (e := .fdeq x)
        (s1 := { s with buf := rest, deq := s.deq ++ [(o, x)], out := s.out ++ [(x, 0)] })
        (by simp [step, hbuf, hp]) (canDrain_fin n _ (by simpa [hbuf] using hn) hp hc)

theorem canDrain_slot {s : St} (hp : s.paced = false) (hw : s.w.pc = .waitSlot) : CanDrain s := by
  have hs : step s (.w .slot) = some (s.setPc .drain) := by simp [step, St.setPc, hp, hw]
  exact canDrain_step hs (canDrain_drain _ _ rfl rfl)

theorem canDrain_got {s : St} (hp : s.paced = false) (hw : s.w.pc = .gotToken) : CanDrain s := by
  have hs : step s (.w .unset) = some { s.setPc .waitSlot with flag := false } := by
    simp [step, St.setPc, hw]
  exact canDrain_step hs (canDrain_slot hp rfl)

theorem canDrain_waitLogs {s : St} (h : Reachable s) (hp : s.paced = false) (hq : ∀ p, s.prods p = .idle)
    (hw : s.w.pc = .waitLogs) : CanDrain s := by
  have hi := inv_reachable h
  by_cases hb : s.buf = []
  · exact canDrain_now hb (hi.wc (hw ▸ nofun))
  · have ht : s.token = true := by
      rcases hi.wakeup hw hb with ht | ⟨p, hps | hps⟩
      · exact ht
      all_goals exact absurd (hq p ▸ hps) nofun
    have hs : step s (.w .token) = some { s.setPc .gotToken with token := false } := by
      simp [step, St.setPc, ht, hw]
    exact canDrain_step hs (canDrain_got hp rfl)

theorem canDrain_of_reachable {s : St} (h : Reachable s) (hp : s.paced = false) (hq : ∀ p, s.prods p = .idle)
    (hd : s.w.pc ≠ .done) : CanDrain s := by
  have hi := inv_reachable h
  cases hw : s.w.pc with
  | waitLogs => exact canDrain_waitLogs h hp hq hw
  | gotToken => exact canDrain_got hp hw
  | waitSlot => exact canDrain_slot hp hw
  | drain => exact canDrain_drain _ _ rfl hw
  | backoff =>
    by_cases hb : s.buf = []
    · exact canDrain_now hb (hi.wc (hw ▸ nofun))
    · have hs : step s (.w .timer) = some (s.setPc .waitLogs) := by simp [step, St.setPc, hw]
      exact canDrain_step hs (canDrain_waitLogs (Reachable.step h hs) hp hq rfl)
  | fin => exact canDrain_fin _ _ rfl hw (hi.wc (hw ▸ nofun))
  | done => exact absurd hw hd

/-! ### Level decisions taken outside `log()`: `fastcheck`, `AddTracer`, the life of a context tracer

`fastcheck_iff` and `addTracer_eq` are proved by unfolding the functions regenerated from log/input.go and
log/trace.go (`PB.Gen.Log.fastcheck`, `PB.Gen.Log.addTracer`): a dropped branch, a changed comparison or a
wrong argument of `fastcheck` in the source changes the generated function and breaks these proofs. -/
section Tracers
open PB.Gen.Log (traceLevel)

theorem fastcheck_iff (c : Levels) (lvl : Nat) :
    fastcheck c lvl = true ↔ (c.active = true ∨ c.glob ≤ lvl) := by
  unfold fastcheck PB.Gen.Log.fastcheck
  cases c.active <;> simp

theorem enabled_mono {c : Levels} {pkg : Option Nat} {a b : Nat} (h : enabled c pkg a = true) (hab : a ≤ b) :
    enabled c pkg b = true := by
  unfold enabled at *
  cases hact : c.active <;> simp [hact] at h ⊢
  · omega
  · cases pkg with
    | none => simp at h
    | some p =>
      simp at h ⊢
      cases hl : lookupPkg c.pkgs p <;> simp [hl] at h ⊢ <;> omega

theorem isSeverity_ge {lvl : Nat} (h : isSeverity lvl = true) : traceLevel ≤ lvl := by
  unfold isSeverity PB.Gen.Log.severities at h
  simp at h
  unfold traceLevel
  omega

/-- `AddTracer` in one equation: a tracer is handed out iff the context is non-nil and carries none yet, the
    caller is known whenever package levels are active, and Trace passes the filter of `log()` for its origin. -/
theorem addTracer_eq (c : Levels) (ctxNil ok : Bool) (pkg : Option Nat) (ex : Bool) :
    addTracer c ctxNil ok pkg ex = (!ctxNil && !ex && (!c.active || ok) && enabled c pkg traceLevel) := by
  have h1 : PB.Gen.Log.traceLevel = 1 := rfl  -- for `omega`
  unfold addTracer PB.Gen.Log.addTracer PB.Gen.Log.fastcheck enabled
  cases pkg with
  | none => cases ctxNil <;> cases ex <;> cases ok <;> cases c.active <;> simp <;> omega
  | some p =>
    cases ctxNil <;> cases ex <;> cases ok <;> cases c.active <;> simp <;>
      cases lookupPkg c.pkgs p <;> simp <;> omega

theorem addTracer_iff (c : Levels) (pkg : Option Nat) :
    addTracer c false true pkg false = true ↔ enabled c pkg traceLevel = true := by
  simp [addTracer_eq]

theorem addTracer_refuses (c : Levels) (ok : Bool) (pkg : Option Nat) (ex : Bool) :
    addTracer c true ok pkg ex = false ∧ addTracer c false ok pkg true = false ∧
      (c.active = true → addTracer c false false pkg ex = false) ∧
      (c.active = true → addTracer c false ok none ex = false) := by
  simp +contextual [addTracer_eq, enabled]

/-- Trace was in force for the origin `AddTracer` was called from when it handed the tracer out, and a tracer
    collects only lines of the six severities. -/
def Tracer.ok (t : Tracer) : Prop :=
  enabled t.lv t.pkg traceLevel = true ∧ ∀ x ∈ t.logs, isSeverity x.e.lvl = true

/-- Every line it collected passes the filter of its creation. -/
theorem Tracer.ok.enabled {t : Tracer} (h : t.ok) {x : Collected} (hx : x ∈ t.logs) :
    enabled t.lv t.pkg x.e.lvl = true :=
  enabled_mono h.1 (isSeverity_ge (h.2 x hx))

/-- `c1`, `c2`: live / submitted tracers were handed out at trace level; `c3`: accepted tracer lines are the
    submissions; `c4`: a line before the filter is plain. -/
structure TcInv (tr : Nat → Option Tracer) (subs : Nat → List Sub) (logged : Nat → List Line)
    (prods : Nat → PState) : Prop where
  c1 : ∀ p t, tr p = some t → t.ok
  c2 : ∀ p, ∀ sb ∈ subs p, sb.tr.ok ∧ submitLine (sb.tr.logs.map (·.e)) = some sb.line
  c3 : ∀ p, (logged p).filter (·.trace.isSome) = (subs p).map (·.line)
  c4 : ∀ p l pkg, prods p = .inLog l pkg → l.trace = none

section
variable {tr subs logged prods} (hi : TcInv tr subs logged prods) {pid : Nat}
include hi

theorem TcInv.setProd {x : PState}
    (hx : ∀ l pkg, x = .inLog l pkg → l.trace = none) : TcInv tr subs logged (upd prods pid x) :=
  { hi with
    c4 := fun p l pkg h => by
      unfold upd at h; split at h
      · exact hx l pkg h
      · exact hi.c4 p l pkg h }

theorem TcInv.setTr {o : Option Tracer}
    (ho : ∀ t, o = some t → t.ok) : TcInv (upd tr pid o) subs logged prods :=
  { hi with
    c1 := fun p t h => by
      unfold upd at h; split at h
      · exact ho t h
      · exact hi.c1 p t h }

end

theorem tcinv_reachable {s : St} (h : Reachable s) : TcInv s.tr s.subs s.logged s.prods := by
  induction h with
  | init => exact ⟨nofun, nofun, fun _ => rfl, nofun⟩
  | @step s _ _ _ hs hi =>
    cases step_sound hs with
    | @call _ _ _ pass _ ht => exact hi.setProd (by cases pass <;> simp [ht])
    | reject | full | flagWon | flagSet | tok | tokFull | enq | enqB => exact hi.setProd nofun
    | @accept pid _ _ hp =>
      refine { hi.setProd (x := .ready _) nofun with c3 := fun p => ?_ }
      simp only [St.accept, upd]; split
      · subst p; simp [List.filter_append, hi.c4 _ _ _ hp, hi.c3]
      · exact hi.c3 p
    | @submit pid l t _ hl ht hsub =>
      refine { (hi.setProd (x := .ready l) nofun).setTr (o := none) nofun with c2 := fun p sb hsb => ?_, c3 := fun p => ?_ }
      · simp only [upd] at hsb; split at hsb
        · subst p
          rcases List.mem_append.mp hsb with hsb | hsb
          · exact hi.c2 pid sb hsb
          · cases List.mem_singleton.mp hsb; exact ⟨hi.c1 pid t ht, hsub⟩
        · exact hi.c2 p sb hsb
      · simp only [St.accept, upd]; split
        · subst p; simp [List.filter_append, hl, hi.c3]
        · exact hi.c3 p
    | @addTracer pid pkg _ hdec =>
      refine hi.setTr ?_
      rintro _ ⟨⟩
      refine ⟨?_, nofun⟩
      cases hex : (s.tr pid).isSome with
      | false => exact (addTracer_iff _ pkg).mp (hex ▸ hdec)
      | true => rw [hex, (addTracer_refuses _ true pkg true).2.1] at hdec; cases hdec
    | @collect pid _ _ t _ ht hsev =>
      refine hi.setTr ?_
      rintro _ ⟨⟩
      obtain ⟨a, b⟩ := hi.c1 pid t ht
      refine ⟨a, fun x hx => ?_⟩
      rcases List.mem_append.mp hx with hx | hx
      · exact b x hx
      · cases List.mem_singleton.mp hx; exact hsev
    | _ => exact hi

end Tracers

end PB.Log
