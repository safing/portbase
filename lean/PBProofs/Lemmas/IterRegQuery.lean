import PB.Model.Iter
import PBProofs.Lemmas.IterHandOver
/-
Invariant of the `Registry.Query` interleaving model (`PB.Iter.RegQuery`) when every provider goroutine decides
from a variable of its own (C03).
-/
namespace PB.Iter.RegQuery

/-- A pending decision reads the verdict of the very record it is about; everything sent passed the filter. -/
def Inv (s : St) : Prop :=
  (∀ (i : Nat) (g : G), s.gs[i]? = some g → ∀ x : Nat × Bool, g.cur = some x → g.allowed = x.2) ∧ (∀ x ∈ s.out, x.2 = true)

theorem inv_init (providers : List (List (Nat × Bool))) : Inv (init providers) := by
  refine ⟨fun i g hg x hx => ?_, nofun⟩
  simp only [init, List.getElem?_map, Option.map_eq_some_iff] at hg
  obtain ⟨l, -, rfl⟩ := hg
  cases hx

theorem inv_step (s s' : St) (a : Act) (hinv : Inv s) (hs : step false s a = some s') : Inv s' := by
  obtain ⟨h1, h2⟩ := hinv
  -- goroutine `i` moves to `g'`, the others stay as they are
  have set : ∀ {i : Nat} {g' : G}, (∀ x, g'.cur = some x → g'.allowed = x.2) →
      ∀ (j : Nat) (g : G), (s.gs.set i g')[j]? = some g → ∀ x : Nat × Bool, g.cur = some x → g.allowed = x.2 := by
    intro i g' hg' j g hj
    rw [List.getElem?_set] at hj
    split at hj
    · split at hj <;> cases hj; exact hg'
    · exact h1 j g hj
  cases a with simp only [step] at hs
  | eval i =>
    split at hs
    · split at hs <;> cases hs
      exact ⟨set fun x hx => by cases hx; rfl, h2⟩
    · cases hs
  | decide i =>
    split at hs
    · next g hg =>
      split at hs <;> cases hs
      next x hc =>
      refine ⟨set nofun, fun y hy => ?_⟩
      simp only [Bool.false_eq_true, if_false] at hy
      split at hy
      · next ha =>
        rcases List.mem_append.1 hy with hy | hy
        · exact h2 y hy
        · rw [List.mem_singleton.1 hy, ← h1 i g hg x hc]; exact ha
      · exact h2 y hy
    · cases hs

theorem exec_inv {P : St → Prop} {sh : Bool} (hstep : ∀ s s' a, P s → step sh s a = some s' → P s') :
    ∀ (sched : List Act) (s s' : St), P s → exec sh s sched = some s' → P s' :=
  exec_inv_of (step sh) (exec sh) (fun _ => rfl) (fun s a _ => by rw [exec]; cases step sh s a <;> rfl) hstep

theorem inv_exec (sched : List Act) (s s' : St) (hinv : Inv s) (h : exec false s sched = some s') : Inv s' :=
  exec_inv inv_step sched s s' hinv h

end PB.Iter.RegQuery
