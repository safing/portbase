import PB.Model.Db
import PB.Gen.MetaSrc
/-
Bridge between the model's `Meta` and the structure `PB.Gen.MetaSrc.Meta` that harness/cmd/extract/golean.go
translates from database/record/meta.go on every run (C02: the source's methods are the model's).
-/
namespace PB.Db

/-- The model's metadata as the translated Go struct. -/
def srcMeta (m : Meta) : PB.Gen.MetaSrc.Meta :=
  { Created := m.created, Modified := m.modified, Expires := m.expires, Deleted := m.deleted,
    secret := m.secret, cronjewel := m.crown }

/-- Values of `int64` range are not changed by Go's wrap-around. -/
theorem wrapI64_inRange (x : Int) (h1 : -(2 : Int) ^ 63 ≤ x) (h2 : x < (2 : Int) ^ 63) : PB.Go.wrapI64 x = x := by
  unfold PB.Go.wrapI64 PB.toInt64
  simp only []
  rw [Nat.mod_eq_of_lt (by omega)]
  split <;> omega

end PB.Db
