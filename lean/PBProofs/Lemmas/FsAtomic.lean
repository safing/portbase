import PB.Model.FsAtomic
import PB.Spec.FsCrash
/- Helper lemmas for C17 (checker soundness, leftovers, canonical sequence). -/
namespace PB.FsAtomic

theorem run_append (s : FS) (p q : List Call) : run s (p ++ q) = run (run s p) q := List.foldl_append

theorem run_cons (s : FS) (c : Call) (t : List Call) : run s (c :: t) = run (step s c) t := rfl

/-- The checker state after processing `p` starting from `k`. -/
def chkRun (dest : Path) (old new : Obs) (k : Chk) (p : List Call) : Chk := p.foldl (chkStep dest old new) k

theorem safePublish_eq (s0 dest old new) (t : List Call) :
    safePublish s0 dest old new t = (chkRun dest old new (chkInit s0 dest old new) t).ok := rfl

theorem chkRun_append (dest old new k) (p q : List Call) :
    chkRun dest old new k (p ++ q) = chkRun dest old new (chkRun dest old new k p) q := List.foldl_append

theorem chkRun_cons (dest old new k) (c : Call) (t : List Call) :
    chkRun dest old new k (c :: t) = chkRun dest old new (chkStep dest old new k c) t := rfl

theorem chkRun_s (dest old new) (p : List Call) : ∀ k, (chkRun dest old new k p).s = run k.s p := by
  induction p with
  | nil => exact fun k => rfl
  | cons c t ih => exact fun k => ih _

theorem mem_addHist_of_mem (o : Option Nat) (h : List Nat) (i : Nat) (hi : i ∈ h) : i ∈ addHist o h := by
  unfold addHist
  split
  · exact hi
  · split
    · exact hi
    · exact List.mem_cons_of_mem _ hi

theorem mem_addHist_self (h : List Nat) (i : Nat) : i ∈ addHist (some i) h := by
  unfold addHist
  simp only []
  split
  · rename_i hc; simpa using hc
  · exact List.mem_cons_self

theorem chkRun_mono (dest old new) (p : List Call) : ∀ k,
    (∀ i ∈ k.hist, i ∈ (chkRun dest old new k p).hist) ∧
    (k.absent = true → (chkRun dest old new k p).absent = true) ∧
    ((chkRun dest old new k p).ok = true → k.ok = true) := by
  induction p with
  | nil => exact fun k => ⟨fun _ h => h, id, id⟩
  | cons c t ih =>
    intro k
    obtain ⟨h1, h2, h3⟩ := ih (chkStep dest old new k c)
    refine ⟨fun i hi => h1 i (mem_addHist_of_mem _ _ _ hi), fun ha => h2 (by simp [chkStep, ha]), fun ho => ?_⟩
    have := h3 ho
    simp only [chkStep, Bool.and_eq_true] at this
    exact this.1.1.1

/-- What `hist`, `absent` and `ok` of a checker state mean. -/
def ChkInv (dest : Path) (old new : Obs) (k : Chk) : Prop :=
  (∀ i, lookup k.s.names dest = some i → i ∈ k.hist) ∧ (lookup k.s.names dest = none → k.absent = true) ∧
  (k.ok = true → (∀ i ∈ k.hist, goodIno old new k.s i = true) ∧ (k.absent = true → allowed old new none = true) ∧
    allowed old new (vview k.s dest) = true)

theorem chkInit_inv (s0 dest old new) : ChkInv dest old new (chkInit s0 dest old new) := by
  refine ⟨fun i h => ?_, fun h => ?_, fun h => ?_⟩
  · have h' : lookup s0.names dest = some i := h
    simp [chkInit, h']
  · have h' : lookup s0.names dest = none := h
    simp [chkInit, h']
  · simp only [chkInit, Bool.and_eq_true, List.all_eq_true] at h
    refine ⟨h.1.1, fun ha => ?_, h.2⟩
    simpa [show (lookup s0.names dest).isNone = true from ha] using h.1.2

theorem chkStep_inv (dest old new k c) : ChkInv dest old new (chkStep dest old new k c) := by
  refine ⟨fun i h => ?_, fun h => ?_, fun h => ?_⟩
  · have h' : lookup (step k.s c).names dest = some i := h
    simp only [chkStep, h']
    exact mem_addHist_self _ _
  · have h' : lookup (step k.s c).names dest = none := h
    simp [chkStep, h']
  · simp only [chkStep, Bool.and_eq_true, List.all_eq_true] at h
    refine ⟨h.1.1.2, fun ha => ?_, h.2⟩
    have ha' : (k.absent || (lookup (step k.s c).names dest).isNone) = true := ha
    simpa [ha'] using h.1.2

theorem chkRun_inv (s0 dest old new) (p : List Call) :
    ChkInv dest old new (chkRun dest old new (chkInit s0 dest old new) p) := by
  rcases List.eq_nil_or_concat p with rfl | ⟨q, c, rfl⟩
  · exact chkInit_inv ..
  · rw [List.concat_eq_append, chkRun_append]; exact chkStep_inv ..

theorem allowed_iff (old new o : Obs) : allowed old new o = true ↔ o = old ∨ o = new := by
  simp [allowed]

theorem view_nondir (inodes : List Inode) (names : List (Path × Nat)) (data : Nat → Content) (dest : Path)
    (i : Nat) (n : Inode) (h1 : lookup names dest = some i) (h2 : inodes[i]? = some n) (h3 : n.kind ≠ .dir) :
    view inodes names data dest = some (nodeOf n (data i), []) := by
  simp [view, h1, h2, h3]

/-- The power loss that drops all data never fsynced. -/
def Crash.dirtyLost (s0 : FS) (t : List Call) : Crash s0 t :=
  { pre := t, post := [], split := by simp,
    data := fun i => match inodeAt (run s0 t) i with
      | some n => if n.clean then n.data else []
      | none => [],
    legal := by intro i n h hc; simp [h, hc] }

/-! ### The canonical publish sequence on the concrete world `baseFS` -/

/-- State while the temp file is being written: data `d` so far. -/
def midFS (old : Option (Content × Nat)) (fd perm : Nat) (d : Content) (cl : Bool) : FS :=
  match old with
  | none =>
    { inodes := [dirInode, dirInode, { kind := .file, mode := perm, data := d, target := "", clean := cl }],
      names := [(tmpF, 2), (["R", "dst"], 0), (["R", "tmp"], 1)], fds := [(fd, 2)] }
  | some (c, m) =>
    { inodes := [dirInode, dirInode, { kind := .file, mode := m, data := c, target := "", clean := true },
                 { kind := .file, mode := perm, data := d, target := "", clean := cl }],
      names := [(tmpF, 3), (["R", "dst", "f"], 2), (["R", "dst"], 0), (["R", "tmp"], 1)], fds := [(fd, 3)] }

def midChk (old : Option (Content × Nat)) (fd perm : Nat) (d : Content) (cl : Bool) : Chk :=
  { s := midFS old fd perm d cl, hist := match old with | none => [] | some _ => [2],
    absent := old.isNone, ok := true }

def endFS (old : Option (Content × Nat)) (perm : Nat) (d : Content) (cl : Bool) : FS :=
  { midFS old 0 perm d cl with
    names := [(destF, if old.isNone then 2 else 3), (["R", "dst"], 0), (["R", "tmp"], 1)], fds := [] }

/-- `ok` iff the new inode is durable. -/
def endChk (old : Option (Content × Nat)) (perm : Nat) (d : Content) (cl : Bool) : Chk :=
  { s := endFS old perm d cl, hist := match old with | none => [2] | some _ => [3, 2], absent := old.isNone, ok := cl }

section
/- `simp` runs model and checker on these concretely shaped states. -/
attribute [local simp] chkRun chkInit chkStep step exec baseFS baseOld midChk midFS endChk endFS destF tmpF lookup
  List.lookup parentErr kindAt inodeAt dirInode setInode addHist allowed vview view goodIno umasked List.modify nodeOf
  vdata below unbind moveNames hasChild

theorem mid_start (old fd perm) (new : Obs) :
    chkRun destF (baseOld old) new (chkInit (baseFS old) destF (baseOld old) new)
      [.openC tmpF true true false 0o600 (some fd), .fchmod fd perm] = midChk old fd perm [] false := by
  rcases old with _ | ⟨c, m⟩ <;> simp

theorem mid_write (old fd perm) (new : Obs) (d : Content) (cl : Bool) (g : Seg) :
    chkStep destF (baseOld old) new (midChk old fd perm d cl) (.write fd g) = midChk old fd perm (app d g) false := by
  rcases old with _ | ⟨c, m⟩ <;> simp

theorem mid_fsync (old fd perm) (new : Obs) (d : Content) (cl : Bool) :
    chkStep destF (baseOld old) new (midChk old fd perm d cl) (.fsync fd) = midChk old fd perm d true := by
  rcases old with _ | ⟨c, m⟩ <;> simp

theorem mid_publish (old fd perm) (d : Content) (cl : Bool) :
    chkRun destF (baseOld old) (some (.file d, [])) (midChk old fd perm d cl) [.close fd, .rename tmpF destF] =
      endChk old perm d cl := by
  rcases old with _ | ⟨c, m⟩
  · simp
  · -- `simp` leaves the `ok` field, a Boolean term in `cl`
    simp
    cases cl <;> rfl

end

theorem mid_writes (old fd perm) (new : Obs) (chunks : List Seg) : ∀ d : Content,
    chkRun destF (baseOld old) new (midChk old fd perm d false) (chunks.map (.write fd)) =
      midChk old fd perm (chunks.foldl app d) false := by
  induction chunks with
  | nil => intro d; rfl
  | cons g t ih => intro d; simp only [List.map_cons, chkRun, List.foldl_cons, mid_write]; exact ih (app d g)

theorem chkRun_open_writes (old fd perm) (new : Obs) (chunks : List Seg) :
    chkRun destF (baseOld old) new (chkInit (baseFS old) destF (baseOld old) new)
      ([.openC tmpF true true false 0o600 (some fd), .fchmod fd perm] ++ chunks.map (.write fd)) =
      midChk old fd perm (written chunks) false := by
  rw [chkRun_append, mid_start, mid_writes]; rfl

theorem chkRun_publishSeq (old fd perm) (chunks : List Seg) :
    chkRun destF (baseOld old) (some (.file (written chunks), []))
      (chkInit (baseFS old) destF (baseOld old) (some (.file (written chunks), [])))
      (publishSeq tmpF destF fd perm chunks) = endChk old perm (written chunks) true := by
  unfold publishSeq
  rw [chkRun_append, chkRun_open_writes, chkRun_cons, mid_fsync, mid_publish]

theorem chkRun_publishSeqNoSync (old fd perm) (chunks : List Seg) :
    chkRun destF (baseOld old) (some (.file (written chunks), []))
      (chkInit (baseFS old) destF (baseOld old) (some (.file (written chunks), [])))
      (publishSeqNoSync tmpF destF fd perm chunks) = endChk old perm (written chunks) false := by
  unfold publishSeqNoSync
  rw [chkRun_append, chkRun_open_writes, mid_publish]

/-! ### Names created by a call -/

theorem mem_unbind {ns : List (Path × Nat)} {p : Path} {e : Path × Nat} (h : e ∈ unbind ns p) : e ∈ ns :=
  (List.mem_filter.1 h).1

theorem setInode_names (s : FS) (i : Nat) (f : Inode → Inode) : (setInode s i f).names = s.names := rfl

theorem mem_moveNames {ns : List (Path × Nat)} {src dst x : Path} {i : Nat} (h : (x, i) ∈ moveNames ns src dst) :
    (x, i) ∈ ns ∨ ∃ y j, (y, j) ∈ ns ∧ src.isPrefixOf y = true ∧ x = dst ++ y.drop src.length := by
  unfold moveNames at h
  obtain ⟨e, he, heq⟩ := List.mem_map.1 h
  by_cases hp : src.isPrefixOf e.1 = true
  · simp only [hp, if_true, Prod.mk.injEq] at heq
    right; exact ⟨e.1, e.2, he, hp, heq.1.symm⟩
  · simp only [hp] at heq
    left; rw [← heq]; exact he

theorem step_names (s : FS) (c : Call) :
    (step s c).names = s.names ∨
    (∃ p, created c = some p ∧ (∀ a b, c ≠ .rename a b) ∧ (step s c).names = (p, s.inodes.length) :: s.names) ∨
    (∃ p, (step s c).names = unbind s.names p) ∨
    ∃ src dst, c = .rename src dst ∧ (step s c).names = moveNames (unbind s.names dst) src dst := by
  unfold step
  fun_cases exec s c
  -- the successful branches of `open` go through `bind` and the truncation
  case case3 => left; dsimp +zetaDelta only; split <;> split <;> rfl
  case case6 => right; left; exact ⟨_, rfl, nofun, by dsimp +zetaDelta only; split <;> rfl⟩
  -- each other branch is, as written, one of the four alternatives
  all_goals first
    | exact .inl rfl
    | exact .inr (.inl ⟨_, rfl, nofun, rfl⟩)
    | exact .inr (.inr (.inl ⟨_, rfl⟩))
    | exact .inr (.inr (.inr ⟨_, _, rfl, rfl⟩))

/-- A path that may exist after the operation although it did not exist before. -/
def okPath (dest : Path) (tmp : Path → Bool) (x : Path) : Prop :=
  dest.isPrefixOf x = true ∨ x.isPrefixOf dest = true ∨ tmp x = true

def NamesOk (dest : Path) (tmp : Path → Bool) (init ns : List (Path × Nat)) : Prop :=
  ∀ x i, (x, i) ∈ ns → (∃ j, (x, j) ∈ init) ∨ okPath dest tmp x

theorem isPrefixOf_append {a b : Path} (r : Path) (h : a.isPrefixOf b = true) : a.isPrefixOf (b ++ r) = true := by
  rw [List.isPrefixOf_iff_prefix] at *
  exact h.trans (List.prefix_append b r)

theorem onlyTemp_cons (dest : Path) (tmp : Path → Bool) (c : Call) (t : List Call) :
    onlyTemp dest tmp (c :: t) = (onlyTemp dest tmp [c] && onlyTemp dest tmp t) := by
  simp [onlyTemp]

theorem okPath_created {dest : Path} {tmp : Path → Bool} {c : Call} {p : Path} (hc : onlyTemp dest tmp [c] = true)
    (hp : created c = some p) (hn : ∀ a b, c ≠ .rename a b) : okPath dest tmp p := by
  simp only [onlyTemp, List.all_cons, List.all_nil, Bool.and_true] at hc
  split at hc
  · exact absurd rfl (hn _ _)
  · rename_i h; cases hp.symm.trans h
    simpa [okPath, or_assoc] using hc
  · rename_i h; cases hp.symm.trans h

theorem step_ok (dest : Path) (tmp : Path → Bool) (hmono : ∀ p r, tmp p = true → tmp (p ++ r) = true)
    (init : List (Path × Nat)) (s : FS) (c : Call) (hc : onlyTemp dest tmp [c] = true)
    (hs : NamesOk dest tmp init s.names) : NamesOk dest tmp init (step s c).names := by
  intro x i hx
  rcases step_names s c with e | ⟨p, hp, hn, e⟩ | ⟨p, e⟩ | ⟨src, dst, rfl, e⟩ <;> rw [e] at hx
  · exact hs x i hx
  · rcases List.mem_cons.1 hx with h | h
    · cases h; exact .inr (okPath_created hc hp hn)
    · exact hs x i h
  · exact hs x i (mem_unbind hx)
  · rcases mem_moveNames hx with h | ⟨y, j, _, _, rfl⟩
    · exact hs x i (mem_unbind h)
    · right
      simp only [onlyTemp, List.all_cons, List.all_nil, Bool.and_true, created, Bool.or_eq_true] at hc
      rcases hc with h | h
      · exact .inl (isPrefixOf_append _ h)
      · exact .inr (.inr (hmono _ _ h))

theorem onlyTemp_prefix {dest : Path} {tmp : Path → Bool} {p q : List Call} (h : onlyTemp dest tmp (p ++ q) = true) :
    onlyTemp dest tmp p = true := by
  simp only [onlyTemp, List.all_append, Bool.and_eq_true] at h
  exact h.1

theorem run_ok (dest : Path) (tmp : Path → Bool) (hmono : ∀ p r, tmp p = true → tmp (p ++ r) = true)
    (init : List (Path × Nat)) (t : List Call) :
    ∀ s, onlyTemp dest tmp t = true → NamesOk dest tmp init s.names → NamesOk dest tmp init (run s t).names := by
  induction t with
  | nil => exact fun s _ hs => hs
  | cons c t ih =>
    intro s ht hs
    rw [onlyTemp_cons, Bool.and_eq_true] at ht
    exact ih (step s c) ht.2 (step_ok dest tmp hmono init s c ht.1 hs)

theorem below_append {d p : Path} (r : Path) (h : below d p = true) : below d (p ++ r) = true := by
  simp only [below, Bool.and_eq_true, decide_eq_true_eq] at *
  refine ⟨isPrefixOf_append r h.1, ?_⟩
  simp only [List.length_append]; omega

end PB.FsAtomic
