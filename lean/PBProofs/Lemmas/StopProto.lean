import PB.Model.StopProto
import PBProofs.Lemmas.Guard
/-!
Inductive invariant of the stop protocol model. Each lemma about an action states its guard and its update and proves
again exactly what mentions an updated field; `inv_step` reads guard and update off `step` and dispatches.
-/
namespace PB.StopProto
open PB.Gen.StopProto

/-- The invariant (all conjuncts hold in every reachable state, for any number of cycles). -/
def Inv (s : St) : Prop :=
  -- ranges
  s.spc ≤ 8 ∧ s.fnpc ≤ 3 ∧ s.flag ≤ 1 ∧ s.ctrl ≤ 1 ∧ s.ctx ≤ 1 ∧ s.completed ≤ 1 ∧ s.closed ≤ 1 ∧ s.tmo ≤ 1 ∧
  -- the module lock as used by the check: held by exactly the goroutine inside the locked section
  s.lk = s.k1 + s.k2 + s.k3 + s.k4 + s.k5 + s.k6 + s.k7 + s.kd ∧ s.lk ≤ 1 ∧
  -- status vs. stopper pc
  (1 ≤ s.spc → s.spc ≤ 6 → s.status = statusStopping) ∧
  (7 ≤ s.spc → s.status = statusOffline) ∧
  (s.spc = 0 → s.status = statusDead ∨ s.status = statusPreparing ∨ s.status = statusOffline ∨
      s.status = statusStarting ∨ s.status = statusOnline) ∧
  -- the stop flag is set exactly from the stopper's flag.Set until the restart
  (3 ≤ s.spc → s.flag = 1) ∧ (s.spc ≤ 2 → s.flag = 0) ∧
  -- the context is cancelled from the stopper's cancel until the restart
  (4 ≤ s.spc → s.ctx = 1) ∧
  -- … and live otherwise: nothing but the stopper's cancel (and the `start()` that replaces it) cancels `m.Ctx`
  (s.spc ≤ 3 → s.ctx = 0) ∧
  -- single close
  s.k7 + s.closed ≤ 1 ∧ (s.completed = 0 → s.k7 = 0 ∧ s.closed = 0) ∧ s.dbl = 0 ∧
  -- a control function goroutine is alive only while starting or after the stopper started the stop routine
  (s.fnpc = 1 ∨ s.fnpc = 2 → s.status = statusStarting ∨ s.status = statusPreparing ∨ 5 ≤ s.spc) ∧
  -- the control flag during the stopper's prefix
  (1 ≤ s.spc → s.spc ≤ 4 → s.fnpc = 0 ∨ s.fnpc = 3) ∧
  (2 ≤ s.spc → s.spc ≤ 4 → s.ctrl = 1) ∧
  (5 ≤ s.spc → 1 ≤ s.fnpc ∧ (s.fnpc ≤ 2 → s.ctrl = 1) ∧ (s.fnpc = 3 → s.ctrl = 0)) ∧
  -- what each read of the check in progress established stays true
  (0 < s.k2 + s.k3 + s.k4 + s.k5 + s.k6 + s.k7 → 3 ≤ s.spc) ∧
  (0 < s.k3 + s.k4 + s.k5 + s.k6 + s.k7 → 5 ≤ s.spc ∧ s.fnpc = 3) ∧
  (0 < s.k4 + s.k5 + s.k6 + s.k7 → s.aW = 0) ∧
  (0 < s.k5 + s.k6 + s.k7 → s.aT = 0) ∧
  (0 < s.k6 + s.k7 → s.aM = 0) ∧
  (1 ≤ s.spc → s.completed = 1 → 5 ≤ s.spc ∧ s.fnpc = 3 ∧ s.aW = 0 ∧ s.aT = 0 ∧ s.aM = 0) ∧
  -- without timeout the stopper got past its wait only through the closed channel
  (s.tmo = 0 → 6 ≤ s.spc → s.closed = 1) ∧
  -- no lost completion
  (5 ≤ s.spc → s.fnpc = 3 → s.aW + s.bW = 0 → s.aT + s.bT = 0 → s.aM + s.bM = 0 → s.completed = 0 →
      1 ≤ s.k0 + s.kf + s.k1 + s.k2 + s.k3 + s.k4 + s.k5 + s.k6) ∧
  (1 ≤ s.spc → s.completed = 1 → s.k7 = 1 ∨ s.closed = 1)

/-- The stopper's table: the conjuncts of `Inv` that relate its pc, the status, the stop flag, the context, the control
    flag and the control function's pc and nothing else. On variables, so that an action that writes one of the six
    proves its new row in one step: `grind` gets the old row (opened by `grind cases`) and, from the context, the guard
    `g`. -/
structure Phase (n st fl cx ct fn : Nat) : Prop where
  spc_le : n ≤ 8
  fnpc_le : fn ≤ 3
  flag_le : fl ≤ 1
  ctrl_le : ct ≤ 1
  ctx_le : cx ≤ 1
  stopping : 1 ≤ n → n ≤ 6 → st = statusStopping
  offline : 7 ≤ n → st = statusOffline
  unstopped : n = 0 → st = statusDead ∨ st = statusPreparing ∨ st = statusOffline ∨ st = statusStarting ∨
      st = statusOnline
  flag_set : 3 ≤ n → fl = 1
  flag_clear : n ≤ 2 → fl = 0
  ctx_done : 4 ≤ n → cx = 1
  ctx_live : n ≤ 3 → cx = 0
  fn_alive : fn = 1 ∨ fn = 2 → st = statusStarting ∨ st = statusPreparing ∨ 5 ≤ n
  fn_prefix : 1 ≤ n → n ≤ 4 → fn = 0 ∨ fn = 3
  ctrl_prefix : 2 ≤ n → n ≤ 4 → ct = 1
  ctrl_fn : 5 ≤ n → 1 ≤ fn ∧ (fn ≤ 2 → ct = 1) ∧ (fn = 3 → ct = 0)

/-- … and those about the holder of the module lock, likewise. -/
structure Checker (lk k1 k2 k3 k4 k5 k6 k7 kd spc fnpc aW aT aM : Nat) : Prop where
  lock : lk = k1 + k2 + k3 + k4 + k5 + k6 + k7 + kd
  lk_le : lk ≤ 1
  read_flag : 0 < k2 + k3 + k4 + k5 + k6 + k7 → 3 ≤ spc
  read_ctrl : 0 < k3 + k4 + k5 + k6 + k7 → 5 ≤ spc ∧ fnpc = 3
  read_w : 0 < k4 + k5 + k6 + k7 → aW = 0
  read_t : 0 < k5 + k6 + k7 → aT = 0
  read_m : 0 < k6 + k7 → aM = 0

attribute [grind cases] Phase Checker
attribute [grind intro] Phase Checker

structure Invariant (s : St) : Prop extends Phase s.spc s.status s.flag s.ctx s.ctrl s.fnpc,
    Checker s.lk s.k1 s.k2 s.k3 s.k4 s.k5 s.k6 s.k7 s.kd s.spc s.fnpc s.aW s.aT s.aM where
  completed_le : s.completed ≤ 1
  closed_le : s.closed ≤ 1
  tmo_le : s.tmo ≤ 1
  close_once : s.k7 + s.closed ≤ 1
  not_completed : s.completed = 0 → s.k7 = 0 ∧ s.closed = 0
  no_dbl : s.dbl = 0
  completed_done : 1 ≤ s.spc → s.completed = 1 → 5 ≤ s.spc ∧ s.fnpc = 3 ∧ s.aW = 0 ∧ s.aT = 0 ∧ s.aM = 0
  woke : s.tmo = 0 → 6 ≤ s.spc → s.closed = 1
  no_lost : 5 ≤ s.spc → s.fnpc = 3 → s.aW + s.bW = 0 → s.aT + s.bT = 0 → s.aM + s.bM = 0 → s.completed = 0 →
      1 ≤ s.k0 + s.kf + s.k1 + s.k2 + s.k3 + s.k4 + s.k5 + s.k6
  completed_closed : 1 ≤ s.spc → s.completed = 1 → s.k7 = 1 ∨ s.closed = 1

theorem inv_iff {s : St} : Inv s ↔ Invariant s := by
  unfold Inv
  exact
  ⟨fun ⟨h1, h2, h3, h4, h5, h6, h7, h8, h9, h10, h11, h12, h13, h14, h15, h16, h17, h18, h19, h20, h21, h22, h23, h24,
      h25, h26, h27, h28, h29, h30, h31, h32, h33⟩ =>
    ⟨⟨h1, h2, h3, h4, h5, h11, h12, h13, h14, h15, h16, h17, h21, h22, h23, h24⟩, ⟨h9, h10, h25, h26, h27, h28, h29⟩,
      h6, h7, h8, h18, h19, h20, h30, h31, h32, h33⟩,
   fun ⟨⟨h1, h2, h3, h4, h5, h11, h12, h13, h14, h15, h16, h17, h21, h22, h23, h24⟩, ⟨h9, h10, h25, h26, h27, h28, h29⟩,
      h6, h7, h8, h18, h19, h20, h30, h31, h32, h33⟩ =>
    ⟨h1, h2, h3, h4, h5, h6, h7, h8, h9, h10, h11, h12, h13, h14, h15, h16, h17, h18, h19, h20, h21, h22, h23, h24,
      h25, h26, h27, h28, h29, h30, h31, h32, h33⟩⟩

theorem inv_init : Inv init := by
  unfold Inv init; simp

macro "inv_step" hs:ident : tactic =>
  `(tactic| (unfold Inv at *
             simp only [step] at $hs:ident
             try simp only [startCtx, startOps, List.foldl, applyStartOp, Nat.succ_ne_zero, if_false] at $hs:ident
             (repeat' split at $hs:ident) <;> cases $hs:ident <;>
               (try dsimp only) <;> and_intros <;> grind (splits := 14)))

theorem run_cons {s s' : St} {a : Act} {as : List Act} :
    run s (a :: as) = some s' ↔ ∃ s1, step s a = some s1 ∧ run s1 as = some s' := by
  simp only [run]
  cases step s a with
  | none => simp
  | some s1 => simp

/-- `cancelCur` comes before `renew`, so the renewal puts nothing on `oldLive` -/
theorem startCtx_startOps (s : St) : startCtx startOps s = { s with ctx := 0, gen := s.gen + 1, flag := 0 } := rfl

/-- a goroutine stepping from one place to the next leaves a sum over both (as in `no_lost`, `lock`) unchanged -/
theorem move {x a b : Nat} (h : 0 < a) : x + (a - 1) + (b + 1) = x + a + b := by omega

/-- `move` at the head of the sum -/
theorem move0 {a b : Nat} (h : 0 < a) : a - 1 + (b + 1) = a + b := by omega

/-- a goroutine arriving at `k0` is a pending check: the conclusion of `no_lost` -/
theorem pending_succ {k0 kf k1 k2 k3 k4 k5 k6 : Nat} : 1 ≤ k0 + 1 + kf + k1 + k2 + k3 + k4 + k5 + k6 := by omega

variable {s : St}

theorem ctrlSet_of_stopping {s' : St} (g : s.status = statusStopping) (hs : step s .ctrlSet = some s') :
    s.spc = 4 := by
  rcases ite_some_cases hs with ⟨g4, _⟩ | ⟨_, hs⟩
  · exact g4
  · -- the other branch of `ctrlSet` wants the status `Starting` or `Preparing`
    have := (guarded hs).1
    grind

theorem Invariant.no_reader_of_unlocked (h : Invariant s) (g : s.lk = 0) :
    s.k2 + s.k3 + s.k4 + s.k5 + s.k6 + s.k7 = 0 := by
  have := h.lock; omega

theorem Invariant.no_reader_of_early (h : Invariant s) (g : s.spc ≤ 2) :
    s.k2 + s.k3 + s.k4 + s.k5 + s.k6 + s.k7 = 0 := by
  have := h.read_flag; omega

theorem spc_of_stopped (h : s.stopped) : 7 ≤ s.spc := by
  unfold St.stopped at h; omega

theorem Invariant.spc_of_stopping (h : Invariant s) (g : s.status = statusStopping) : 1 ≤ s.spc ∧ s.spc ≤ 6 := by
  have := h.toPhase; grind

/-- `prepBegin`, `prepDone`, `startFail`, `online` -/
theorem inv_status (h : Invariant s) (v : Nat) (p : Phase s.spc v s.flag s.ctx s.ctrl s.fnpc) :
    Invariant { s with status := v } :=
  { p, h with }

theorem inv_stopBegin (h : Invariant s) (g : s.status = statusOnline ∧ s.spc = 0 ∧ s.lk = 0) :
    Invariant { s with status := statusStopping, closed := 0, completed := 0, spc := 1, tmo := 0 } :=
  have idle := h.no_reader_of_unlocked g.2.2
  { h with
    toPhase := by have := h.toPhase; grind
    completed_le := by dsimp only; decide
    closed_le := by dsimp only; decide
    tmo_le := by dsimp only; decide
    close_once := by dsimp only; omega
    not_completed := fun _ => ⟨by dsimp only; omega, rfl⟩
    read_flag := by dsimp only; omega
    read_ctrl := by dsimp only; omega
    completed_done := by dsimp only; omega
    woke := by dsimp only; omega
    no_lost := by dsimp only; omega
    completed_closed := by dsimp only; omega }

theorem inv_sCtrl (h : Invariant s) (g : s.spc = 1) : Invariant { s with ctrl := 1, spc := 2 } :=
  { h with
    toPhase := by have := h.toPhase; grind
    read_flag := by have := h.read_flag; dsimp only; omega
    read_ctrl := by have := h.read_ctrl; dsimp only; omega
    completed_done := by have := h.completed_done; dsimp only; omega
    woke := by dsimp only; omega
    no_lost := by dsimp only; omega
    completed_closed := by have := h.completed_done; dsimp only; omega }

theorem inv_sFlag (h : Invariant s) (g : s.spc = 2) :
    Invariant { s with flag := 1, spc := 3, aW := s.aW + s.bW, bW := 0, aT := s.aT + s.bT, bT := 0,
                       aM := s.aM + s.bM, bM := 0 } :=
  have idle := h.no_reader_of_early (Nat.le_of_eq g)
  { h with
    toPhase := by have := h.toPhase; grind
    read_flag := fun _ => Nat.le_refl 3
    read_ctrl := by dsimp only; omega
    read_w := by dsimp only; omega
    read_t := by dsimp only; omega
    read_m := by dsimp only; omega
    completed_done := by have := h.completed_done; dsimp only; omega
    woke := by dsimp only; omega
    no_lost := by dsimp only; omega
    completed_closed := by have := h.completed_done; dsimp only; omega }

theorem inv_sCancel (h : Invariant s) (g : s.spc = 3) : Invariant { s with ctx := 1, spc := 4 } :=
  { h with
    toPhase := by have := h.toPhase; grind
    read_flag := fun _ => by dsimp only; decide
    read_ctrl := by have := h.read_ctrl; dsimp only; omega
    completed_done := by have := h.completed_done; dsimp only; omega
    woke := by dsimp only; omega
    no_lost := by dsimp only; omega
    completed_closed := by have := h.completed_done; dsimp only; omega }

/-- `startCtrlFn` of the stopper: `ctrlSet` at `spc = 4` (`c f d = 1 1 0`; at `spc = 0` the same action starts the
    routine of `start()` / `prep()`), or without a stop routine `ctrlUnsetNil` (`c f d = 0 3 1`) -/
theorem inv_sStartFn (h : Invariant s) (g : s.spc = 4) (c f d : Nat)
    (hp : c = 1 ∧ f = 1 ∧ d = 0 ∨ c = 0 ∧ f = 3 ∧ d = 1) :
    Invariant { s with ctrl := c, spc := 5, fnpc := f, k0 := s.k0 + d } :=
  have notDone : s.completed = 0 := by have := h.completed_done; have := h.completed_le; omega
  { h with
    toPhase := by have := h.toPhase; grind
    read_flag := fun _ => by dsimp only; decide
    read_ctrl := by have := h.read_ctrl; dsimp only; omega
    completed_done := by dsimp only; omega
    woke := by dsimp only; omega
    no_lost := by dsimp only; omega
    completed_closed := by dsimp only; omega }

theorem inv_ctrlSet_start (h : Invariant s)
    (g : (s.status = statusStarting ∨ s.status = statusPreparing) ∧ s.spc = 0 ∧ s.fnpc = 0) :
    Invariant { s with ctrl := 1, fnpc := 1 } :=
  { h with
    toPhase := by have := h.toPhase; grind
    read_ctrl := by have := h.read_ctrl; dsimp only; omega
    completed_done := by dsimp only; omega
    no_lost := by dsimp only; omega }

/-- `sWake` (`n = 5`, `tm = s.tmo`, the channel is closed), `sTimeout` (`n = 5`, `tm = 1`), `sOffline` (`n = 6`),
    `sReport` (`n = 7`) -/
theorem inv_sLate (h : Invariant s) {n : Nat} (g : s.spc = n) (hn : 5 ≤ n ∧ n ≤ 7) (tm : Nat)
    (htm : tm = s.tmo ∨ tm = 1) (hw : n = 5 → tm = 0 → s.closed = 1) :
    Invariant { s with status := if n = 6 then statusOffline else s.status, spc := n + 1, tmo := tm } :=
  { h with
    toPhase := by have := h.toPhase; grind
    tmo_le := by have := h.tmo_le; dsimp only; omega
    read_flag := fun _ => by dsimp only; omega
    read_ctrl := by have := h.read_ctrl; dsimp only; omega
    completed_done := by have := h.completed_done; dsimp only; omega
    woke := by have := h.woke; dsimp only; omega
    no_lost := fun _ => h.no_lost (by omega)
    completed_closed := fun _ => h.completed_closed (by omega) }

theorem inv_fnExit (h : Invariant s) (g : s.fnpc = 1) : Invariant { s with fnpc := 2 } :=
  { h with
    toPhase := by have := h.toPhase; grind
    read_ctrl := by have := h.read_ctrl; dsimp only; omega
    completed_done := by have := h.completed_done; dsimp only; omega
    no_lost := by dsimp only; omega }

theorem inv_ctrlUnset (h : Invariant s) (g : s.fnpc = 2) :
    Invariant { s with ctrl := 0, fnpc := 3, k0 := s.k0 + 1 } :=
  { h with
    toPhase := by have := h.toPhase; grind
    read_ctrl := by have := h.read_ctrl; dsimp only; omega
    completed_done := by have := h.completed_done; dsimp only; omega
    no_lost := fun _ _ _ _ _ _ => pending_succ }

theorem inv_startBegin (h : Invariant s)
    (g : s.status = statusOffline ∧ (s.spc = 0 ∨ s.spc = 8) ∧ (s.fnpc = 0 ∨ s.fnpc = 3) ∧ s.lk = 0) :
    Invariant { s with status := statusStarting, spc := 0, fnpc := 0, ctx := 0, gen := s.gen + 1, flag := 0 } :=
  have idle := h.no_reader_of_unlocked g.2.2.2
  { h with
    toPhase := by have := h.toPhase; grind
    read_flag := by dsimp only; omega
    read_ctrl := by dsimp only; omega
    completed_done := by dsimp only; omega
    woke := by dsimp only; omega
    no_lost := by dsimp only; omega
    completed_closed := by dsimp only; omega }

theorem inv_inc_a (h : Invariant s) (g : ¬s.flag = 1) (w t m : Nat) :
    Invariant { s with aW := s.aW + w, aT := s.aT + t, aM := s.aM + m } :=
  -- the flag is clear, so the stopper has not set it yet, so no check has read it set: nobody relies on `a = 0`
  have early : s.spc ≤ 2 := by have := h.flag_set; omega
  have idle := h.no_reader_of_early early
  { h with
    read_w := by dsimp only; omega
    read_t := by dsimp only; omega
    read_m := by dsimp only; omega
    completed_done := by have := h.completed_done; dsimp only; omega
    no_lost := by dsimp only; omega }

theorem inv_inc_b (h : Invariant s) (w t m : Nat) :
    Invariant { s with bW := s.bW + w, bT := s.bT + t, bM := s.bM + m } :=
  { h with no_lost := by have := h.no_lost; dsimp only; omega }

theorem inv_dec (h : Invariant s) (w w' t t' m m' : Nat) :
    Invariant { s with aW := s.aW - w, bW := s.bW - w', aT := s.aT - t, bT := s.bT - t', aM := s.aM - m,
                       bM := s.bM - m', k0 := s.k0 + 1 } :=
  { h with
    read_w := fun k => by have := h.read_w k; dsimp only; omega
    read_t := fun k => by have := h.read_t k; dsimp only; omega
    read_m := fun k => by have := h.read_m k; dsimp only; omega
    completed_done := fun p c => by have := h.completed_done p c; dsimp only; omega
    no_lost := fun _ _ _ _ _ _ => pending_succ }

theorem inv_cFast_ok (h : Invariant s) (g : 0 < s.k0 ∧ s.flag = 1) :
    Invariant { s with k0 := s.k0 - 1, kf := s.kf + 1 } :=
  { h with no_lost := by simpa only [move0 g.1] using h.no_lost }

theorem inv_cFast_no (h : Invariant s) (g : 0 < s.k0 ∧ s.flag = 0) : Invariant { s with k0 := s.k0 - 1 } :=
  { h with no_lost := fun p => absurd (h.flag_set (Nat.le_trans (by decide) p)) (by omega) }

theorem inv_cLock (h : Invariant s) (g : 0 < s.kf ∧ s.lk = 0) :
    Invariant { s with kf := s.kf - 1, k1 := s.k1 + 1, lk := 1 } :=
  { h with
    toChecker := by have := h.toChecker; grind
    no_lost := by simpa only [move g.1] using h.no_lost }

theorem inv_cFlag_ok (h : Invariant s) (g : 0 < s.k1 ∧ s.flag = 1) :
    Invariant { s with k1 := s.k1 - 1, k2 := s.k2 + 1 } :=
  { h with
    -- the flag was read set, so `3 ≤ spc` (`flag_clear`)
    toChecker := by have := h.toChecker; have := h.flag_clear; grind
    no_lost := by simpa only [move g.1] using h.no_lost }

theorem inv_cFlag_no (h : Invariant s) (g : 0 < s.k1 ∧ s.flag = 0) :
    Invariant { s with k1 := s.k1 - 1, kd := s.kd + 1 } :=
  { h with
    toChecker := by have := h.toChecker; grind
    no_lost := fun p => absurd (h.flag_set (Nat.le_trans (by decide) p)) (by omega) }

theorem inv_cCtrl_ok (h : Invariant s) (g : 0 < s.k2 ∧ s.ctrl = 0) :
    Invariant { s with k2 := s.k2 - 1, k3 := s.k3 + 1 } :=
  { h with
    -- `ctrl` was read clear after the flag: `5 ≤ spc ∧ fnpc = 3` (`ctrl_prefix`, `ctrl_fn`)
    toChecker := by have := h.toChecker; have := h.toPhase; grind
    no_lost := by simpa only [move g.1] using h.no_lost }

theorem inv_cCtrl_no (h : Invariant s) (g : 0 < s.k2 ∧ s.ctrl = 1) :
    Invariant { s with k2 := s.k2 - 1, kd := s.kd + 1 } :=
  { h with
    toChecker := by have := h.toChecker; grind
    no_lost := fun p f => absurd ((h.ctrl_fn p).2.2 f) (by omega) }

theorem inv_cW_ok (h : Invariant s) (g : 0 < s.k3 ∧ s.aW + s.bW = 0) :
    Invariant { s with k3 := s.k3 - 1, k4 := s.k4 + 1 } :=
  { h with
    toChecker := by have := h.toChecker; grind
    no_lost := by simpa only [move g.1] using h.no_lost }

theorem inv_cW_no (h : Invariant s) (g : 0 < s.k3 ∧ 0 < s.aW + s.bW) :
    Invariant { s with k3 := s.k3 - 1, kd := s.kd + 1 } :=
  { h with
    toChecker := by have := h.toChecker; grind
    no_lost := fun _ _ w => absurd w (Nat.ne_of_gt g.2) }

theorem inv_cT_ok (h : Invariant s) (g : 0 < s.k4 ∧ s.aT + s.bT = 0) :
    Invariant { s with k4 := s.k4 - 1, k5 := s.k5 + 1 } :=
  { h with
    toChecker := by have := h.toChecker; grind
    no_lost := by simpa only [move g.1] using h.no_lost }

theorem inv_cT_no (h : Invariant s) (g : 0 < s.k4 ∧ 0 < s.aT + s.bT) :
    Invariant { s with k4 := s.k4 - 1, kd := s.kd + 1 } :=
  { h with
    toChecker := by have := h.toChecker; grind
    no_lost := fun _ _ _ t => absurd t (Nat.ne_of_gt g.2) }

theorem inv_cM_ok (h : Invariant s) (g : 0 < s.k5 ∧ s.aM + s.bM = 0) :
    Invariant { s with k5 := s.k5 - 1, k6 := s.k6 + 1 } :=
  { h with
    toChecker := by have := h.toChecker; grind
    no_lost := by simpa only [move g.1] using h.no_lost }

theorem inv_cM_no (h : Invariant s) (g : 0 < s.k5 ∧ 0 < s.aM + s.bM) :
    Invariant { s with k5 := s.k5 - 1, kd := s.kd + 1 } :=
  { h with
    toChecker := by have := h.toChecker; grind
    no_lost := fun _ _ _ _ m => absurd m (Nat.ne_of_gt g.2) }

theorem inv_cCas_ok (h : Invariant s) (g : 0 < s.k6 ∧ s.completed = 0) :
    Invariant { s with k6 := s.k6 - 1, k7 := s.k7 + 1, completed := 1 } :=
  have opn := h.not_completed g.2
  { h with
    toChecker := by have := h.toChecker; grind
    completed_le := Nat.le_refl 1
    close_once := by dsimp only; omega
    not_completed := fun c => nomatch c
    -- the winner sits at `k6`: all five `read_*` apply
    completed_done := fun _ _ => by have := h.toChecker; grind
    no_lost := fun _ _ _ _ _ c => nomatch c
    completed_closed := fun _ _ => .inl (by dsimp only; omega) }

theorem inv_cCas_no (h : Invariant s) (g : 0 < s.k6 ∧ s.completed = 1) :
    Invariant { s with k6 := s.k6 - 1, kd := s.kd + 1 } :=
  { h with
    toChecker := by have := h.toChecker; grind
    no_lost := fun _ _ _ _ _ c => absurd c (by dsimp only; omega) }

/-- the winner of the CAS finds the channel open (`close_once`): no second close -/
theorem inv_cClose (h : Invariant s) (g : 0 < s.k7) :
    s.closed ≠ 1 ∧ Invariant { s with k7 := s.k7 - 1, kd := s.kd + 1, closed := 1 } :=
  have once : s.k7 = 1 ∧ s.closed = 0 := by have := h.close_once; omega
  ⟨by omega,
  { h with
    toChecker := by have := h.toChecker; grind
    closed_le := Nat.le_refl 1
    close_once := by dsimp only; omega
    not_completed := fun c => absurd (h.not_completed c).1 (by omega)
    woke := fun _ _ => rfl
    completed_closed := fun _ _ => .inr rfl }⟩

theorem inv_cUnlock (h : Invariant s) (g : 0 < s.kd) : Invariant { s with kd := s.kd - 1, lk := 0 } :=
  { h with toChecker := by have := h.toChecker; grind }

theorem inv_step {s s' a} (h : Inv s) (hs : step s a = some s') : Inv s' := by
  have h := inv_iff.mp h
  refine inv_iff.mpr ?_
  match a, hs with
  | .prepBegin, hs | .prepDone, hs | .startFail, hs | .online, hs =>
    exact of_guarded hs fun g => inv_status h _ (by have := h.toPhase; grind)
  | .startBegin, hs => exact of_guarded hs (inv_startBegin h)
  | .ctrlSet, hs =>
    rcases ite_some_cases hs with ⟨g, ⟨⟩⟩ | ⟨_, hs⟩
    · exact inv_sStartFn h g 1 1 0 (.inl ⟨rfl, rfl, rfl⟩)
    · exact of_guarded hs (inv_ctrlSet_start h)
  | .ctrlUnsetNil, hs => exact of_guarded hs fun g => inv_sStartFn h g 0 3 1 (.inr ⟨rfl, rfl, rfl⟩)
  | .fnExit, hs => exact of_guarded hs (inv_fnExit h)
  | .ctrlUnset, hs => exact of_guarded hs (inv_ctrlUnset h)
  | .stopBegin, hs => exact of_guarded hs (inv_stopBegin h)
  | .sCtrl, hs => exact of_guarded hs (inv_sCtrl h)
  | .sFlag, hs => exact of_guarded hs (inv_sFlag h)
  | .sCancel, hs => exact of_guarded hs (inv_sCancel h)
  | .sWake, hs => exact of_guarded hs fun g => inv_sLate h g.1 (by decide) _ (.inl rfl) fun _ _ => g.2
  | .sTimeout, hs => exact of_guarded hs fun g => inv_sLate h g (by decide) _ (.inr rfl) fun _ => nofun
  | .sOffline, hs => exact of_guarded hs fun g => inv_sLate h g.1 (by decide) _ (.inl rfl) nofun
  | .sReport, hs => exact of_guarded hs fun g => inv_sLate h g (by decide) _ (.inl rfl) nofun
  | .inc .w, hs =>
    rcases ite_some_cases hs with ⟨_, ⟨⟩⟩ | ⟨g, ⟨⟩⟩
    · exact inv_inc_b h 1 0 0
    · exact inv_inc_a h g 1 0 0
  | .inc .t, hs =>
    rcases ite_some_cases hs with ⟨_, ⟨⟩⟩ | ⟨g, ⟨⟩⟩
    · exact inv_inc_b h 0 1 0
    · exact inv_inc_a h g 0 1 0
  | .inc .m, hs =>
    rcases ite_some_cases hs with ⟨_, ⟨⟩⟩ | ⟨g, ⟨⟩⟩
    · exact inv_inc_b h 0 0 1
    · exact inv_inc_a h g 0 0 1
  | .dec .w true, hs => exact of_guarded hs fun _ => inv_dec h 1 0 0 0 0 0
  | .dec .w false, hs => exact of_guarded hs fun _ => inv_dec h 0 1 0 0 0 0
  | .dec .t true, hs => exact of_guarded hs fun _ => inv_dec h 0 0 1 0 0 0
  | .dec .t false, hs => exact of_guarded hs fun _ => inv_dec h 0 0 0 1 0 0
  | .dec .m true, hs => exact of_guarded hs fun _ => inv_dec h 0 0 0 0 1 0
  | .dec .m false, hs => exact of_guarded hs fun _ => inv_dec h 0 0 0 0 0 1
  | .cFast true, hs => exact of_guarded hs (inv_cFast_ok h)
  | .cFast false, hs => exact of_guarded hs (inv_cFast_no h)
  | .cLock, hs => exact of_guarded hs (inv_cLock h)
  | .cFlag true, hs => exact of_guarded hs (inv_cFlag_ok h)
  | .cFlag false, hs => exact of_guarded hs (inv_cFlag_no h)
  | .cCtrl true, hs => exact of_guarded hs (inv_cCtrl_ok h)
  | .cCtrl false, hs => exact of_guarded hs (inv_cCtrl_no h)
  | .cW true, hs => exact of_guarded hs (inv_cW_ok h)
  | .cW false, hs => exact of_guarded hs (inv_cW_no h)
  | .cT true, hs => exact of_guarded hs (inv_cT_ok h)
  | .cT false, hs => exact of_guarded hs (inv_cT_no h)
  | .cM true, hs => exact of_guarded hs (inv_cM_ok h)
  | .cM false, hs => exact of_guarded hs (inv_cM_no h)
  | .cCas true, hs => exact of_guarded hs (inv_cCas_ok h)
  | .cCas false, hs => exact of_guarded hs (inv_cCas_no h)
  | .cClose, hs =>
    obtain ⟨g, hs⟩ := of_ite_some hs
    rcases ite_some_cases hs with ⟨c, _⟩ | ⟨_, ⟨⟩⟩
    · exact absurd c (inv_cClose h g).1
    · exact (inv_cClose h g).2
  | .cUnlock, hs => exact of_guarded hs (inv_cUnlock h)
  -- the rest leave the state as it is or write only the service workers' restart loop, which `Inv` does not mention
  | .fnEnter _, hs | .workEnter _ _, hs | .ctxObs _ _, hs | .gate _, hs => exact of_guarded hs fun _ => h
  | .swReturn, hs => rcases ite_some_cases hs with ⟨_, ⟨⟩⟩ | ⟨_, ⟨⟩⟩ <;> exact { h with }
  | .swTimer _, hs =>
    obtain ⟨_, hs⟩ := of_ite_some hs
    rcases ite_some_cases hs with ⟨_, ⟨⟩⟩ | ⟨_, ⟨⟩⟩ <;> exact { h with }
  | .swRerun, hs | .swExit false, hs | .swExit true, hs | .swBackoff false, hs | .swBackoff true, hs
  | .swCtxDone _, hs => exact of_guarded hs fun _ => { h with }

theorem inv_reach {s} (h : Reach s) : Inv s := by
  induction h with
  | init => exact inv_init
  | step _ hs ih => exact inv_step ih hs

theorem Reach.invariant {s} (h : Reach s) : Invariant s := inv_iff.mp (inv_reach h)

/-- rank that every check step decreases: each goroutine weighs the number of steps it has left, 10 before the fast path -/
def mu (s : St) : Nat :=
  10 * s.k0 + 9 * s.kf + 8 * s.k1 + 7 * s.k2 + 6 * s.k3 + 5 * s.k4 + 4 * s.k5 + 3 * s.k6 + 2 * s.k7 + s.kd

/-- `start()` cancels the current context before it installs a fresh one, and nothing else replaces `m.Ctx`: no step
    adds to the list of contexts that were replaced while live. -/
theorem step_frame {s s' : St} {a : Act} (hs : step s a = some s') :
    s'.oldLive = s.oldLive ∧ (a.isCheck = true → mu s' < mu s ∧ (s'.closed = 1 ∨ s'.closed = s.closed) ∧
      s'.spc = s.spc ∧ s'.fnpc = s.fnpc ∧ s'.aW = s.aW ∧ s'.bW = s.bW ∧ s'.aT = s.aT ∧ s'.bT = s.bT ∧
      s'.aM = s.aM ∧ s'.bM = s.bM) := by
  revert hs
  fun_cases step s a <;> intro hs <;> cases hs <;> first
    | exact ⟨rfl, fun h => Bool.noConfusion h⟩  -- not a check step
    | exact ⟨rfl, fun _ => ⟨by simp only [mu]; lia, .inr rfl, rfl, rfl, rfl, rfl, rfl, rfl, rfl, rfl⟩⟩
    | exact ⟨rfl, fun _ => ⟨by simp only [mu]; lia, .inl rfl, rfl, rfl, rfl, rfl, rfl, rfl, rfl, rfl⟩⟩  -- `cClose`

/-! ## contexts: no context is ever replaced while it is live -/

theorem oldLive_reach {s} (h : Reach s) : s.oldLive = [] := by
  induction h with
  | init => rfl
  | step _ hs ih => exact (step_frame hs).1.trans ih

/-- … hence every context other than the current one is cancelled -/
theorem genCancelled_of_oldLive_nil {s : St} (h : s.oldLive = []) (g : Nat) (hg : g ≠ s.gen) :
    s.genCancelled g = true := by
  simp [St.genCancelled, hg, h]

theorem genCancelled_of_ctx {s : St} (h : s.oldLive = []) (hc : s.ctx = 1) (g : Nat) : s.genCancelled g = true := by
  by_cases hg : g = s.gen
  · simp [St.genCancelled, hg, hc]
  · exact genCancelled_of_oldLive_nil h g hg

/-- the guard of `workEnter` and `ctxObs`, once the current context is cancelled -/
theorem cancelled_seen {s : St} (ho : s.oldLive = []) (hc : s.ctx = 1) {g : Nat} {c : Bool}
    (hg : g ≤ s.gen ∧ (c = true ↔ s.genCancelled g = true)) : c = true :=
  hg.2.mpr (genCancelled_of_ctx ho hc g)

theorem run_preserves {P : St → Prop} {Q : Act → Prop}
    (hP : ∀ {s a s'}, Q a → step s a = some s' → P s → P s') {s s' : St} :
    ∀ {as : List Act}, (∀ a ∈ as, Q a) → run s as = some s' → P s → P s' := by
  intro as
  induction as generalizing s with
  | nil => intro _ hr hp; cases hr; exact hp
  | cons a as ih =>
    intro hall hr hp
    obtain ⟨s1, h1, hr⟩ := run_cons.mp hr
    exact ih (fun b hb => hall b (List.mem_cons_of_mem _ hb)) hr (hP (hall a (List.mem_cons_self ..)) h1 hp)

theorem mu_run {s s' : St} : ∀ {as : List Act}, (∀ a ∈ as, a.isCheck = true) → run s as = some s' →
    as.length + mu s' ≤ mu s := by
  intro as
  induction as generalizing s with
  | nil => intro _ hr; cases hr; exact Nat.le_of_eq (Nat.zero_add _)
  | cons a as ih =>
    intro hall hr
    obtain ⟨s1, h1, hr⟩ := run_cons.mp hr
    have := ((step_frame h1).2 (hall a (List.mem_cons_self ..))).1
    have := ih (fun b hb => hall b (List.mem_cons_of_mem _ hb)) hr
    simp only [List.length_cons]; omega

/-! ## service worker restart loop -/

def Act.rerun : Act → Nat
  | .swRerun => 1
  | _ => 0

/-- while the stop flag is set (no restart of the module), a step keeps it set and does not add service workers that
    may still re-run their function; a re-run consumes one of them. -/
theorem rerun_step {s s' : St} {a : Act} (hs : step s a = some s') (hf : s.flag = 1) (ha : a ≠ .startBegin) :
    s'.flag = 1 ∧ s'.swTop0 + a.rerun ≤ s.swTop0 := by
  revert hs
  fun_cases step s a <;> intro hs <;> cases hs <;> first
    | exact ⟨hf, Nat.le_refl _⟩   -- neither the flag nor `swTop0` is written
    | exact ⟨rfl, Nat.le_refl _⟩  -- `sFlag`
    | exact ⟨hf, Nat.sub_le _ _⟩  -- `swExit false`, `swBackoff false`
    | exact ⟨hf, Nat.le_of_eq (Nat.sub_add_cancel ‹0 < s.swTop0›)⟩  -- `swRerun`
    | contradiction               -- `startBegin`; `swReturn`, `swTimer` having read the flag clear

/-! ## several modules -/

theorem active_step {s s' : St} {a : Act} (hs : step s a = some s') :
    s'.active + (if a = .sReport then 1 else 0) = s.active + if a = .stopBegin then 1 else 0 := by
  revert hs
  fun_cases step s a <;> intro hs <;> cases hs <;> first
    | rfl  -- `spc` is not written
    | (simp only [St.active, startCtx_startOps]; grind)

theorem nActive_set : ∀ (ms : List St) (i : Nat) (s s' : St), ms[i]? = some s →
    nActive (ms.set i s') + s.active = nActive ms + s'.active := by
  intro ms
  induction ms with
  | nil => intro i s s' h; simp at h
  | cons m ms ih =>
    intro i s s' h
    cases i with
    | zero =>
      simp only [List.getElem?_cons_zero, Option.some.injEq] at h
      subst h
      simp only [nActive, List.set_cons_zero, List.map_cons, List.sum_cons]
      omega
    | succ j =>
      have := ih j s s' (by simpa only [List.getElem?_cons_succ] using h)
      simp only [nActive, List.set_cons_succ, List.map_cons, List.sum_cons] at this ⊢
      omega

theorem nActive_zero_of (ms : List St) (i : Nat) (s : St) (hi : ms[i]? = some s) (h0 : nActive ms = 0) :
    s.active = 0 :=
  List.sum_eq_zero_iff_forall_eq_nat.mp h0 _ (List.mem_map_of_mem (List.mem_of_getElem? hi))

theorem nActive_replicate_init (n : Nat) : nActive (List.replicate n PB.StopProto.init) = 0 := by
  induction n with
  | zero => simp [nActive]
  | succ n ih => simp [nActive, List.replicate_succ, St.active, PB.StopProto.init] at ih ⊢

/-- invariant of the composed system -/
def SInv (deps : List (List Nat)) (S : Sys) : Prop :=
  S.deps = deps ∧
  (∀ s ∈ S.mods, Reach s) ∧
  (S.mode = 1 → S.execCnt = S.reportCnt + nActive S.mods) ∧
  (S.mode ≠ 1 → nActive S.mods = 0)

theorem sinv_init (n : Nat) (deps : List (List Nat)) : SInv deps (Sys.init n deps) :=
  ⟨rfl, fun _ hs => List.eq_of_mem_replicate hs ▸ Reach.init, nofun, fun _ => nActive_replicate_init n⟩

theorem sinv_step {deps : List (List Nat)} {S S' : Sys} {a : SAct} (h : SInv deps S) (hs : sstep S a = some S') :
    SInv deps S' := by
  obtain ⟨hd, hall, h1, h2⟩ := h
  cases a with
  | passBegin st =>
    obtain ⟨hm, rfl⟩ := guarded hs
    have h0 := h2 (by omega)
    exact ⟨hd, hall, fun _ => h0.symm ▸ rfl, fun _ => h0⟩
  | passEnd =>
    rcases ite_some_cases hs with ⟨hm, ⟨⟩⟩ | ⟨_, hs⟩
    · exact ⟨hd, hall, nofun, fun _ => by have := h1 hm.1; dsimp only; omega⟩
    · obtain ⟨hm, rfl⟩ := guarded hs
      exact ⟨hd, hall, nofun, fun _ => h2 (by omega)⟩
  | mod i a =>
    simp only [sstep] at hs
    split at hs
    · cases hs
    rename_i s hi
    -- the module's own step; `e`, `r`: what the manager adds to its counts of launched and reported stoppers
    have key : ∀ e r : Nat, e = (if a = .stopBegin then 1 else 0) → r = (if a = .sReport then 1 else 0) →
        (e + r ≠ 0 → S.mode = 1) →
        (step s a).map (fun s' =>
          { S with mods := S.mods.set i s', execCnt := S.execCnt + e, reportCnt := S.reportCnt + r }) = some S' →
        SInv deps S' := by
      intro e r he hr hm hs
      obtain ⟨s', hst, rfl⟩ := Option.map_eq_some_iff.mp hs
      have ha := active_step hst
      rw [← he, ← hr] at ha
      have hn := nActive_set S.mods i s s' hi
      refine ⟨hd, fun t ht => ?_, fun m => ?_, fun m => ?_⟩
      · exact (List.mem_or_eq_of_mem_set ht).elim (hall t) (· ▸ (hall s (List.mem_of_getElem? hi)).step hst)
      · have := h1 m; dsimp only at *; omega
      · have := h2 m; dsimp only at *; omega
    split at hs
    · -- `stopBegin`
      exact key 1 0 rfl rfl (fun _ => (of_ite_some hs).1.1) (of_ite_some hs).2
    · -- `startBegin`
      exact key 0 0 rfl rfl (absurd rfl) (of_ite_some hs).2
    · -- `sReport`
      exact key 0 1 rfl rfl (fun _ => (of_ite_some hs).1) (of_ite_some hs).2
    · -- any other action
      rename_i notStop _ notReport
      exact key 0 0 (if_neg notStop).symm (if_neg notReport).symm (absurd rfl) hs

theorem sinv_reach {n : Nat} {deps : List (List Nat)} {S : Sys} (h : SReach n deps S) : SInv deps S := by
  induction h with
  | init => exact sinv_init n deps
  | step _ hs ih => exact sinv_step ih hs

end PB.StopProto
