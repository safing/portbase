import PBProofs.Lemmas.Tasks
/-
Progress lemmas for the task scheduler model: the handlers are never stuck.
-/
namespace PB.Tasks

attribute [local simp] setNow setQh setSh setTask

/-- The queue handler only waits while the slot count is positive. -/
def InvWait (s : St) : Prop := s.qh = .waiting → 0 < s.wg

theorem invWait_stepAt {s s' : St} {a : Act} (hi : InvWait s) (h : stepAt s a = some s') : InvWait s' := by
  obtain ⟨t, hs⟩ := stepAt_step h
  intro hw
  cases hs with
  | qhWait =>
    by_cases h0 : s.wg = 0
    · simp [h0] at hw
    · exact Nat.pos_of_ne_zero h0
  | slotFree =>
    by_cases hc : s.wg - 1 = 0 ∧ s.qh = .waiting
    · simp [hc] at hw
    · simp [hc] at hw; exact Nat.pos_of_ne_zero fun h0 => hc ⟨h0, hw⟩
  | spawnS => exact Nat.succ_pos _
  | runQ => split at hw <;> cases hw
  | popP | popQ | popNone | spawnQ => cases hw
  | runS _ _ _ ho => cases ho <;> exact hi hw
  -- the other branches change neither the handler's state nor the count
  | _ => exact hi hw

theorem reachable_invWait {s : St} (h : Reachable s) : InvWait s := by
  induction h with
  | init => intro hq; simp [init] at hq
  | step now a _ hs ih =>
    exact invWait_stepAt (s := setNow _ now) ih (step_some hs).2

/-- The queue handler's check section (`runQ`) starts the task it holds if that carries a queue flag and is neither
    cancelled nor executing. -/
theorem held_is_started {s : St} (now : Nat) (hn : s.now ≤ now) (t : Nat) (hq : s.qh = .hold t)
    (hflag : (s.tasks t).inQ = true ∨ (s.tasks t).inP = true)
    (hc : (s.tasks t).canceled = false) (hx : (s.tasks t).executing = false) :
    ∃ s2, step s now .runQ = some s2 ∧ Starts (setNow s now) .runQ t ∧
      (s2.tasks t).starts = (s.tasks t).starts + 1 := by
  have hlt : ¬ now < s.now := by omega
  have hres : runResOf (setNow s now) t = .started := by
    rcases hflag with hf | hf <;> simp [runResOf, setNow, Task.active, hf, hc, hx]
  refine ⟨setQh (runSection (setNow s now) t (shHoldsAsap (setNow s now) t)) (.pre t), ?_,
    ⟨Or.inl ⟨rfl, by simp [setNow, hq]⟩, hres⟩, ?_⟩
  · have hq' : (setNow s now).qh = .hold t := by simp [setNow, hq]
    simp only [step, hlt, if_false, stepAt, hq', hres, if_true]
  · simp only [runSection, hres]
    simp [setQh, setTask, setNow]

/-- A slot watcher past its limit can be released, and the slot count drops by one. -/
theorem watcher_times_out {s : St} (now : Nat) (hn : s.now ≤ now) (w : Watcher) (hw : w ∈ s.watchers)
    (hwg : 0 < s.wg) (ht : w.tm + maxExecutionWait ≤ now) :
    ∃ s', step s now (.slotFree w.t true) = some s' ∧ s'.wg = s.wg - 1 := by
  have hlt : ¬ now < s.now := by omega
  -- `w` itself satisfies the search predicate of `slotFree`, so the search finds a watcher
  obtain ⟨w', hw'⟩ : ∃ w', (setNow s now).watchers.find? (fun x => x.t == w.t &&
      (released (setNow s now) x || (true && decide (x.tm + maxExecutionWait ≤ (setNow s now).now)))) = some w' :=
    Option.isSome_iff_exists.1 (List.find?_isSome.2 ⟨w, hw, by simp [setNow, ht]⟩)
  have hwg' : ¬ (setNow s now).wg = 0 := by simp [setNow]; omega
  simp only [step, hlt, if_false, stepAt, hw', hwg']
  exact ⟨_, rfl, by simp [setNow]⟩

end PB.Tasks
