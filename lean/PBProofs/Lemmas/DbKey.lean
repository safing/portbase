import PB.Model.GoStr
/- Lemmas about the string-list semantics (`PB.GoStr`) for the C02 statements about record.ParseKey: `db ++ ':' :: key` is
   cut after `db` first (`splitK_colon_append`); cutting further and joining again gives `key` back (`join_splitK`). -/
namespace PB.GoStr

theorem cut_colon_skip (db rest : Str) (h : ':' ∉ db) :
    cut [':'] (db ++ rest) = (cut [':'] rest).map fun p => (db ++ p.1, p.2) := by
  induction db with
  | nil => simp
  | cons c db ih =>
    have hc : (':' == c) = false := by simp [Ne.symm (fun hh : c = ':' => h (by simp [hh]))]
    have hdb : ':' ∉ db := fun hh => h (by simp [hh])
    simp [cut, List.isPrefixOf, hc, ih hdb, Function.comp_def]

theorem cut_colon_append (db key : Str) (h : ':' ∉ db) : cut [':'] (db ++ ':' :: key) = some (db, key) := by
  simp [cut_colon_skip db _ h, cut, List.isPrefixOf]

theorem cut_colon_none (k : Str) (h : ':' ∉ k) : cut [':'] k = none := by
  simpa [cut] using cut_colon_skip k [] h

theorem splitK_ne_nil (sep : Str) (k : Nat) (s : Str) : splitK sep k s ≠ [] := by
  cases k with
  | zero => simp [splitK]
  | succ k =>
    unfold splitK
    split <;> simp

theorem join_cons (a : Str) (l : List Str) (sep : Str) (h : l ≠ []) : join (a :: l) sep = a ++ sep ++ join l sep := by
  cases l with
  | nil => exact absurd rfl h
  | cons b rest => simp [join]

theorem cut_spec (sep s a b : Str) (h : cut sep s = some (a, b)) : s = a ++ sep ++ b := by
  induction s generalizing a with
  | nil => simp [cut] at h
  | cons c cs ih =>
    unfold cut at h
    by_cases hp : sep.isPrefixOf (c :: cs) = true
    · simp [hp] at h
      obtain ⟨ha, hb⟩ := h
      subst ha; subst hb
      have := List.prefix_iff_eq_append.mp (List.isPrefixOf_iff_prefix.mp hp)
      simpa using this.symm
    · simp [hp] at h
      obtain ⟨a1, h1, h2⟩ := h
      subst h2
      have := ih a1 h1
      simp [this]

/-- Splitting and joining with the same separator gives the string back, however many cuts are made. -/
theorem join_splitK (sep : Str) (k : Nat) (s : Str) : join (splitK sep k s) sep = s := by
  induction k generalizing s with
  | zero => simp [splitK, join]
  | succ k ih =>
    unfold splitK
    cases hc : cut sep s with
    | none => simp [join]
    | some p =>
      obtain ⟨a, b⟩ := p
      simp only []
      rw [join_cons _ _ _ (splitK_ne_nil sep k b), ih b]
      exact (cut_spec sep s a b hc).symm

theorem splitK_colon_append (k : Nat) (db key : Str) (h : ':' ∉ db) :
    splitK [':'] (k + 1) (db ++ ':' :: key) = db :: splitK [':'] k key := by
  simp [splitK, cut_colon_append db key h]

theorem splitK_colon_none (k : Nat) (s : Str) (h : ':' ∉ s) : splitK [':'] k s = [s] := by
  cases k <;> simp [splitK, cut_colon_none s h]

theorem length_colon_append (db key : Str) : (db ++ ':' :: key).length = (db.length + key.length) + 1 := by
  simp; omega

end PB.GoStr
