import PB.Model.Modules
import PB.Spec.Modules
import PBProofs.Lemmas.ModulesClosure
/-!
Lemmas for C01 (module lifecycle). `step` is taken apart once (`Quiet` for the events other than `beg`/`fin`);
`Inv1` (state), `Inv2` (state against history) and `Inv3` (acyclic graphs, through the fix points) hold along every run.
-/
namespace PB.Modules
open PB.Gen.Lifecycle PB.Modules.Spec

-- so that `simp` leaves statuses as numerals, for `omega`
attribute [local simp] statusDead statusPreparing statusOffline statusStopping statusStarting statusOnline
  readyWaiting readyReady readyNothingToDo prepOwnSkip prepDepWaits startOwnBlocked startOwnSkip startDepWaits
  stopOwnSkip stopRevWaits prepLaunch prepDone startLaunch startDone startFailed stopLaunch stopDone

/-- `Runs s0 tr s`: the history `tr` leads from `s0` to `s` (snoc-style, for induction on the last step). -/
inductive Runs (s0 : St) : List Ev → St → Prop
  | nil : Runs s0 [] s0
  | snoc {tr : List Ev} {s : St} {e : Ev} {s' : St} : Runs s0 tr s → step s e = some s' → Runs s0 (tr ++ [e]) s'

theorem Runs.cons {s0 s1 s : St} {e : Ev} {tr : List Ev} (h0 : step s0 e = some s1) (h : Runs s1 tr s) :
    Runs s0 (e :: tr) s := by
  induction h with
  | nil => exact Runs.snoc (tr := []) Runs.nil h0
  | snoc _ hs ih => exact Runs.snoc (tr := e :: _) ih hs

theorem runs_of_run {s0 s : St} {tr : List Ev} (h : run s0 tr = some s) : Runs s0 tr s := by
  induction tr generalizing s0 with
  | nil => simp [run] at h; subst h; exact Runs.nil
  | cons e es ih =>
    simp only [run] at h
    split at h
    · rename_i s1 h1; exact Runs.cons h1 (ih h)
    · cases h

theorem stepBeg_some {s s' : St} {k : Kind} {m : Nat} (h : stepBeg s k m = some s') :
    (m < s.n ∧ passKind s.pc = some k ∧ ready s k m = readyReady) ∧
    s' = { s with status := set s.status m (launchStatus k), execCnt := s.execCnt + 1, running := m :: s.running } := by
  simpa [stepBeg, eq_comm] using h

theorem stepFin_some {s s' : St} {k : Kind} {m : Nat} {ok : Bool} (h : stepFin s k m ok = some s') :
    (passKind s.pc = some k ∧ m ∈ s.running ∧ s.status m = launchStatus k) ∧
    s' = { s with status := set s.status m (finStatus (s.status m) k ok), reportCnt := s.reportCnt + 1,
                  running := s.running.erase m, failed := s.failed || !ok } := by
  simpa [stepFin, eq_comm] using h

theorem stepRet_some {s s' : St} {a : Api} {ok : Bool} (h : stepRet s a ok = some s') :
    s.pc = .done a ok ∧ s' = { s with pc := .idle } := by
  simpa [stepRet, eq_comm] using h

theorem stepEnable_some {s s' : St} {m : Nat} {v : Bool} (h : stepEnable s m v = some s') :
    (s.pc = .idle ∧ m < s.n) ∧ s' = { s with enabled := set s.enabled m v } := by
  simpa [stepEnable, eq_comm] using h

theorem stepSetGlob_some {s s' : St} {g : Glob} {i : Nat} (h : stepSetGlob s g i = some s') :
    s.pc = .idle ∧ ∃ f, s' = { s with gfn := f } := by
  have hpc : s.pc = .idle := Classical.byContradiction fun hne => by simp [stepSetGlob, hne] at h
  refine ⟨hpc, ?_⟩
  cases g <;> simp only [stepSetGlob, if_neg (fun hne : s.pc ≠ .idle => hne hpc)] at h
  · split at h <;> cases h <;> exact ⟨_, rfl⟩
  · split at h <;> cases h <;> exact ⟨_, rfl⟩
  · cases h; exact ⟨_, rfl⟩

theorem stepGlob_some {s s' : St} {g : Glob} {i : Nat} {ok : Bool} (h : stepGlob s g i ok = some s') :
    (s.pc = .glob g ∧ s.gfn g = some i) ∧ s' = globNext s g ok := by
  simpa [stepGlob, eq_comm] using h

theorem stepCall_some {s s' : St} {a : Api} (h : stepCall s a = some s') : s.pc = .idle ∧
    match a with
    | .start => s.locked = true ∧ s' = { s with pc := .done .start false } ∨
        s.locked = false ∧ (s' = { s with locked := true, pc := .done .start false } ∨
          s' = { s with locked := true, pc := .glob .prep } ∨ s' = enterPass { s with locked := true } .prep)
    | .manage => s.mgmt = false ∧ s' = { s with pc := .done .manage true } ∨
        s.mgmt = true ∧ (s.locked = false ∧ s' = enterPass { s with asDep := fun _ => false } .stopM ∨
          s.locked = true ∧ s' = enterPass (buildEnabledTree s) .stopM)
    | .shutdown => s.shutdown = true ∧ s' = { s with pc := .done .shutdown false } ∨
        s.shutdown = false ∧ (s' = { s with shutdown := true, pc := .glob .shutdown } ∨
          s' = enterPass { s with shutdown := true } .stopX) := by
  have hpc : s.pc = .idle := Classical.byContradiction fun hne => by cases a <;> simp [stepCall, hne] at h
  refine ⟨hpc, ?_⟩
  cases a <;> simp only [stepCall, hpc, ne_eq, not_true_eq_false, if_false] at h ⊢ <;>
    (repeat' split at h) <;> cases h <;> simp_all

theorem stepPassEnd_some {s s' : St} (h : stepPassEnd s = some s') : s.execCnt ≤ s.reportCnt ∧
    (s.pc = .prep ∧ (s' = { s with pc := .done .start false } ∨ s' = { s with pc := .glob .cmd } ∨
        s' = enterPass (buildEnabledTree s) .startS) ∨
     s.pc = .startS ∧ (s' = { s with pc := .done .start false } ∨
        noneReady s .start = true ∧ anyWaiting s .start = false ∧ s' = { s with pc := .done .start true }) ∨
     s.pc = .stopM ∧ noneReady s .stop = true ∧ (∃ b, s' = { enterPass s .startM with stopErr := b }) ∨
     s.pc = .startM ∧ (s' = { s with pc := .done .manage false } ∨
        noneReady s .start = true ∧ anyWaiting s .start = false ∧ s' = { s with pc := .done .manage (!s.stopErr) }) ∨
     s.pc = .stopX ∧ noneReady s .stop = true ∧ ∃ ok, s' = { s with pc := .done .shutdown ok }) := by
  have hc : s.execCnt ≤ s.reportCnt := Nat.le_of_not_lt fun hlt => by simp [stepPassEnd, hlt] at h
  refine ⟨hc, ?_⟩
  cases hpc : s.pc <;> simp only [stepPassEnd, hpc, Nat.not_lt.mpr hc, if_false] at h
  all_goals simp only [reduceCtorEq, false_and, false_or, or_false, true_and]
  all_goals (repeat' split at h) <;> cases h <;> simp_all

theorem passKind_glob (g : Glob) : passKind (.glob g) = none := rfl

theorem passKind_prep {pc : Pc} {k : Kind} (h : passKind pc = some k) : pc = .prep ↔ k = .prep := by
  cases pc <;> cases k <;> simp [passKind] at h ⊢

theorem passKind_start {pc : Pc} {k : Kind} (h : passKind pc = some k) (hp : pc = .startS ∨ pc = .startM) :
    k = .start := by
  rcases hp with rfl | rfl <;> exact (Option.some.inj h).symm

theorem set_apply {α : Type} (f : Nat → α) (i j : Nat) (v : α) : set f i v j = if j = i then v else f j := rfl

theorem launchStatus_ne_zero (k : Kind) : launchStatus k ≠ 0 := by cases k <;> simp [launchStatus]

theorem fin_cases (k : Kind) (ok : Bool) :
    k = .prep ∧ launchStatus k = statusPreparing ∧ (ok = true ∧ finStatus (launchStatus k) k ok = statusOffline ∨
      ok = false ∧ finStatus (launchStatus k) k ok = statusPreparing) ∨
    k = .start ∧ launchStatus k = statusStarting ∧ (ok = true ∧ finStatus (launchStatus k) k ok = statusOnline ∨
      ok = false ∧ finStatus (launchStatus k) k ok = statusOffline) ∨
    k = .stop ∧ launchStatus k = statusStopping ∧ finStatus (launchStatus k) k ok = statusOffline := by
  cases k <;> cases ok <;> simp [finStatus, launchStatus]

def wanted (s : St) (m : Nat) : Bool := !s.mgmt || s.enabled m || s.asDep m

/-- The condition under which `readyToStop` leaves an online module alone. -/
def keep (s : St) (m : Nat) : Bool := s.mgmt && !s.shutdown && (s.enabled m || s.asDep m)

theorem readyToPrep_ready {s : St} {m : Nat} :
    readyToPrep s m = readyReady ↔ s.status m = statusDead ∧ ∀ d ∈ s.deps m, statusOffline ≤ s.status d := by
  unfold readyToPrep; (repeat' split) <;> simp_all [Nat.lt_iff_add_one_le]

theorem readyToPrep_waiting {s : St} {m : Nat} :
    readyToPrep s m = readyWaiting ↔ s.status m = statusDead ∧ ∃ d ∈ s.deps m, s.status d < statusOffline := by
  unfold readyToPrep; (repeat' split) <;> simp_all [Nat.lt_iff_add_one_le]

theorem readyToStart_cases (s : St) (m : Nat) :
    wanted s m = false ∧ readyToStart s m = readyNothingToDo ∨
    wanted s m = true ∧ (
      s.status m < statusOffline ∧ readyToStart s m = readyWaiting ∨
      statusOffline < s.status m ∧ readyToStart s m = readyNothingToDo ∨
      s.status m = statusOffline ∧ (
        (∃ d ∈ s.deps m, s.status d < statusOnline) ∧ readyToStart s m = readyWaiting ∨
        (∀ d ∈ s.deps m, statusOnline ≤ s.status d) ∧ readyToStart s m = readyReady)) := by
  unfold readyToStart
  have hw : (s.mgmt && !s.enabled m && !s.asDep m) = !wanted s m := by
    simp [wanted]
  rw [hw]
  cases wanted s m
  · exact .inl ⟨rfl, rfl⟩
  refine .inr ⟨rfl, ?_⟩
  by_cases h0 : s.status m < 2
  · -- never prepared
    exact .inl ⟨h0, by simp [h0]⟩
  by_cases h1 : s.status m = 2
  · refine .inr (.inr ⟨h1, ?_⟩)
    by_cases h2 : ∃ d ∈ s.deps m, s.status d < 5
    · -- a dependency is not online yet
      exact .inl ⟨h2, by simpa [h1] using h2⟩
    · exact .inr ⟨fun d hd => Nat.le_of_not_lt fun hlt => h2 ⟨d, hd, hlt⟩, by simpa [h1] using h2⟩
  · -- already starting, online or stopping
    exact .inr (.inl ⟨by simp; omega, by simp [h0, h1]⟩)

theorem readyToStart_ready {s : St} {m : Nat} :
    readyToStart s m = readyReady ↔
      wanted s m = true ∧ s.status m = statusOffline ∧ ∀ d ∈ s.deps m, statusOnline ≤ s.status d := by
  have := readyToStart_cases s m
  grind

theorem readyToStart_waiting {s : St} {m : Nat} :
    readyToStart s m = readyWaiting ↔
      wanted s m = true ∧ (s.status m < statusOffline ∨ (s.status m = statusOffline ∧ ∃ d ∈ s.deps m, s.status d < statusOnline)) := by
  have := readyToStart_cases s m
  grind

theorem mem_revDeps {s : St} {d r : Nat} : r ∈ revDeps s d ↔ r < s.n ∧ d ∈ s.deps r := by
  simp [revDeps]

theorem readyToStop_cases (s : St) (m : Nat) :
    keep s m = true ∧ readyToStop s m = readyNothingToDo ∨
    keep s m = false ∧ (
      s.status m ≠ statusOnline ∧ readyToStop s m = readyNothingToDo ∨
      s.status m = statusOnline ∧ (
        (∃ r, r < s.n ∧ m ∈ s.deps r ∧ statusOffline < s.status r) ∧ readyToStop s m = readyWaiting ∨
        (∀ r, r < s.n → m ∈ s.deps r → s.status r ≤ statusOffline) ∧ readyToStop s m = readyReady)) := by
  unfold readyToStop
  rw [show (s.mgmt && !s.shutdown && (s.enabled m || s.asDep m)) = keep s m from rfl]
  cases keep s m with
  | true => exact .inl ⟨rfl, rfl⟩
  | false =>
    refine .inr ⟨rfl, ?_⟩
    by_cases h1 : s.status m ≠ 5
    · -- not online
      exact .inl ⟨h1, by simp [h1]⟩
    have h1 : s.status m = 5 := Classical.not_not.mp h1
    refine .inr ⟨h1, ?_⟩
    by_cases h2 : ∃ r, r < s.n ∧ m ∈ s.deps r ∧ 2 < s.status r
    · -- a dependent is still up
      exact .inl ⟨h2, by simpa [h1, mem_revDeps, and_assoc] using h2⟩
    · exact .inr ⟨fun r hr hd => Nat.le_of_not_lt fun hlt => h2 ⟨r, hr, hd, hlt⟩,
        by simpa [h1, mem_revDeps, and_assoc] using h2⟩

theorem readyToStop_ready {s : St} {m : Nat} :
    readyToStop s m = readyReady ↔
      keep s m = false ∧ s.status m = statusOnline ∧ ∀ r, r < s.n → m ∈ s.deps r → s.status r ≤ statusOffline := by
  have := readyToStop_cases s m
  grind

theorem ready_status {s : St} {k : Kind} {m : Nat} (h : ready s k m = readyReady) :
    k = .prep ∧ s.status m = statusDead ∧ launchStatus k = statusPreparing ∨
    k = .start ∧ s.status m = statusOffline ∧ launchStatus k = statusStarting ∨
    k = .stop ∧ s.status m = statusOnline ∧ launchStatus k = statusStopping := by
  cases k
  · exact .inl ⟨rfl, (readyToPrep_ready.mp h).1, rfl⟩
  · exact .inr (.inl ⟨rfl, (readyToStart_ready.mp h).2.1, rfl⟩)
  · exact .inr (.inr ⟨rfl, (readyToStop_ready.mp h).2.1, rfl⟩)

/-- Nothing is ready to be launched while every module is Dead, outside the prep pass. -/
theorem not_ready_of_dead {s : St} {k : Kind} {m : Nat} (hd : ∀ x, s.status x = statusDead)
    (hr : ready s k m = readyReady) : k = .prep := by
  have := ready_status hr
  simp [hd m] at this
  exact this.1

/-- The steps that neither launch a routine nor receive a report. -/
def quiet : Ev → Bool
  | .beg .. | .fin .. => false
  | _ => true

/-- Start has not been called, or is about to run the global prep function. -/
def unstarted (s : St) : Prop := s.locked = false ∨ s.pc = .glob .prep

/-- The positions inside a Start call / a Shutdown call. -/
def inStart (pc : Pc) : Prop :=
  pc = .prep ∨ pc = .startS ∨ pc = .glob .prep ∨ pc = .glob .cmd ∨ ∃ ok, pc = .done .start ok

def inShutdown (pc : Pc) : Prop := pc = .stopX ∨ pc = .glob .shutdown ∨ ∃ ok, pc = .done .shutdown ok

/-- What a quiet step does: statuses and routines in flight stay, nothing is in flight, and `to_*` say how a
    position can be entered. -/
structure Quiet (s : St) (e : Ev) (s' : St) : Prop where
  n : s'.n = s.n
  deps : s'.deps = s.deps
  mgmt : s'.mgmt = s.mgmt
  status : s'.status = s.status
  running : s'.running = s.running
  settled : passKind s.pc = none ∨ s.execCnt ≤ s.reportCnt
  cnt : s.execCnt = s.reportCnt → s'.execCnt = s'.reportCnt
  enabled : s'.enabled = enabledUpd s.enabled e
  en_lt : ∀ m, e = .enable m → m < s.n
  lock : s'.locked = true ↔ s.locked = true ∨ e = .call .start
  sd : s'.shutdown = true ↔ s.shutdown = true ∨ e = .call .shutdown
  to_prep : s'.pc = .prep ∨ s'.pc = .glob .prep → unstarted s
  to_cmd : s'.pc = .glob .cmd → s.pc = .prep
  to_start : inStart s'.pc → e = .call .start ∨ inStart s.pc
  to_shutdown : inShutdown s'.pc → e = .call .shutdown ∨ inShutdown s.pc
  to_stop : s'.pc = .stopX ∨ s'.pc = .glob .shutdown → s.shutdown = false ∨ s.pc = .glob .shutdown
  of_ret : ∀ a ok, e = .ret a ok → s.pc = .done a ok ∧ s'.pc = .idle
  of_glob_fail : ∀ i, e = .glob .prep i false → s.pc = .glob .prep ∧ s'.pc = .done .start false

attribute [local simp] enterPass buildEnabledTree globNext passKind unstarted inStart inShutdown enabledUpd in
theorem step_quiet {s s' : St} {e : Ev} (h : step s e = some s') (he : quiet e = true) : Quiet s e s' := by
  cases e with
  | beg k m => cases he
  | fin k m ok => cases he
  | call a =>
    obtain ⟨hpc, h⟩ := stepCall_some h
    cases a
    · rcases h with ⟨hl, rfl⟩ | ⟨hl, rfl | rfl | rfl⟩ <;> constructor <;> simp [hpc, hl]
    · rcases h with ⟨hl, rfl⟩ | ⟨hl, ⟨hl', rfl⟩ | ⟨hl', rfl⟩⟩ <;> constructor <;> simp [hpc, hl]
    · rcases h with ⟨hl, rfl⟩ | ⟨hl, rfl | rfl⟩ <;> constructor <;> simp [hpc, hl]
  | ret a ok =>
    obtain ⟨hpc, rfl⟩ := stepRet_some h
    constructor <;> simp [hpc]
  | passEnd =>
    obtain ⟨hc, h⟩ := stepPassEnd_some h
    rcases h with ⟨hpc, rfl | rfl | rfl⟩ | ⟨hpc, rfl | ⟨_, _, rfl⟩⟩ | ⟨hpc, _, b, rfl⟩ |
        ⟨hpc, rfl | ⟨_, _, rfl⟩⟩ | ⟨hpc, _, b, rfl⟩ <;>
      constructor <;> simp [hpc, hc]
  | enable m =>
    obtain ⟨⟨hpc, hm⟩, rfl⟩ := stepEnable_some h
    constructor <;> simp [hpc, hm]
  | disable m =>
    obtain ⟨⟨hpc, _⟩, rfl⟩ := stepEnable_some h
    constructor <;> simp [hpc]
  | setGlob g i =>
    obtain ⟨hpc, f, rfl⟩ := stepSetGlob_some h
    constructor <;> simp [hpc]
  | glob g i ok =>
    obtain ⟨⟨hpc, _⟩, rfl⟩ := stepGlob_some h
    cases g <;> cases ok <;> constructor <;> simp [hpc]

theorem Quiet.unstarted {s s' : St} {e : Ev} (hq : Quiet s e s') (h : unstarted s') : unstarted s := by
  rcases h with h | h
  · exact .inl (by have := hq.lock; grind)
  · exact hq.to_prep (.inr h)

structure Inv1 (n : Nat) (deps : Nat → List Nat) (mgmt : Bool) (s : St) : Prop where
  hn : s.n = n
  hdeps : s.deps = deps
  hmgmt : s.mgmt = mgmt
  run_status : ∀ m ∈ s.running, ∃ k, passKind s.pc = some k ∧ s.status m = launchStatus k
  busy_run : ∀ m, s.status m = statusStarting ∨ s.status m = statusStopping → m ∈ s.running
  nodup : s.running.Nodup
  cnt : s.execCnt = s.reportCnt + s.running.length
  idle_run : passKind s.pc = none → s.running = []
  prep_low : s.pc = .prep → ∀ m, s.status m ≤ statusOffline
  fresh : unstarted s → ∀ m, s.status m = statusDead
  sd_set : inShutdown s.pc → s.shutdown = true
  pass_locked : inStart s.pc → s.locked = true
  range : ∀ m, s.status m ≤ statusOnline
  out_dead : ∀ m, s.n ≤ m → s.status m = statusDead
  deps_on : ∀ m, m < s.n → statusOffline < s.status m → ∀ d ∈ s.deps m, s.status d = statusOnline

theorem inv1_init (n : Nat) (deps : Nat → List Nat) (mgmt : Bool) : Inv1 n deps mgmt (init n deps mgmt) := by
  constructor <;> simp [init, passKind, unstarted, inStart, inShutdown]

theorem Quiet.idle {n deps mgmt} {s s' : St} {e : Ev} (hq : Quiet s e s') (hi : Inv1 n deps mgmt s) :
    s.running = [] ∧ s.execCnt = s.reportCnt := by
  have := hi.cnt
  rcases hq.settled with h | h
  · simp_all [hi.idle_run h]
  · exact ⟨List.eq_nil_of_length_eq_zero (by omega), by omega⟩

theorem ready_not_running {n deps mgmt} {s : St} {k : Kind} {m : Nat} (hi : Inv1 n deps mgmt s)
    (hk : passKind s.pc = some k) (hr : ready s k m = readyReady) : m ∉ s.running := by
  intro hmem
  obtain ⟨k', hk', hst⟩ := hi.run_status m hmem
  cases hk.symm.trans hk'
  -- a ready module is Dead / Offline / Online, a running one has the launch status
  have := ready_status hr
  simp at this
  omega

theorem ready_started {n deps mgmt} {s : St} {k : Kind} {m : Nat} (hi : Inv1 n deps mgmt s)
    (hk : passKind s.pc = some k) (hr : ready s k m = readyReady) : ¬ unstarted s := by
  rintro (hp | hp)
  · -- before Start every module is Dead: only a prep could be launched, and the prep pass runs locked
    cases not_ready_of_dead (hi.fresh (.inl hp)) hr
    have := hi.pass_locked (.inl ((passKind_prep hk).mpr rfl))
    simp [this] at hp
  · simp [hp, passKind] at hk

theorem inv1_beg {n deps mgmt} {s s' : St} {k : Kind} {m : Nat} (hi : Inv1 n deps mgmt s)
    (h : stepBeg s k m = some s') : Inv1 n deps mgmt s' := by
  obtain ⟨⟨hm, hk, hr⟩, rfl⟩ := stepBeg_some h
  have hold := ready_status hr
  exact { hi with
    run_status := by
      intro x hx
      by_cases hxm : x = m
      · exact ⟨k, hk, by simp [hxm, set_apply]⟩
      · simpa [set_apply, hxm] using hi.run_status x (by simpa [hxm] using hx)
    busy_run := by
      intro x hx
      by_cases hxm : x = m
      · simp [hxm]
      · exact List.mem_cons_of_mem _ (hi.busy_run x (by simpa [set_apply, hxm] using hx))
    nodup := by exact List.nodup_cons.mpr ⟨ready_not_running hi hk hr, hi.nodup⟩
    cnt := by simp; have := hi.cnt; omega
    idle_run := by intro hp; simp [hk] at hp
    prep_low := by
      intro hp x
      have := hi.prep_low hp x
      cases (passKind_prep hk).mp hp
      simp only [set_apply]; split
      · simp [launchStatus]
      · exact this
    fresh := fun hp => (ready_started hi hk hr hp).elim
    range := by
      intro x
      have := hi.range x
      simp only [set_apply]; split
      · cases k <;> simp [launchStatus]
      · exact this
    out_dead := by
      intro x hx
      simp [set_apply, show x ≠ m by have : s.n ≤ x := hx; omega, hi.out_dead x hx]
    deps_on := by
      intro x hx hgt d hd
      have hdx := fun h => hi.deps_on x hx h d hd
      have hrd := hi.range d
      simp only [set_apply, launchStatus] at hgt hdx hold ⊢
      -- the readiness of `m`: started with its dependencies Online, stopped with no dependent above Offline
      cases k
      · grind
      · have := (readyToStart_ready.mp hr).2.2; grind
      · have := (readyToStop_ready.mp hr).2.2; grind
  }

theorem inv1_fin {n deps mgmt} {s s' : St} {k : Kind} {m : Nat} {ok : Bool} (hi : Inv1 n deps mgmt s)
    (h : stepFin s k m ok = some s') : Inv1 n deps mgmt s' := by
  obtain ⟨⟨hk, hmem, hst⟩, rfl⟩ := stepFin_some h
  have hfs := fin_cases k ok
  have herase : ∀ x, x ∈ s.running.erase m ↔ x ≠ m ∧ x ∈ s.running := fun x => hi.nodup.mem_erase_iff
  rw [hst]
  generalize finStatus (launchStatus k) k ok = v at hfs
  generalize launchStatus k = c at hst hfs
  -- at `m` the status goes from the launch status `c` to `v`; `hfs` lists the pairs
  exact { hi with
    run_status := by
      intro x hx
      obtain ⟨hxm, hx⟩ := (herase x).mp hx
      simpa [set_apply, hxm] using hi.run_status x hx
    busy_run := by
      intro x hx
      have := hi.busy_run x
      simp only [set_apply] at hx
      grind
    nodup := hi.nodup.erase m
    cnt := by
      have := hi.cnt
      have := List.length_pos_of_mem hmem
      simp [List.length_erase_of_mem hmem]; omega
    idle_run := by intro hp; simp [hk] at hp
    prep_low := by
      intro hp x
      have := hi.prep_low hp x
      cases (passKind_prep hk).mp hp
      simp only [set_apply]; grind
    fresh := by intro hp; have := hi.fresh hp m; grind
    range := by intro x; have := hi.range x; simp only [set_apply]; grind
    out_dead := by intro x hx; have := hi.out_dead x hx; simp only [set_apply]; grind
    deps_on := by
      intro x hx hgt d hd
      have hdx := fun h => hi.deps_on x hx h d hd
      simp only [set_apply] at hgt ⊢
      grind
  }

theorem inv1_quiet {n deps mgmt} {s s' : St} {e : Ev} (hi : Inv1 n deps mgmt s) (hq : Quiet s e s') :
    Inv1 n deps mgmt s' := by
  obtain ⟨hrun, hcnt⟩ := hq.idle hi
  have hbusy := hi.busy_run
  exact {
    hn := by rw [hq.n]; exact hi.hn
    hdeps := by rw [hq.deps]; exact hi.hdeps
    hmgmt := by rw [hq.mgmt]; exact hi.hmgmt
    run_status := by simp [hq.running, hrun]
    busy_run := by simpa [hq.running, hq.status] using hbusy
    nodup := by simp [hq.running, hrun]
    cnt := by simp [hq.running, hrun, hq.cnt hcnt]
    idle_run := by simp [hq.running, hrun]
    prep_low := by
      intro hp x
      rw [hq.status, hi.fresh (hq.to_prep (.inl hp)) x]; simp
    fresh := by rw [hq.status]; exact fun hp => hi.fresh (hq.unstarted hp)
    sd_set := by
      intro hp
      rcases hq.to_shutdown hp with h | h
      · exact hq.sd.mpr (.inr h)
      · exact hq.sd.mpr (.inl (hi.sd_set h))
    pass_locked := by
      intro hp
      rcases hq.to_start hp with h | h
      · exact hq.lock.mpr (.inr h)
      · exact hq.lock.mpr (.inl (hi.pass_locked h))
    range := by rw [hq.status]; exact hi.range
    out_dead := by rw [hq.status, hq.n]; exact hi.out_dead
    deps_on := by rw [hq.status, hq.n, hq.deps]; exact hi.deps_on
  }

theorem inv1_of_runs {n deps mgmt} {tr : List Ev} {s : St} (h : Runs (init n deps mgmt) tr s) :
    Inv1 n deps mgmt s := by
  induction h with
  | nil => exact inv1_init n deps mgmt
  | @snoc _ _ e _ _ hs ih =>
    cases e with
    | beg k m => exact inv1_beg ih hs
    | fin k m ok => exact inv1_fin ih hs
    | _ => exact inv1_quiet ih (step_quiet hs rfl)

theorem Inv1.at_rest {n deps mgmt} {s : St} (h1 : Inv1 n deps mgmt s) (hrun : s.running = []) (m : Nat) :
    s.status m ≤ statusOffline ∨ s.status m = statusOnline := by
  have := h1.range m
  have := h1.busy_run m
  simp [hrun] at *
  omega

theorem Inv1.online_lt {n deps mgmt} {s : St} (h1 : Inv1 n deps mgmt s) {m : Nat} (hon : s.status m = statusOnline) :
    m < s.n :=
  Nat.lt_of_not_le fun hge => by simp [h1.out_dead m hge] at hon

theorem lifeOf_snoc (tr : List Ev) (e : Ev) : lifeOf (tr ++ [e]) = lifeUpd (lifeOf tr) e := by
  simp [lifeOf, List.foldl_append]

theorem enabledOf_snoc (tr : List Ev) (e : Ev) : enabledOf (tr ++ [e]) = enabledUpd (enabledOf tr) e := by
  simp [enabledOf, List.foldl_append]

theorem prepBegun_snoc (tr : List Ev) (e : Ev) (m : Nat) :
    prepBegun (tr ++ [e]) m = prepBegun tr m + (if e = .beg .prep m then 1 else 0) := by
  simp [prepBegun, List.countP_append, List.countP_cons]

theorem prepEnded_snoc (tr : List Ev) (e : Ev) (m : Nat) :
    prepEnded (tr ++ [e]) m = prepEnded tr m + (if e = .fin .prep m true ∨ e = .fin .prep m false then 1 else 0) := by
  simp [prepEnded, List.countP_append, List.countP_cons]

theorem startsOk_snoc (tr : List Ev) (e : Ev) (m : Nat) :
    startsOk (tr ++ [e]) m = startsOk tr m + (if e = .fin .start m true then 1 else 0) := by
  simp [startsOk, List.countP_append, List.countP_cons]

theorem stopsBegun_snoc (tr : List Ev) (e : Ev) (m : Nat) :
    stopsBegun (tr ++ [e]) m = stopsBegun tr m + (if e = .beg .stop m then 1 else 0) := by
  simp [stopsBegun, List.countP_append, List.countP_cons]

theorem begun_snoc (tr : List Ev) (e : Ev) :
    begun (tr ++ [e]) = begun tr + (match e with | .beg _ _ => 1 | _ => 0) := by
  simp only [begun, List.countP_append, List.countP_singleton]; cases e <;> rfl

theorem ended_snoc (tr : List Ev) (e : Ev) :
    ended (tr ++ [e]) = ended tr + (match e with | .fin _ _ _ => 1 | _ => 0) := by
  simp only [ended, List.countP_append, List.countP_singleton]; cases e <;> rfl

theorem prepOk_snoc {tr : List Ev} {e : Ev} {m : Nat} : prepOk (tr ++ [e]) m ↔ prepOk tr m ∨ e = .fin .prep m true := by
  simp [prepOk, eq_comm]

theorem startBegun_snoc {tr : List Ev} {e : Ev} : startBegun (tr ++ [e]) ↔ startBegun tr ∨ ∃ m, e = .beg .start m := by
  simp [startBegun, eq_comm, exists_or]

theorem quiet_snoc {tr : List Ev} {e : Ev} (he : quiet e = true) :
    lifeOf (tr ++ [e]) = lifeOf tr ∧ (∀ m, prepBegun (tr ++ [e]) m = prepBegun tr m) ∧
    (∀ m, prepEnded (tr ++ [e]) m = prepEnded tr m) ∧ (∀ m, startsOk (tr ++ [e]) m = startsOk tr m) ∧
    (∀ m, stopsBegun (tr ++ [e]) m = stopsBegun tr m) ∧ begun (tr ++ [e]) = begun tr ∧ ended (tr ++ [e]) = ended tr ∧
    (∀ m, prepOk (tr ++ [e]) m ↔ prepOk tr m) ∧ (startBegun (tr ++ [e]) ↔ startBegun tr) := by
  simp only [lifeOf_snoc, prepBegun_snoc, prepEnded_snoc, startsOk_snoc, stopsBegun_snoc, begun_snoc, ended_snoc,
    prepOk_snoc, startBegun_snoc]
  cases e <;> simp [lifeUpd, quiet] at he ⊢

theorem enabledUpd_true {f : Nat → Bool} {e : Ev} {m : Nat} (h : enabledUpd f e m = true) :
    f m = true ∨ e = .enable m := by
  cases e <;> simp only [enabledUpd, set_apply] at h <;> grind

-- `lifeCode` is the run state of `Spec.lifeOf` read off a status (`Spec.lifeCodeOf`: off an event)

def lifeCode (st : Nat) : Nat :=
  if st = statusStarting then 1 else if st = statusOnline then 2 else if st = statusStopping then 3 else 0

theorem lifeCode_launch (k : Kind) : lifeCode (launchStatus k) = match k with | .prep => 0 | .start => 1 | .stop => 3 := by
  cases k <;> simp [lifeCode, launchStatus]

theorem lifeCode_of_le {st : Nat} (h : st ≤ statusOffline) : lifeCode st = 0 := by
  have : st ≠ statusStarting ∧ st ≠ statusOnline ∧ st ≠ statusStopping := by simp at h ⊢; omega
  simp [lifeCode, this]

/-- `h`: a prep routine runs in run state 0. -/
theorem lifeUpd_beg {f : Nat → Nat} {k : Kind} {m : Nat} (h : k = .prep → f m = 0) :
    lifeUpd f (.beg k m) = set f m (lifeCode (launchStatus k)) := by
  cases k <;> funext x <;> simp [lifeUpd, set_apply, lifeCode, launchStatus]
  rintro rfl; exact h rfl

theorem lifeUpd_fin {f : Nat → Nat} {k : Kind} {m : Nat} {ok : Bool} (h : k = .prep → f m = 0) :
    lifeUpd f (.fin k m ok) = set f m (lifeCode (finStatus (launchStatus k) k ok)) := by
  cases k <;> cases ok <;> funext x <;> simp [lifeUpd, set_apply, lifeCode, launchStatus, finStatus]
  all_goals rintro rfl; exact h rfl

structure Inv2 (tr : List Ev) (s : St) : Prop where
  life : ∀ m, lifeOf tr m = lifeCode (s.status m)
  prep0 : ∀ m, prepBegun tr m = 0 ↔ s.status m = statusDead
  prep1 : ∀ m, prepBegun tr m ≤ 1
  prepok : ∀ m, statusOffline ≤ s.status m → prepOk tr m
  nostart : startBegun tr → ¬ unstarted s ∧ s.pc ≠ .prep ∧ s.pc ≠ .glob .cmd
  popen : ∀ m, prepBegun tr m = prepEnded tr m + (if s.pc = .prep ∧ m ∈ s.running then 1 else 0)
  cnt : ∀ m, startsOk tr m = stopsBegun tr m + (if s.status m = statusOnline then 1 else 0)
  en : s.enabled = enabledOf tr
  en_lt : ∀ m, s.enabled m = true → m < s.n
  bal : begun tr = ended tr + s.running.length
  fresh0 : unstarted s → begun tr = 0
  after_sd : (∃ ok, Ev.ret .shutdown ok ∈ tr) → s.shutdown = true ∧ ¬ (s.pc = .stopX ∨ s.pc = .glob .shutdown)
  lock_called : s.locked = true → Ev.call .start ∈ tr
  sd_called : s.shutdown = true → Ev.call .shutdown ∈ tr
  gfail : (∃ i, Ev.glob .prep i false ∈ tr) → (∀ m, s.status m = statusDead) ∧ ¬ unstarted s ∧ s.pc ≠ .prep

theorem inv2_init (n : Nat) (deps : Nat → List Nat) (mgmt : Bool) : Inv2 [] (init n deps mgmt) := by
  constructor <;> simp [init, lifeOf, lifeCode, prepBegun, prepEnded, prepOk, startBegun, startsOk, stopsBegun, enabledOf, begun, ended]

theorem inv2_quiet {n deps mgmt} {tr : List Ev} {s s' : St} {e : Ev} (h1 : Inv1 n deps mgmt s) (hi : Inv2 tr s)
    (he : quiet e = true) (hq : Quiet s e s') : Inv2 (tr ++ [e]) s' := by
  obtain ⟨hrun, _⟩ := hq.idle h1
  obtain ⟨qlife, qprepBegun, qprepEnded, qstartsOk, qstopsBegun, qbegun, qended, qprepOk, qstartBegun⟩ := quiet_snoc (tr := tr) he
  have hpop := hi.popen
  have hbal := hi.bal
  simp only [hrun] at hpop hbal
  exact {
    life := by rw [qlife, hq.status]; exact hi.life
    prep0 := by simp only [qprepBegun, hq.status]; exact hi.prep0
    prep1 := by simp only [qprepBegun]; exact hi.prep1
    prepok := by simp only [qprepOk, hq.status]; exact hi.prepok
    nostart := by
      intro hs
      obtain ⟨h1, h2, h3⟩ := hi.nostart (qstartBegun.mp hs)
      exact ⟨fun h => h1 (hq.unstarted h), fun h => h1 (hq.to_prep (.inl h)), fun h => h2 (hq.to_cmd h)⟩
    popen := by simpa [qprepBegun, qprepEnded, hq.running, hrun] using hpop
    cnt := by simp only [qstartsOk, qstopsBegun, hq.status]; exact hi.cnt
    en := by rw [enabledOf_snoc, hq.enabled, hi.en]
    en_lt := by
      intro m hm
      rw [hq.n]
      rw [hq.enabled] at hm
      rcases enabledUpd_true hm with h | h
      · exact hi.en_lt m h
      · exact hq.en_lt m h
    bal := by simpa [qbegun, qended, hq.running, hrun] using hbal
    fresh0 := by rw [qbegun]; exact fun h => hi.fresh0 (hq.unstarted h)
    after_sd := by
      rintro ⟨ok, hmem⟩
      rcases List.mem_append.mp hmem with hmem | hmem
      · obtain ⟨hsd, hp⟩ := hi.after_sd ⟨ok, hmem⟩
        exact ⟨hq.sd.mpr (.inl hsd), fun h => (hq.to_stop h).elim (by simp [hsd]) (fun h => hp (.inr h))⟩
      · obtain ⟨hp, hp'⟩ := hq.of_ret _ _ (List.mem_singleton.mp hmem).symm
        exact ⟨hq.sd.mpr (.inl (h1.sd_set (by simp [inShutdown, hp]))), by simp [hp']⟩
    lock_called := by
      intro h
      rcases hq.lock.mp h with h | h
      · exact List.mem_append_left _ (hi.lock_called h)
      · simp [h]
    sd_called := by
      intro h
      rcases hq.sd.mp h with h | h
      · exact List.mem_append_left _ (hi.sd_called h)
      · simp [h]
    gfail := by
      rintro ⟨i, hmem⟩
      rw [hq.status]
      rcases List.mem_append.mp hmem with hmem | hmem
      · obtain ⟨hd, hu, hp⟩ := hi.gfail ⟨i, hmem⟩
        exact ⟨hd, fun h => hu (hq.unstarted h), fun h => hu (hq.to_prep (.inl h))⟩
      · obtain ⟨hp, hp'⟩ := hq.of_glob_fail _ (List.mem_singleton.mp hmem).symm
        refine ⟨h1.fresh (.inr hp), ?_, by simp [hp']⟩
        have := hq.lock.mpr (.inl (h1.pass_locked (by simp [inStart, hp])))
        simp [unstarted, this, hp']
  }

theorem inv2_beg {n deps mgmt} {tr : List Ev} {s s' : St} {k : Kind} {m : Nat} (h1 : Inv1 n deps mgmt s)
    (hi : Inv2 tr s) (h : stepBeg s k m = some s') : Inv2 (tr ++ [.beg k m]) s' := by
  obtain ⟨⟨hm, hk, hr⟩, rfl⟩ := stepBeg_some h
  have hnotrun := ready_not_running h1 hk hr
  have hstarted := ready_started h1 hk hr
  have hold := ready_status hr
  have hpc := passKind_prep hk
  have hlife : ∀ x, lifeOf (tr ++ [.beg k m]) x = lifeCode (set s.status m (launchStatus k) x) := by
    intro x
    rw [lifeOf_snoc, lifeUpd_beg (by rintro rfl; rw [hi.life m]; simp_all [lifeCode])]
    simp only [set_apply]; split
    · rfl
    · exact hi.life x
  generalize launchStatus k = c at hold hlife
  -- the event counts for `m` alone; `hold`: its status before the launch, `c` after
  exact { hi with
    life := hlife
    prep0 := by
      intro x
      have := hi.prep0 x
      simp only [prepBegun_snoc, set_apply, Ev.beg.injEq]
      grind
    prep1 := by
      intro x
      have := hi.prep0 x
      have := hi.prep1 x
      simp only [prepBegun_snoc, Ev.beg.injEq]
      grind
    prepok := by
      intro x hx
      refine prepOk_snoc.mpr (.inl (hi.prepok x ?_))
      simp only [set_apply] at hx
      grind
    nostart := by
      intro hs
      refine ⟨hstarted, ?_⟩
      rcases startBegun_snoc.mp hs with hs | ⟨x, hx⟩
      · exact (hi.nostart hs).2
      · cases hx
        constructor <;> intro hp <;> simp [show s.pc = _ from hp, passKind] at hk
    popen := by
      intro x
      have := hi.popen x
      simp only [prepBegun_snoc, prepEnded_snoc, Ev.beg.injEq, List.mem_cons]
      grind
    cnt := by
      intro x
      have := hi.cnt x
      simp only [startsOk_snoc, stopsBegun_snoc, set_apply, Ev.beg.injEq]
      grind
    en := by rw [enabledOf_snoc]; exact hi.en
    bal := by have := hi.bal; simp [begun_snoc, ended_snoc]; omega
    fresh0 := fun h => absurd h hstarted
    after_sd := by intro h; exact hi.after_sd (by simpa using h)
    lock_called := by intro h; exact List.mem_append_left _ (hi.lock_called h)
    sd_called := by intro h; exact List.mem_append_left _ (hi.sd_called h)
    gfail := by
      intro hg
      obtain ⟨hd, _, hp⟩ := hi.gfail (by simpa using hg)
      cases not_ready_of_dead hd hr
      exact absurd (hpc.mpr rfl) hp
  }

theorem inv2_fin {n deps mgmt} {tr : List Ev} {s s' : St} {k : Kind} {m : Nat} {ok : Bool} (h1 : Inv1 n deps mgmt s)
    (hi : Inv2 tr s) (h : stepFin s k m ok = some s') : Inv2 (tr ++ [.fin k m ok]) s' := by
  obtain ⟨⟨hk, hmem, hst⟩, rfl⟩ := stepFin_some h
  have hpc := passKind_prep hk
  have herase : ∀ x, x ∈ s.running.erase m ↔ x ≠ m ∧ x ∈ s.running := fun x => h1.nodup.mem_erase_iff
  have hlive : ¬ ∀ x, s.status x = statusDead := fun hd => launchStatus_ne_zero k (by rw [← hst, hd m])
  have hlife : ∀ x, lifeOf (tr ++ [.fin k m ok]) x = lifeCode (set s.status m (finStatus (s.status m) k ok) x) := by
    intro x
    rw [lifeOf_snoc, lifeUpd_fin (by rintro rfl; rw [hi.life m, hst]; rfl), hst]
    simp only [set_apply]; split
    · rfl
    · exact hi.life x
  have hfs := fin_cases k ok
  rw [hst] at hlife ⊢
  generalize finStatus (launchStatus k) k ok = v at hfs hlife
  generalize launchStatus k = c at hst hfs
  exact { hi with
    life := hlife
    prep0 := by
      intro x
      have := hi.prep0 x
      simp only [prepBegun_snoc, set_apply, reduceCtorEq, if_false]
      grind
    prep1 := by simpa [prepBegun_snoc] using hi.prep1
    prepok := by
      intro x hx
      have := hi.prepok x
      simp only [prepOk_snoc, set_apply, Ev.fin.injEq] at hx ⊢
      grind
    nostart := by intro hs; exact hi.nostart (by simpa [startBegun_snoc] using hs)
    popen := by
      intro x
      have := hi.popen x
      simp only [prepBegun_snoc, prepEnded_snoc, Ev.fin.injEq, reduceCtorEq, herase]
      grind
    cnt := by
      intro x
      have := hi.cnt x
      simp only [startsOk_snoc, stopsBegun_snoc, set_apply, Ev.fin.injEq, reduceCtorEq]
      grind
    en := by rw [enabledOf_snoc]; exact hi.en
    bal := by
      have := hi.bal
      have := List.length_pos_of_mem hmem
      simp [begun_snoc, ended_snoc, List.length_erase_of_mem hmem]; omega
    fresh0 := fun h => absurd (h1.fresh h) hlive
    after_sd := by intro h; exact hi.after_sd (by simpa using h)
    lock_called := by intro h; exact List.mem_append_left _ (hi.lock_called h)
    sd_called := by intro h; exact List.mem_append_left _ (hi.sd_called h)
    gfail := by intro hg; exact absurd (hi.gfail (by simpa using hg)).1 hlive
  }

theorem inv2_of_runs {n deps mgmt} {tr : List Ev} {s : St} (h : Runs (init n deps mgmt) tr s) : Inv2 tr s := by
  induction h with
  | nil => exact inv2_init n deps mgmt
  | @snoc _ _ e _ hr hs ih =>
    have h1 := inv1_of_runs hr
    cases e with
    | beg k m => exact inv2_beg h1 ih hs
    | fin k m ok => exact inv2_fin h1 ih hs
    | _ => exact inv2_quiet h1 ih rfl (step_quiet hs rfl)

theorem Inv2.begun_eq_ended {tr : List Ev} {s : St} (h2 : Inv2 tr s) (hrun : s.running = []) : begun tr = ended tr := by
  simpa [hrun] using h2.bal

theorem Inv2.stops_eq_starts {tr : List Ev} {s : St} (h2 : Inv2 tr s) (hoff : ∀ m, s.status m ≠ statusOnline) (m : Nat) :
    stopsBegun tr m = startsOk tr m := by
  simpa [hoff m] using (h2.cnt m).symm

/-- Once every module is Dead and no prep pass is to come, no routine can begin. -/
theorem no_beg_of_dead {s : St} (hd : ∀ m, s.status m = statusDead) (hp : s.pc ≠ .prep) (k : Kind) (m : Nat) :
    stepBeg s k m = none := by
  cases hb : stepBeg s k m with
  | none => rfl
  | some s' =>
    obtain ⟨⟨_, hk, hr⟩, _⟩ := stepBeg_some hb
    cases not_ready_of_dead hd hr
    exact absurd ((passKind_prep hk).mpr rfl) hp

theorem noneReady_spec {s : St} {k : Kind} (h : noneReady s k = true) {m : Nat} (hm : m < s.n) :
    ready s k m ≠ readyReady := by
  simpa using List.all_eq_true.mp h m (List.mem_range.mpr hm)

theorem anyWaiting_spec {s : St} {k : Kind} (h : anyWaiting s k = false) {m : Nat} (hm : m < s.n) :
    ready s k m ≠ readyWaiting := by
  simpa using List.any_eq_false.mp h m (List.mem_range.mpr hm)

theorem exists_bound (f : Nat → Nat) (n : Nat) : ∃ B, ∀ m, m < n → f m ≤ B := by
  induction n with
  | zero => exact ⟨0, fun m hm => absurd hm (Nat.not_lt_zero m)⟩
  | succ n ih =>
    obtain ⟨B, hB⟩ := ih
    refine ⟨max B (f n), fun m hm => ?_⟩
    rcases Nat.lt_succ_iff_lt_or_eq.mp hm with h | rfl
    · exact Nat.le_trans (hB m h) (Nat.le_max_left ..)
    · exact Nat.le_max_right ..

/-- When a stop pass has reached its fix point (nothing in flight, no module ready), every module that is
    still online is one the pass had to keep — provided the graph is acyclic and the kept set is closed
    under dependencies. -/
theorem stop_fixpoint {n deps mgmt} {s : St} (h1 : Inv1 n deps mgmt s) (rank : Nat → Nat)
    (hrank : ∀ m, m < s.n → ∀ d ∈ s.deps m, rank d < rank m)
    (hrun : s.running = []) (hnr : noneReady s .stop = true)
    (hclosed : ∀ r, r < s.n → keep s r = true → ∀ d ∈ s.deps r, keep s d = true) :
    ∀ m, m < s.n → s.status m = statusOnline → keep s m = true := by
  obtain ⟨B, hB⟩ := exists_bound rank s.n
  -- from the top rank downwards: an online module that is not kept has only settled dependents, so it is ready
  suffices ∀ k m, B - rank m < k → m < s.n → s.status m = statusOnline → keep s m = true from
    fun m => this _ m (Nat.lt_succ_self _)
  intro k
  induction k with
  | zero => intro m h; omega
  | succ k ih =>
    intro m hk hm hon
    apply Classical.byContradiction; intro hkeep
    refine noneReady_spec hnr hm (readyToStop_ready.mpr ⟨by simpa using hkeep, hon, fun r hr hdr => ?_⟩)
    have := hrank r hr m hdr
    have := hB r hr
    refine (h1.at_rest hrun r).resolve_right fun hon' => hkeep (hclosed r hr (ih r (by omega) hr hon') m hdr)

theorem start_fixpoint {n deps mgmt} {s : St} (h1 : Inv1 n deps mgmt s)
    (hrun : s.running = []) (hnr : noneReady s .start = true) (hnw : anyWaiting s .start = false) :
    ∀ m, m < s.n → wanted s m = true → s.status m = statusOnline := by
  intro m hm hw
  have hnr' := fun h => noneReady_spec hnr hm (readyToStart_ready.mpr h)
  have hnw' := fun h => anyWaiting_spec hnw hm (readyToStart_waiting.mpr h)
  refine (h1.at_rest hrun m).resolve_left fun h => ?_
  by_cases hd : ∃ d ∈ s.deps m, s.status d < statusOnline
  · exact hnw' ⟨hw, (Nat.lt_or_eq_of_le h).imp_right (⟨·, hd⟩)⟩
  · rcases Nat.lt_or_eq_of_le h with h | h
    · exact hnw' ⟨hw, .inl h⟩
    · exact hnr' ⟨hw, h, fun d hdm => Nat.le_of_not_lt fun hlt => hd ⟨d, hdm, hlt⟩⟩

theorem shutdown_fixpoint {n deps mgmt} {s : St} (h1 : Inv1 n deps mgmt s) (rank : Nat → Nat)
    (hrank : ∀ m, m < s.n → ∀ d ∈ s.deps m, rank d < rank m) (hpc : s.pc = .stopX)
    (hrun : s.running = []) (hnr : noneReady s .stop = true) (m : Nat) : s.status m ≠ statusOnline := by
  intro hon
  have hsd := h1.sd_set (by simp [inShutdown, hpc])
  have := stop_fixpoint h1 rank hrank hrun hnr (by simp [keep, hsd]) m (h1.online_lt hon) hon
  simp [keep, hsd] at this

def AsDepSpec (s : St) : Prop :=
  ∀ m, s.asDep m = true ↔ ∃ e, e < s.n ∧ s.enabled e = true ∧ TransDep s.deps e m

theorem buildEnabledTree_spec {s : St} (hreg : ∀ m, m < s.n → ∀ d ∈ s.deps m, d < s.n) :
    AsDepSpec (buildEnabledTree s) :=
  closure_spec s.n s.deps s.enabled hreg

theorem keep_closed {s : St} (hs : AsDepSpec s) :
    ∀ r, r < s.n → keep s r = true → ∀ d ∈ s.deps r, keep s d = true := by
  intro r hr hk d hd
  simp only [keep, Bool.and_eq_true, Bool.or_eq_true] at hk ⊢
  refine ⟨hk.1, Or.inr ?_⟩
  rw [hs d]
  rcases hk.2 with hen | had
  · exact ⟨r, hr, hen, TransDep.direct hd⟩
  · obtain ⟨e, he, hee, ht⟩ := (hs r).mp had
    exact ⟨e, he, hee, transDep_tail ht hd⟩

theorem shutdownFinal_nil : ShutdownFinal [] := fun t1 t2 h => by simp at h

theorem shutdownFinal_cons {e : Ev} {tr : List Ev} : ShutdownFinal (e :: tr) ↔
    (e = .call .shutdown → Ev.call .start ∉ tr ∧ Ev.call .manage ∉ tr) ∧ ShutdownFinal tr := by
  constructor
  · exact fun h => ⟨fun he => h [] tr (by rw [he]; rfl), fun t1 t2 ht => h (e :: t1) t2 (by rw [ht]; rfl)⟩
  · rintro ⟨h0, h⟩ t1 t2 ht
    cases t1 with
    | nil => cases ht; exact h0 rfl
    | cons x t1 => cases ht; exact h t1 t2 rfl

theorem shutdownFinal_prefix {tr : List Ev} {e : Ev} (h : ShutdownFinal (tr ++ [e])) : ShutdownFinal tr := by
  intro t1 t2 ht
  have := h t1 (t2 ++ [e]) (by rw [ht]; simp)
  exact ⟨fun hm => this.1 (List.mem_append_left _ hm), fun hm => this.2 (List.mem_append_left _ hm)⟩

theorem shutdownFinal_call {tr : List Ev} {a : Api} (h : ShutdownFinal (tr ++ [.call a])) (ha : a ≠ .shutdown) :
    Ev.call .shutdown ∉ tr := by
  intro hm
  obtain ⟨t1, t2, ht⟩ := List.append_of_mem hm
  have := h t1 (t2 ++ [.call a]) (by rw [ht]; simp)
  cases a
  · exact this.1 (by simp)
  · exact this.2 (by simp)
  · exact ha rfl

/-- With the shutdown flag set in a Shutdown-final history: outside Shutdown's stop pass nothing is online. -/
def Down (s : St) : Prop :=
  ((∀ m, s.status m ≠ statusOnline) ∧ (s.pc = .idle ∨ ∃ ok, s.pc = .done .shutdown ok)) ∨
  s.pc = .stopX ∨ s.pc = .glob .shutdown

theorem Down.pass {s : St} {k : Kind} (h : Down s) (hk : passKind s.pc = some k) : s.pc = .stopX := by
  rcases h with ⟨_, hp | ⟨_, hp⟩⟩ | hp | hp <;> simp [hp, passKind] at hk ⊢

theorem Down.off {s : St} (h : Down s) (hp : s.pc ≠ .stopX) (hp' : s.pc ≠ .glob .shutdown) (m : Nat) :
    s.status m ≠ statusOnline := by
  rcases h with ⟨h, _⟩ | h | h
  · exact h m
  · exact absurd h hp
  · exact absurd h hp'

/-- `up`: a start pass brings up only wanted modules; `okS`: it ends without error exactly when all are online. -/
structure Inv3 (tr : List Ev) (s : St) : Prop where
  asdep : (s.pc = .startS ∨ s.pc = .stopM ∨ s.pc = .startM ∨ s.pc = .done .start true ∨
            (s.pc = .done .manage true ∧ s.mgmt = true)) → s.locked = true → AsDepSpec s
  up : (s.pc = .startS ∨ s.pc = .startM) → ∀ m, statusOffline < s.status m → wanted s m = true
  okS : (s.pc = .done .start true ∨ (s.pc = .done .manage true ∧ s.mgmt = true)) →
          ∀ m, m < s.n → (s.status m = statusOnline ↔ wanted s m = true)
  down : ShutdownFinal tr → s.shutdown = true → Down s

theorem inv3_init (n : Nat) (deps : Nat → List Nat) (mgmt : Bool) : Inv3 [] (init n deps mgmt) := by
  constructor <;> simp [init]

theorem inv3_other {tr : List Ev} {s : St} (hp : s.pc ≠ .startS ∧ s.pc ≠ .stopM ∧ s.pc ≠ .startM ∧
    s.pc ≠ .done .start true ∧ s.pc ≠ .done .manage true) (hd : ShutdownFinal tr → s.shutdown = true → Down s) :
    Inv3 tr s :=
  ⟨by simp [hp], by simp [hp], by simp [hp], hd⟩

theorem inv3_idle {tr : List Ev} {s s' : St} {e : Ev} (hi : Inv3 tr s) (hpc : s.pc = .idle) (hpc' : s'.pc = .idle)
    (hst : s'.status = s.status) (hsd : s'.shutdown = s.shutdown) : Inv3 (tr ++ [e]) s' := by
  refine inv3_other (by simp [hpc']) fun hdom h => .inl ⟨?_, .inl hpc'⟩
  rw [hst]
  exact (hi.down (shutdownFinal_prefix hdom) (hsd ▸ h)).off (by simp [hpc]) (by simp [hpc])

theorem inv3_step {n deps mgmt} {tr : List Ev} {s s' : St} {e : Ev} (h1 : Inv1 n deps mgmt s) (h2 : Inv2 tr s)
    (hi : Inv3 tr s) (hreg : ∀ m, m < n → ∀ d ∈ deps m, d < n)
    (rank : Nat → Nat) (hrank : ∀ m, m < n → ∀ d ∈ deps m, rank d < rank m)
    (h : step s e = some s') : Inv3 (tr ++ [e]) s' := by
  have hreg' : ∀ m, m < s.n → ∀ d ∈ s.deps m, d < s.n := by rw [h1.hn, h1.hdeps]; exact hreg
  have hrank' : ∀ m, m < s.n → ∀ d ∈ s.deps m, rank d < rank m := by rw [h1.hn, h1.hdeps]; exact hrank
  have hdown := fun hdom : ShutdownFinal (tr ++ [e]) => hi.down (shutdownFinal_prefix hdom)
  cases e with
  | beg k m =>
    obtain ⟨⟨hm, hk, hr⟩, rfl⟩ := stepBeg_some h
    refine ⟨hi.asdep, fun hp x hx => ?_, fun hp => ?_, fun hdom hsd => .inr (.inl ((hdown hdom hsd).pass hk))⟩
    · by_cases hxm : x = m
      · cases passKind_start hk hp
        subst hxm
        exact (readyToStart_ready.mp hr).1
      · exact hi.up hp x (by simpa [set_apply, hxm] using hx)
    · rcases hp with hp | ⟨hp, _⟩ <;> simp [show s.pc = _ from hp, passKind] at hk
  | fin k m ok =>
    obtain ⟨⟨hk, hmem, hst⟩, rfl⟩ := stepFin_some h
    refine ⟨hi.asdep, fun hp x hx => ?_, fun hp => ?_, fun hdom hsd => .inr (.inl ((hdown hdom hsd).pass hk))⟩
    · by_cases hxm : x = m
      · cases passKind_start hk hp
        subst hxm
        exact hi.up hp x (by simp [hst, launchStatus])
      · exact hi.up hp x (by simpa [set_apply, hxm] using hx)
    · rcases hp with hp | ⟨hp, _⟩ <;> simp [show s.pc = _ from hp, passKind] at hk
  | ret a ok =>
    obtain ⟨hpc, rfl⟩ := stepRet_some h
    exact inv3_other (by simp) fun hdom hsd =>
      .inl ⟨(hdown hdom hsd).off (by simp [hpc]) (by simp [hpc]), .inl rfl⟩
  | enable m => obtain ⟨⟨hpc, _⟩, rfl⟩ := stepEnable_some h; exact inv3_idle hi hpc hpc rfl rfl
  | disable m => obtain ⟨⟨hpc, _⟩, rfl⟩ := stepEnable_some h; exact inv3_idle hi hpc hpc rfl rfl
  | setGlob g i => obtain ⟨hpc, f, rfl⟩ := stepSetGlob_some h; exact inv3_idle hi hpc hpc rfl rfl
  | glob g i ok =>
    obtain ⟨⟨hpc, _⟩, rfl⟩ := stepGlob_some h
    have hsame : (globNext s g ok).shutdown = s.shutdown := by cases g <;> cases ok <;> rfl
    refine inv3_other (by cases g <;> cases ok <;> simp [globNext, enterPass]) fun hdom hsd => ?_
    -- of the three global functions only the shutdown function runs with the flag set
    rcases hdown hdom (hsame ▸ hsd) with ⟨_, hp | ⟨_, hp⟩⟩ | hp | hp <;> simp [hpc] at hp
    subst hp
    exact .inr (.inl (by cases ok <;> rfl))
  | call a =>
    obtain ⟨hpc, h⟩ := stepCall_some h
    -- Start / ManageModules: in the histories of the property the shutdown flag is not set
    have hcall : ∀ {s'' : St}, a ≠ .shutdown → s''.shutdown = s.shutdown → ShutdownFinal (tr ++ [.call a]) →
        s''.shutdown = true → Down s'' :=
      fun ha hs hdom hsd => absurd (h2.sd_called (hs ▸ hsd)) (shutdownFinal_call hdom ha)
    cases a
    · rcases h with ⟨_, rfl⟩ | ⟨_, rfl | rfl | rfl⟩ <;>
        exact inv3_other (by simp [enterPass]) (hcall (by simp) rfl)
    · rcases h with ⟨hmg, rfl⟩ | ⟨_, ⟨hl, rfl⟩ | ⟨_, rfl⟩⟩
      · exact ⟨by simp [hmg], by simp, by simp [hmg], hcall (by simp) rfl⟩
      · exact ⟨by simp [enterPass, hl], by simp [enterPass], by simp [enterPass], hcall (by simp) rfl⟩
      · exact ⟨fun _ _ => buildEnabledTree_spec hreg', by simp [enterPass], by simp [enterPass], hcall (by simp) rfl⟩
    · rcases h with ⟨hsd, rfl⟩ | ⟨_, rfl | rfl⟩
      · exact inv3_other (by simp) fun hdom _ =>
          .inl ⟨(hdown hdom hsd).off (by simp [hpc]) (by simp [hpc]), .inr ⟨_, rfl⟩⟩
      · exact inv3_other (by simp) fun _ _ => .inr (.inr rfl)
      · exact inv3_other (by simp [enterPass]) fun _ _ => .inr (.inl rfl)
  | passEnd =>
    obtain ⟨hc, h⟩ := stepPassEnd_some h
    have hrun : s.running = [] := List.eq_nil_of_length_eq_zero (by have := h1.cnt; omega)
    -- every pass but Shutdown's own: in the histories of the property the shutdown flag is not set
    have hpass : ∀ {s'' : St}, s.pc ≠ .stopX → s''.shutdown = s.shutdown →
        ShutdownFinal (tr ++ [.passEnd]) → s''.shutdown = true → Down s'' := by
      intro s'' hp hs hdom hsd
      cases hk : passKind s.pc with
      | none => rcases h with ⟨hpc, _⟩ | ⟨hpc, _⟩ | ⟨hpc, _⟩ | ⟨hpc, _⟩ | ⟨hpc, _⟩ <;> simp [hpc, passKind] at hk
      | some k => exact absurd ((hdown hdom (hs ▸ hsd)).pass hk) hp
    have hdone : (s.pc = .startS ∨ s.pc = .startM) → noneReady s .start = true → anyWaiting s .start = false →
        ∀ m, m < s.n → (s.status m = statusOnline ↔ wanted s m = true) :=
      fun hp hnr hnw m hm => ⟨fun hon => hi.up hp m (by simp [hon]), start_fixpoint h1 hrun hnr hnw m hm⟩
    rcases h with ⟨hpc, rfl | rfl | rfl⟩ | ⟨hpc, rfl | ⟨hnr, hnw, rfl⟩⟩ | ⟨hpc, hnr, b, rfl⟩ |
        ⟨hpc, rfl | ⟨hnr, hnw, rfl⟩⟩ | ⟨hpc, hnr, ok, rfl⟩
    · exact inv3_other (by simp) (hpass (by simp [hpc]) rfl)
    · exact inv3_other (by simp) (hpass (by simp [hpc]) rfl)
    · exact ⟨fun _ _ => buildEnabledTree_spec hreg', fun _ m hm => absurd hm (Nat.not_lt.mpr (h1.prep_low hpc m)),
        by simp [enterPass], hpass (by simp [hpc]) rfl⟩
    · exact inv3_other (by simp) (hpass (by simp [hpc]) rfl)
    · exact ⟨fun _ => hi.asdep (.inl hpc), by simp, fun _ => hdone (.inl hpc) hnr hnw,
        hpass (by simp [hpc]) rfl⟩
    · refine ⟨fun _ => hi.asdep (.inr (.inl hpc)), fun _ m hm => ?_, by simp [enterPass],
        hpass (by simp [hpc]) rfl⟩
      -- what the stop pass of ManageModules left online is wanted
      have hon : s.status m = statusOnline := (h1.at_rest hrun m).resolve_left (Nat.not_le.mpr hm)
      cases hlk : s.locked
      · simp [h1.fresh (.inl hlk) m] at hon
      · have := stop_fixpoint h1 rank hrank' hrun hnr (keep_closed (hi.asdep (.inr (.inl hpc)) hlk)) m (h1.online_lt hon) hon
        simp only [keep, Bool.and_eq_true, Bool.or_eq_true] at this
        simp only [wanted, Bool.or_eq_true]
        rcases this.2 with h | h
        · exact .inl (.inr h)
        · exact .inr h
    · exact inv3_other (by simp) (hpass (by simp [hpc]) rfl)
    · exact ⟨fun _ => hi.asdep (.inr (.inr (.inl hpc))), by simp, fun _ => hdone (.inr hpc) hnr hnw,
        hpass (by simp [hpc]) rfl⟩
    · exact inv3_other (by simp) fun _ _ =>
        .inl ⟨shutdown_fixpoint (s := s) h1 rank hrank' hpc hrun hnr, .inr ⟨_, rfl⟩⟩

theorem inv3_of_runs {n deps mgmt} {tr : List Ev} {s : St}
    (hreg : ∀ m, m < n → ∀ d ∈ deps m, d < n)
    (rank : Nat → Nat) (hrank : ∀ m, m < n → ∀ d ∈ deps m, rank d < rank m)
    (h : Runs (init n deps mgmt) tr s) : Inv3 tr s := by
  induction h with
  | nil => exact inv3_init n deps mgmt
  | snoc hr hs ih => exact inv3_step (inv1_of_runs hr) (inv2_of_runs hr) ih hreg rank hrank hs

theorem wanted_iff_spec {n : Nat} {deps : Nat → List Nat} {mgmt : Bool} {tr : List Ev} {s : St}
    (h1 : Inv1 n deps mgmt s) (h2 : Inv2 tr s) (hspec : AsDepSpec s) (m : Nat) :
    wanted s m = true ↔ Wanted deps mgmt (enabledOf tr) m := by
  unfold wanted Wanted
  rw [← h1.hmgmt, ← h1.hdeps]
  rw [← h2.en]
  constructor
  · intro h
    simp only [Bool.or_eq_true, Bool.not_eq_true'] at h
    rcases h with (h | h) | h
    · exact Or.inl h
    · exact Or.inr (Or.inl h)
    · obtain ⟨e, _, he, ht⟩ := (hspec m).mp h
      exact Or.inr (Or.inr ⟨e, he, ht⟩)
  · intro h
    simp only [Bool.or_eq_true, Bool.not_eq_true']
    rcases h with h | h | ⟨e, he, ht⟩
    · exact Or.inl (Or.inl h)
    · exact Or.inl (Or.inr h)
    · exact Or.inr ((hspec m).mpr ⟨e, h2.en_lt e he, he, ht⟩)

theorem lifeUpd_apply (f : Nat → Nat) (e : Ev) (d : Nat) :
    lifeUpd f e d = if touches d e then lifeCodeOf e else f d := by
  cases e with
  | beg k m => cases k <;> simp [lifeUpd, touches, lifeCodeOf, set_apply, @eq_comm _ d m]
  | fin k m ok => cases k <;> cases ok <;> simp [lifeUpd, touches, lifeCodeOf, set_apply, @eq_comm _ d m]
  | _ => simp [lifeUpd, touches]

theorem foldl_lifeUpd (tr : List Ev) (f0 : Nat → Nat) (d : Nat) :
    (tr.foldl lifeUpd f0) d = match lastTouch d tr with | some e => lifeCodeOf e | none => f0 d := by
  induction tr generalizing f0 with
  | nil => simp [lastTouch]
  | cons e es ih =>
    simp only [List.foldl_cons, lastTouch]
    rw [ih]
    cases lastTouch d es with
    | some x => simp
    | none => simp [lifeUpd_apply]; split <;> simp_all

theorem lastTouch_touches {d : Nat} {tr : List Ev} {e : Ev} (h : lastTouch d tr = some e) : touches d e = true := by
  induction tr with
  | nil => simp [lastTouch] at h
  | cons x xs ih =>
    simp only [lastTouch] at h
    cases hx : lastTouch d xs with
    | some y => rw [hx] at h; simp at h; subst h; exact ih hx
    | none => rw [hx] at h; simp at h; obtain ⟨h1, h2⟩ := h; subst h2; exact h1

theorem touches_cases {d : Nat} {e : Ev} (h : touches d e = true) :
    e = .beg .start d ∨ e = .beg .stop d ∨ e = .fin .start d true ∨ e = .fin .start d false ∨
    ∃ ok, e = .fin .stop d ok := by
  cases e with
  | beg k m => cases k <;> simp_all [touches]
  | fin k m ok => cases k <;> cases ok <;> simp_all [touches]
  | _ => simp [touches] at h

theorem lifeOf_eq_lastTouch (tr : List Ev) (d : Nat) :
    lifeOf tr d = match lastTouch d tr with | some e => lifeCodeOf e | none => 0 := by
  unfold lifeOf; rw [foldl_lifeUpd]

/-- A diamond: 1 and 2 depend on 0, 3 depends on 1 and 2. -/
def diamond : Nat → List Nat
  | 1 => [0]
  | 2 => [0]
  | 3 => [1, 2]
  | _ => []

/-- Start with overlapping callbacks (1 and 2 start concurrently), then Shutdown. -/
def diamondHistory : List Ev :=
  [.call .start,
   .beg .prep 0, .fin .prep 0 true, .beg .prep 2, .beg .prep 1, .fin .prep 1 true, .fin .prep 2 true,
   .beg .prep 3, .fin .prep 3 true, .passEnd,
   .beg .start 0, .fin .start 0 true, .beg .start 1, .beg .start 2, .fin .start 2 true, .fin .start 1 true,
   .beg .start 3, .fin .start 3 true, .passEnd, .ret .start true,
   .call .shutdown, .beg .stop 3, .fin .stop 3 true, .beg .stop 2, .beg .stop 1, .fin .stop 1 false,
   .fin .stop 2 true, .beg .stop 0, .fin .stop 0 true, .passEnd, .ret .shutdown false]

end PB.Modules
