import PB.Model.Db
/-
Lemmas about the number model of `PB.Db` (C02): float64 rounding of integers (`f64Nat`), `int64` wrap-around,
`gjson.Result.Int` (`gjsonInt`). Used by `PB.C02.struct_json_agree` and its companions.
-/
namespace PB.Db

theorem f64Exp_lt (fuel n : Nat) (h : n < two53) : f64Exp fuel n = 0 := by
  cases fuel <;> simp [f64Exp, h]

/-- Below 2^53 every integer is a float64. -/
theorem f64Nat_lt (n : Nat) (h : n < two53) : f64Nat n = n := by
  simp [f64Nat, f64Exp_lt n n h, Nat.mod_one]

/-- Dropping the low bits of `n ≥ 2^53` leaves at least 2^53. -/
theorem f64Exp_floor_ge : ∀ (fuel n : Nat), n ≤ fuel → two53 ≤ n →
    two53 ≤ n / 2 ^ f64Exp fuel n * 2 ^ f64Exp fuel n := by
  intro fuel
  induction fuel with
  | zero => intro n h1 h2; simp [two53] at h2; omega
  | succ fuel ih =>
    intro n h1 h2
    have hn : ¬ n < two53 := by omega
    simp only [f64Exp, hn, if_false]
    rw [Nat.pow_succ, Nat.mul_comm (2 ^ f64Exp fuel (n / 2)) 2, ← Nat.div_div_eq_div_mul]
    by_cases hh : n / 2 < two53
    · rw [f64Exp_lt fuel (n / 2) hh]
      simp [two53] at h2 ⊢
      omega
    · have h3 : n / 2 ≤ fuel := by simp [two53] at h2; omega
      have := ih (n / 2) h3 (by omega)
      generalize n / 2 / 2 ^ f64Exp fuel (n / 2) = a at this ⊢
      generalize 2 ^ f64Exp fuel (n / 2) = b at this ⊢
      calc two53 ≤ a * b := this
        _ ≤ a * (2 * b) := Nat.mul_le_mul_left a (by omega)

/-- From 2^53 on, rounding stays at or above 2^53. -/
theorem f64Nat_ge (n : Nat) (h : two53 ≤ n) : two53 ≤ f64Nat n := by
  have := f64Exp_floor_ge n n (Nat.le_refl n) h
  unfold f64Nat
  simp only
  split
  · exact Nat.le_trans this (Nat.mul_le_mul_right _ (Nat.le_succ _))
  · exact this

theorem f64Int_small (i : Int) (h1 : -9007199254740992 < i) (h2 : i < 9007199254740992) : f64Int i = i := by
  have hn : i.natAbs < two53 := by simp [two53]; omega
  unfold f64Int
  rw [f64Nat_lt _ hn]
  split <;> omega

theorem f64Int_big_pos (i : Int) (h : 9007199254740992 ≤ i) : 9007199254740992 ≤ f64Int i := by
  have hn : two53 ≤ i.natAbs := by simp [two53]; omega
  have := f64Nat_ge _ hn
  unfold f64Int
  simp [two53] at this
  split <;> omega

theorem f64Int_big_neg (i : Int) (h : i ≤ -9007199254740992) : f64Int i ≤ -9007199254740992 := by
  have hn : two53 ≤ i.natAbs := by simp [two53]; omega
  have := f64Nat_ge _ hn
  unfold f64Int
  simp [two53] at this
  split <;> omega

theorem wrap64_id (i : Int) (h1 : -9223372036854775808 ≤ i) (h2 : i ≤ 9223372036854775807) : wrap64 i = i := by
  unfold wrap64; omega

/-- `gjson.Result.Int()` on the integer literal encoding/json writes for an `int64` is that `int64` — over the whole
    range: up to ±(2^53-1) through the float64 (`safeInt`), beyond through the raw text (`parseInt`). -/
theorem gjsonInt_int64 (i : Int) (h1 : -9223372036854775808 ≤ i) (h2 : i ≤ 9223372036854775807) :
    gjsonInt (i * 1000) = i := by
  have hm : i * 1000 % 1000 = 0 := Int.mul_emod_left i 1000
  have hd : i * 1000 / 1000 = i := Int.mul_ediv_cancel i (by decide)
  unfold gjsonInt f64m
  simp only [hm, hd, if_true]
  by_cases hs : -9007199254740992 < i ∧ i < 9007199254740992
  · rw [f64Int_small i hs.1 hs.2]
    have : ¬ (i * 1000 < -9007199254740991000 ∨ i * 1000 > 9007199254740991000) := by omega
    simp only [this, if_false]
    exact Int.mul_tdiv_cancel i (by decide)
  · -- beyond ±2^53 the float64 is out of `safeInt`'s range on the same side, and the raw text is read
    have hout : f64Int i * 1000 < -9007199254740991000 ∨ f64Int i * 1000 > 9007199254740991000 := by
      by_cases hp : 9007199254740992 ≤ i
      · have := f64Int_big_pos i hp; omega
      · have := f64Int_big_neg i (by omega); omega
    simp only [hout, if_true]
    exact wrap64_id i h1 h2

theorem jsonNumToInt_int64 (i : Int) (h : (Prim.int i).goValue) : jsonNumToInt (i * 1000) = i := by
  unfold jsonNumToInt
  rw [if_pos (show PB.Gen.DbAcc.jsonIntVia = 0 from rfl)]
  exact gjsonInt_int64 i h.1 h.2

theorem jsonNumToFloat_float64 (m : Int) (h : (Prim.flt m).goValue) : jsonNumToFloat m = m := by
  unfold jsonNumToFloat
  rw [if_pos (show PB.Gen.DbAcc.jsonFloatVia ≤ 1 by decide)]
  exact h

/-- The same number through the float64 alone (`int64(result.Num)`) is NOT the `int64` from 2^53 + 1 on. -/
theorem truncOfFloat_loses_int64 : truncToInt64 (f64m (9007199254740993 * 1000)) = 9007199254740992 := by decide

theorem goValues_nil : goValues [] := fun _ _ h => by cases h

theorem goValues_cons {name : String} {p : Prim} {fs : Fields} (hp : p.goValue) (h : goValues fs) :
    goValues ((name, .prim p) :: fs) := by
  intro n q hq
  simp only [lookup] at hq
  split at hq
  · cases hq; exact hp
  · exact h n q hq

end PB.Db
