import PB.Model.Db
import PBProofs.Lemmas.DbSim
/-
Delayed write cache: every pending write is also in the read cache ("nothing pending is unreadable").
-/
namespace PB.Db
open PB.KV

/-- Every record waiting in the write set is the record the read cache holds under that key. -/
def Pend (st : ISt) : Prop := ∀ k r, st.wcache.get k = some r → st.cache.get k = some r

theorem Pend.evict {cfg : Cfg} {st : ISt} (h : Pend st) (k : String) : Pend (evict cfg st k) := by
  unfold PB.Db.evict
  cases hw : st.wcache.get k with
  | none =>
    simp only
    intro k' r hr
    simp only at hr ⊢
    rw [Store.get_del]
    by_cases hk : k' = k
    · subst hk; rw [hw] at hr; cases hr
    · simp [hk]; exact h k' r hr
  | some x =>
    simp only [ctlPut]
    intro k' r hr
    simp only at hr ⊢
    rw [Store.get_del] at hr ⊢
    by_cases hk : k' = k
    · simp [hk] at hr
    · simp [hk] at hr ⊢; exact h k' r hr

theorem evict_cache_none (cfg : Cfg) (st : ISt) (k : String) : (PB.Db.evict cfg st k).cache.get k = none := by
  unfold PB.Db.evict
  cases st.wcache.get k <;> simp [ctlPut, Store.get_del_eq]

theorem checkCache_pend {cfg : Cfg} {o : Opts} {st : ISt} (h : Pend st) (k : String) (now : Int) :
    Pend (checkCache cfg o st k now).2 ∧
    ((checkCache cfg o st k now).1 = none → o.cache ≠ .none → (checkCache cfg o st k now).2.cache.get k = none) := by
  unfold checkCache
  by_cases hc : o.cache = .none
  · simp [hc]; exact h
  · simp only [hc, if_false]
    cases hg : st.cache.get k with
    | none => simp; exact ⟨h, fun _ => hg⟩
    | some r =>
      by_cases hv : r.md.valid now = true
      · simp [hv]; exact h
      · simp only [hv]
        exact ⟨h.evict k, fun _ _ => evict_cache_none cfg st k⟩

theorem Pend.ctlPut {cfg : Cfg} {st : ISt} (h : Pend st) (r : Rec) : Pend (ctlPut cfg st r) := by
  unfold PB.Db.ctlPut; exact h

theorem updateCache_pend {cfg : Cfg} {o : Opts} {st : ISt} (hdl : o.cache = .delay) (h : Pend st) (r : Rec) (write rem : Bool)
    (hmiss : write = false → st.cache.get r.key = none) :
    Pend (updateCache cfg o st r write rem).1 := by
  unfold updateCache
  have hc : ¬ o.cache = .none := by rw [hdl]; decide
  simp only [hc, if_false]
  by_cases hr : rem = true
  · simp only [hr, if_true]
    split
    · exact h.evict r.key
    · exact h
  · have hr' : rem = false := by simpa using hr
    subst hr'
    simp only [Bool.false_eq_true, if_false]
    cases write with
    | true =>
      simp only [hdl, Bool.true_and, decide_true, if_true]
      intro k' x hx
      rw [Store.get_put] at hx ⊢
      by_cases hk : k' = r.key
      · simp only [hk, if_true] at hx ⊢; exact hx
      · simp only [hk, if_false] at hx ⊢; exact h k' x hx
    | false =>
      simp only [Bool.false_and, Bool.false_eq_true, if_false]
      intro k' x hx
      rw [Store.get_put]
      by_cases hk : k' = r.key
      · subst hk
        have := h _ x hx; rw [hmiss rfl] at this; cases this
      · simp only [hk, if_false]; exact h k' x hx

theorem getRecord_pend {cfg : Cfg} {o : Opts} {st : ISt} (hdl : o.cache = .delay) (h : Pend st) (k : String) (now : Int) :
    Pend (getRecord cfg o st k now).2 := by
  have hcn : o.cache ≠ .none := by rw [hdl]; decide
  obtain ⟨h1, h2⟩ := checkCache_pend (cfg := cfg) (o := o) h k now
  unfold getRecord
  generalize checkCache cfg o st k now = cc at *
  obtain ⟨c1, st1⟩ := cc
  cases c1 with
  | some rc => simp only; split <;> exact h1
  | none =>
    simp only at h1 h2 ⊢
    cases hg : ctlGet st1.store k now with
    | error e => exact h1
    | ok r =>
      simp only
      split
      · exact h1
      · apply updateCache_pend hdl h1
        intro _
        have hk : r.key = k := by
          rw [ctlGet_vis] at hg
          split at hg <;> cases hg
          exact Store.get_key (vis_some ‹_›).1
        rw [hk]; exact h2 trivial hcn

theorem getMeta_pend {cfg : Cfg} {o : Opts} {st : ISt} (h : Pend st) (k : String) (now : Int) :
    Pend (getMeta cfg o st k now).2 := by
  obtain ⟨h1, _⟩ := checkCache_pend (cfg := cfg) (o := o) h k now
  unfold getMeta
  generalize checkCache cfg o st k now = cc at *
  obtain ⟨c1, st1⟩ := cc
  cases c1 with
  | some rc => simp only; split <;> exact h1
  | none =>
    simp only at h1 ⊢
    cases ctlGet st1.store k now with
    | error e => exact h1
    | ok r => simp only; split <;> exact h1

theorem aliasUpdate_pend {st : ISt} (h : Pend st) (r : Rec) : Pend (aliasUpdate st r) := by
  unfold aliasUpdate
  intro k x hx
  simp only at hx ⊢
  by_cases hw : st.wcache.has r.key = true
  · have hcache : st.cache.has r.key = true := by
      unfold Store.has at hw ⊢
      cases hg : st.wcache.get r.key with
      | none => rw [hg] at hw; cases hw
      | some y => rw [h _ y hg]; rfl
    simp only [hw, hcache, if_true] at hx ⊢
    rw [Store.get_put] at hx ⊢
    by_cases hk : k = r.key
    · simp only [hk, if_true] at hx ⊢; exact hx
    · simp only [hk, if_false] at hx ⊢; exact h k x hx
  · have hw' : st.wcache.has r.key = false := by simpa using hw
    simp only [hw', Bool.false_eq_true, if_false] at hx
    have hne : k ≠ r.key := by
      intro e; subst e
      apply hw; unfold Store.has; rw [hx]; rfl
    split
    · rw [Store.get_put_ne _ _ _ hne]; exact h k x hx
    · exact h k x hx

theorem ifPut_pend {cfg : Cfg} {o : Opts} {st : ISt} (hdl : o.cache = .delay) (h : Pend st) (r : Rec) (now : Int) (isNew : Bool) :
    Pend (ifPut cfg o st r now isNew).1 := by
  have tail : ∀ (s1 : ISt) (x : Rec), Pend s1 →
      Pend (match updateCache cfg o s1 x true x.md.isDeleted with
            | (st, true) => (st, Out.ok)
            | (st, false) => (ctlPut cfg st x, Out.ok)).1 := by
    intro s1 x hs1
    have := updateCache_pend (cfg := cfg) hdl hs1 x true x.md.isDeleted (fun hh => by cases hh)
    generalize updateCache cfg o s1 x true x.md.isDeleted = uc at *
    obtain ⟨s2, b⟩ := uc
    cases b
    · exact Pend.ctlPut this x
    · exact this
  unfold ifPut
  by_cases ha : o.all = true
  · simp only [ha, Bool.not_true, Bool.false_eq_true, if_false]
    exact tail st _ h
  · have ha' : o.all = false := by simpa using ha
    simp only [ha', Bool.not_false, if_true]
    have hm := getMeta_pend (cfg := cfg) (o := o) h r.key now
    generalize getMeta cfg o st r.key now = gm at *
    obtain ⟨res, st1⟩ := gm
    cases res with
    | ok _ => exact tail st1 _ hm
    | error e =>
      cases e with
      | notFound => exact tail st1 _ hm
      | _ => exact hm

theorem onRecord_pend {cfg : Cfg} {o : Opts} {st : ISt} (hdl : o.cache = .delay) (h : Pend st) (k : String) (now : Int)
    (F : Rec → ISt → ISt × Out) (hF : ∀ r st1, Pend st1 → Pend (F r st1).1) :
    Pend (match getRecord cfg o st k now with | (.error e, st) => (st, Out.err e) | (.ok r, st) => F r st).1 := by
  have hg := getRecord_pend (cfg := cfg) hdl h k now
  generalize getRecord cfg o st k now = gr at *
  obtain ⟨res, st1⟩ := gr
  cases res with
  | error e => exact hg
  | ok r => exact hF r st1 hg

theorem ifModify_pend {cfg : Cfg} {o : Opts} {st : ISt} (hdl : o.cache = .delay) (h : Pend st) (k : String) (now : Int)
    (f : Meta → Meta) : Pend (ifModify cfg o st k now f).1 := by
  unfold ifModify
  exact onRecord_pend hdl h k now _ fun r st1 h1 => Pend.ctlPut (aliasUpdate_pend h1 _) _

theorem ifInsert_pend {cfg : Cfg} {o : Opts} {st : ISt} (hdl : o.cache = .delay) (h : Pend st) (k a : String) (p : Prim)
    (now : Int) : Pend (ifInsert cfg o st k a p now).1 := by
  unfold ifInsert
  refine onRecord_pend hdl h k now _ fun r st1 h1 => ?_
  cases setField r.form r.fields a p with
  | none => exact h1
  | some fs => exact Pend.ctlPut (aliasUpdate_pend h1 _) _

/-- Every operation except `ClearCache` keeps every pending write readable through the cache. -/
theorem step_pend {cfg : Cfg} {o : Opts} {st : ISt} (hdl : o.cache = .delay) (h : Pend st) (op : Op) (now : Int)
    (hnc : op ≠ .clear) : Pend (step cfg o st op now).1 := by
  cases op with simp only [step]
  | get k => unfold ifGet; exact onRecord_pend hdl h k now _ fun _ _ h1 => h1
  | exists_ k =>
    have hg := getRecord_pend (cfg := cfg) hdl h k now
    unfold ifExists
    generalize getRecord cfg o st k now = gr at *
    obtain ⟨res, st1⟩ := gr
    cases res with
    | error e => cases e <;> exact hg
    | ok r => exact hg
  | put r => exact ifPut_pend hdl h r now false
  | putNew r => exact ifPut_pend hdl h r now true
  | delete k => exact ifModify_pend hdl h k now _
  | setAbs k t => exact ifModify_pend hdl h k now _
  | setRel k d => exact ifModify_pend hdl h k now _
  | mkSecret k => exact ifModify_pend hdl h k now _
  | mkCrown k => exact ifModify_pend hdl h k now _
  | insert k a p => exact ifInsert_pend hdl h k a p now
  | putMany rs => unfold ifPutMany; (repeat' split) <;> exact h
  | query q => unfold ifQuery; split <;> exact h
  | purge q => unfold ifPurge; (repeat' split) <;> exact h
  | maintain t sk => exact h
  | flush =>
    unfold ifFlush
    split
    · exact h
    · split <;> exact fun _ _ hr => by cases hr
  | clear => exact absurd rfl hnc
  | evict k =>
    split
    · exact h.evict k
    · exact h

end PB.Db
