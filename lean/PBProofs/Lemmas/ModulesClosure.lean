import PB.Model.Modules
import PB.Spec.Modules
/-!
`buildEnabledTree` marks exactly the transitive dependencies of the enabled modules. Counting: a round that is not
stable marks one more module, so after `k` rounds the marks are stable or number at least `k`, and `n` marks are all.
-/
namespace PB.Modules
open PB.Modules.Spec

theorem mkFn_map_range (n : Nat) (f : Nat → Bool) (d : Nat) :
    mkFn ((List.range n).map f) d = (decide (d < n) && f d) := by
  unfold mkFn
  by_cases hd : d < n <;> simp [List.getD_eq_getElem?_getD, hd]

section
variable (n : Nat) (deps : Nat → List Nat) (en : Nat → Bool)

theorem mkFn_round (l : List Bool) (d : Nat) :
    mkFn (closeRound n deps en l) d = true ↔
      d < n ∧ (mkFn l d = true ∨ ∃ r, r < n ∧ (en r = true ∨ mkFn l r = true) ∧ d ∈ deps r) := by
  rw [closeRound, mkFn_map_range]
  simp [mkFn]

theorem closeIter_succ (k : Nat) (l : List Bool) :
    closeIter n deps en (k + 1) l = closeRound n deps en (closeIter n deps en k l) := by
  induction k generalizing l with
  | zero => simp [closeIter]
  | succ k ih => rw [closeIter, ih]; rfl

end

theorem transDep_tail {deps : Nat → List Nat} {a r d : Nat} (h : TransDep deps a r) (hd : d ∈ deps r) :
    TransDep deps a d := by
  induction h with
  | direct h0 => exact TransDep.step h0 (TransDep.direct hd)
  | step h0 _ ih => exact TransDep.step h0 (ih hd)

/-- Strict growth of a count when a predicate is strictly enlarged on a list. -/
theorem countP_lt_of_strict {α : Type} (p q : α → Bool) (xs : List α)
    (hpq : ∀ x ∈ xs, p x = true → q x = true) (hx : ∃ x ∈ xs, q x = true ∧ p x = false) :
    xs.countP p < xs.countP q := by
  induction xs with
  | nil => obtain ⟨x, hx, _⟩ := hx; cases hx
  | cons y ys ih =>
    have hle : ys.countP p ≤ ys.countP q :=
      List.countP_mono_left (fun x hx hp => hpq x (List.mem_cons_of_mem _ hx) hp)
    obtain ⟨x, hxm, hq, hp⟩ := hx
    rcases List.mem_cons.mp hxm with rfl | hxm
    · simp [hq, hp]; omega
    · have := ih (fun x hx hp => hpq x (List.mem_cons_of_mem _ hx) hp) ⟨x, hxm, hq, hp⟩
      have hy := hpq y (List.mem_cons_self)
      simp only [List.countP_cons]
      cases hpy : p y
      · simp; cases q y <;> simp <;> omega
      · simp [hy hpy]; omega

section
variable (n : Nat) (deps : Nat → List Nat) (en : Nat → Bool)

def marked (l : List Bool) : Nat := (List.range n).countP (mkFn l)

def Stable (l : List Bool) : Prop := ∀ d, mkFn (closeRound n deps en l) d = true → mkFn l d = true

theorem marked_le (l : List Bool) : marked n l ≤ n := by
  simpa [marked] using List.countP_le_length (p := mkFn l) (l := List.range n)

theorem marked_grow (l : List Bool) (h : ¬ Stable n deps en l) :
    marked n l < marked n (closeRound n deps en l) := by
  unfold Stable at h
  have : ∃ d, mkFn (closeRound n deps en l) d = true ∧ mkFn l d = false := by
    apply Classical.byContradiction
    intro hc; apply h; intro d hd
    cases hm : mkFn l d
    · exact absurd ⟨d, hd, hm⟩ hc
    · rfl
  obtain ⟨d, hd, hm⟩ := this
  have hdn : d < n := ((mkFn_round n deps en l d).mp hd).1
  apply countP_lt_of_strict
  · intro x hx hp; exact (mkFn_round n deps en l x).mpr ⟨List.mem_range.mp hx, Or.inl hp⟩
  · exact ⟨d, List.mem_range.mpr hdn, hd, hm⟩

theorem stable_round (l : List Bool) (h : Stable n deps en l) :
    Stable n deps en (closeRound n deps en l) := by
  intro d hd
  rw [mkFn_round] at hd
  obtain ⟨hdn, hd⟩ := hd
  rcases hd with hd | ⟨r, hr, hen, hdr⟩
  · exact hd
  · rw [mkFn_round]
    refine ⟨hdn, Or.inr ⟨r, hr, ?_, hdr⟩⟩
    rcases hen with hen | hen
    · exact Or.inl hen
    · exact Or.inr (h r hen)

theorem stable_or_marked (l : List Bool) (k : Nat) :
    Stable n deps en (closeIter n deps en k l) ∨ k ≤ marked n (closeIter n deps en k l) := by
  induction k with
  | zero => right; omega
  | succ k ih =>
    rw [closeIter_succ]
    by_cases hs : Stable n deps en (closeIter n deps en k l)
    · exact .inl (stable_round n deps en _ hs)
    · have := marked_grow n deps en _ hs
      have := ih.resolve_left hs
      exact .inr (by omega)

theorem stable_final (l : List Bool) :
    Stable n deps en (closeIter n deps en n l) := by
  rcases stable_or_marked n deps en l n with h | h
  · exact h
  · -- every module is marked
    intro d hd
    have hdn : d < n := ((mkFn_round n deps en _ d).mp hd).1
    have hle := marked_le n (closeIter n deps en n l)
    have heq : marked n (closeIter n deps en n l) = (List.range n).length := by simp; omega
    unfold marked at heq
    have := (List.countP_eq_length.mp heq) d (List.mem_range.mpr hdn)
    exact this

end

theorem mkFn_allFalse (n d : Nat) : mkFn ((List.range n).map (fun _ => false)) d = false := by
  simp [mkFn_map_range]

theorem closeIter_sound (n : Nat) (deps : Nat → List Nat) (en : Nat → Bool) (k : Nat) (l : List Bool)
    (hl : ∀ d, mkFn l d = true → ∃ e, e < n ∧ en e = true ∧ TransDep deps e d) (d : Nat)
    (h : mkFn (closeIter n deps en k l) d = true) : ∃ e, e < n ∧ en e = true ∧ TransDep deps e d := by
  induction k generalizing d with
  | zero => exact hl d h
  | succ k ih =>
    rw [closeIter_succ, mkFn_round] at h
    obtain ⟨_, h⟩ := h
    rcases h with h | ⟨r, hr, hen, hdr⟩
    · exact ih d h
    · rcases hen with hen | hen
      · exact ⟨r, hr, hen, TransDep.direct hdr⟩
      · obtain ⟨e, he, hee, ht⟩ := ih r hen
        exact ⟨e, he, hee, transDep_tail ht hdr⟩

theorem closure_spec (n : Nat) (deps : Nat → List Nat) (en : Nat → Bool)
    (hreg : ∀ m, m < n → ∀ d ∈ deps m, d < n) (m : Nat) :
    mkFn (closeIter n deps en n ((List.range n).map (fun _ => false))) m = true ↔
      ∃ e, e < n ∧ en e = true ∧ TransDep deps e m := by
  constructor
  · intro h
    exact closeIter_sound n deps en n _ (fun d hd => by simp [mkFn_allFalse] at hd) m h
  · rintro ⟨e, he, hen, ht⟩
    have hst := stable_final n deps en ((List.range n).map (fun _ => false))
    -- closed under dependencies of enabled or marked modules
    have key : ∀ a x, TransDep deps a x → a < n →
        (en a = true ∨ mkFn (closeIter n deps en n ((List.range n).map (fun _ => false))) a = true) →
        mkFn (closeIter n deps en n ((List.range n).map (fun _ => false))) x = true := by
      intro a x hax
      induction hax with
      | direct hd =>
        intro ha hm
        exact hst _ ((mkFn_round n deps en _ _).mpr ⟨hreg _ ha _ hd, Or.inr ⟨_, ha, hm, hd⟩⟩)
      | step hd _ ih =>
        intro ha hm
        have hdn := hreg _ ha _ hd
        exact ih hdn (Or.inr (hst _ ((mkFn_round n deps en _ _).mpr ⟨hdn, Or.inr ⟨_, ha, hm, hd⟩⟩)))
    exact key e m ht he (Or.inl hen)

end PB.Modules
