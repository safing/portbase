/-!
The transition functions of the models have the shape `if guard then some s' else none`, possibly nested. These lemmas
read guard and result off an equation `step s .act = some s'`, and `isSome_ite` goes the other way, from a guard that
holds to an enabled step. They are applied to `step s .act` as it stands: for a given action it reduces to its `if` by
unfolding the definition, which the unifier does, so proofs about one action neither unfold nor split the function.
-/
namespace PB

/-- which branch of an `if` gave `some b` -/
theorem ite_some_cases {α} {c : Prop} [Decidable c] {o o' : Option α} {b : α} (h : (if c then o else o') = some b) :
    c ∧ o = some b ∨ ¬c ∧ o' = some b :=
  if hc : c then .inl ⟨hc, (if_pos hc).symm.trans h⟩ else .inr ⟨hc, (if_neg hc).symm.trans h⟩

/-- the guard, and what the guarded branch returned -/
theorem of_ite_some {α} {c : Prop} [Decidable c] {o : Option α} {b : α} (h : (if c then o else none) = some b) :
    c ∧ o = some b :=
  (ite_some_cases h).resolve_right fun n => nomatch n.2

/-- the guard, and that the result is the guarded value -/
theorem guarded {α} {c : Prop} [Decidable c] {a b : α} (h : (if c then some a else none) = some b) : c ∧ a = b :=
  ⟨(of_ite_some h).1, Option.some.inj (of_ite_some h).2⟩

/-- `guarded` in continuation form: `k` gets the guard and proves `P` of the guarded value, hence of the result -/
theorem of_guarded {α} {P : α → Prop} {c : Prop} [Decidable c] {a b : α} (h : (if c then some a else none) = some b)
    (k : c → P a) : P b :=
  (guarded h).2 ▸ k (guarded h).1

theorem isSome_ite {α} {c : Prop} [Decidable c] {a : α} (h : c) : (if c then some a else none).isSome = true := by
  simp only [h, if_true, Option.isSome_some]

end PB
