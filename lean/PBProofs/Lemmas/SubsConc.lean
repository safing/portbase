import PB.Model.SubsConc
/- Invariants of the interleaving model of subscriptions (C14). An action's lemma is `{ h with … }`: a field the action does
   not touch is the old field, by unfolding the record update. -/
namespace PB.SubsConc

def isNotifying : WPc → Bool
  | .notifying _ => true
  | _ => false

def remOf : WPc → List Nat
  | .notifying r => r
  | _ => []

/-- The safety invariant of the lock protocol. -/
structure Inv (st : CSt) : Prop where
  noPanic : st.panicked = false
  wlRd : st.wl = true → st.rd = []
  rdIff : ∀ w, w ∈ st.rd ↔ isNotifying (st.wpc w) = true
  rdNodup : st.rd.Nodup
  /-- what a notifier still has to visit is in the list (nobody can change the list while it holds the read lock) -/
  remSubs : ∀ w i, i ∈ remOf (st.wpc w) → i ∈ st.subs
  /-- every listed subscription has an open feed -/
  subsOpen : ∀ i, i ∈ st.subs → st.made i = true ∧ st.closed i = false
  subsNodup : st.subs.Nodup
  csWl : ∀ c, (st.cpc c).inCS = true → st.wl = true
  csUnique : ∀ c c', (st.cpc c).inCS = true → (st.cpc c').inCS = true → c = c'
  removedOk : ∀ c, st.cpc c = .removed →
    st.closed (st.ctarget c) = false ∧ st.ctarget c ∉ st.subs ∧ st.made (st.ctarget c) = true
  madeAcc : ∀ i, st.made i = true → i ∈ st.subs ∨ st.closed i = true ∨ ∃ c, st.cpc c = .removed ∧ st.ctarget c = i
  doneClosed : ∀ c, (st.cpc c = .unlocking ∨ st.cpc c = .done) → st.closed (st.ctarget c) = true
  enteredMade : ∀ c, st.cpc c ≠ .idle → st.made (st.ctarget c) = true
  closedMade : ∀ i, st.closed i = true → st.made i = true

theorem upd_apply {α : Type} (f : Nat → α) (i j : Nat) (x : α) : upd f i x j = if j = i then x else f j := rfl

theorem inCS_cases {p : CPc} : p.inCS = true ↔ p = .locked ∨ p = .removed ∨ p = .unlocking := by
  cases p <;> simp [CPc.inCS]

theorem count_filter_nodup (p : Nat → Bool) : ∀ (l : List Nat) (i : Nat), l.Nodup → i ∈ l →
    (l.filter p).count i = if p i then 1 else 0 := by
  intro l i hn hi
  by_cases hp : p i = true
  · rw [List.count_filter hp, hn.count]; simp [hi, hp]
  · simp [hp, List.count_eq_zero, List.mem_filter]

theorem upd_forall {α : Type} {f : Nat → α} {c : Nat} {p : α} (Q : Nat → α → Prop) (hc : Q c p) (h : ∀ x, Q x (f x)) :
    ∀ x, Q x (upd f c p x) := fun x => by
  by_cases hx : x = c
  · subst hx; rwa [upd_same]
  · rw [upd_other _ _ _ _ hx]; exact h x

theorem only_upd {α : Type} {f : Nat → α} {c : Nat} (P : α → Prop) (only : ∀ x, P (f x) → x = c) (p : α) :
    ∀ x, P (upd f c p x) → x = c :=
  upd_forall (fun x q => P q → x = c) (fun _ => rfl) only

theorem unique_of_only {P : Nat → Prop} {c : Nat} (only : ∀ x, P x → x = c) : ∀ x y, P x → P y → x = y :=
  fun x y hx hy => (only x hx).trans (only y hy).symm

theorem upd_true_mono {f : Nat → Bool} {j : Nat} (i : Nat) (h : f j = true) : upd f i true j = true := by
  by_cases hji : j = i <;> simp [hji, h]

inductive Step (wants : Nat → Nat → Bool) (st : CSt) : Act → CSt → Prop
  | wStore {w} : st.wpc w = .idle → Step wants st (.wStore w) { st with
      wpc := upd st.wpc w .stored
      activeAtStart := upd st.activeAtStart w st.made
      mark := upd st.mark w st.log.length
      doneAtStart := upd st.doneAtStart w (fun w1 => st.wpc w1 == .done) }
  | wRLock {w} : st.wpc w = .stored → st.wl = false → Step wants st (.wRLock w)
      { st with wpc := upd st.wpc w (.notifying st.subs), rd := w :: st.rd, snap := upd st.snap w st.subs }
  | wSkip {w i rem} : st.wpc w = .notifying (i :: rem) → wants w i = false → Step wants st (.wVisit w)
      { st with wpc := upd st.wpc w (.notifying rem) }
  | wPanic {w i rem} : st.wpc w = .notifying (i :: rem) → wants w i = true → st.closed i = true → Step wants st (.wVisit w)
      { st with panicked := true, wpc := upd st.wpc w (.notifying rem) }
  | wSend {w i rem} : st.wpc w = .notifying (i :: rem) → wants w i = true → st.closed i = false → (st.buf i).length < cap →
      Step wants st (.wVisit w) { st with
        wpc := upd st.wpc w (.notifying rem), buf := upd st.buf i (st.buf i ++ [w]), log := st.log ++ [(w, i, true)] }
  | wFull {w i rem} : st.wpc w = .notifying (i :: rem) → wants w i = true → st.closed i = false → ¬ (st.buf i).length < cap →
      Step wants st (.wVisit w) { st with wpc := upd st.wpc w (.notifying rem), log := st.log ++ [(w, i, false)] }
  | wRUnlock {w} : st.wpc w = .notifying [] → Step wants st (.wRUnlock w)
      { st with wpc := upd st.wpc w .done, rd := st.rd.erase w }
  | add {i} : st.wl = false → st.rd = [] → st.made i = false → Step wants st (.add i)
      { st with made := upd st.made i true, subs := st.subs ++ [i] }
  | cEnter {c i} : st.cpc c = .idle → st.made i = true → Step wants st (.cEnter c i)
      { st with cpc := upd st.cpc c .entered, ctarget := upd st.ctarget c i, cancelReq := upd st.cancelReq i true }
  | cLock {c} : st.cpc c = .entered → st.wl = false → st.rd = [] → Step wants st (.cLock c)
      { st with cpc := upd st.cpc c .locked, wl := true }
  | cRemove {c} : st.cpc c = .locked → st.ctarget c ∈ st.subs → Step wants st (.cRemove c)
      { st with subs := st.subs.erase (st.ctarget c), cpc := upd st.cpc c .removed }
  | cMiss {c} : st.cpc c = .locked → st.ctarget c ∉ st.subs → Step wants st (.cRemove c)
      { st with cpc := upd st.cpc c .unlocking }
  | cPanic {c} : st.cpc c = .removed → st.closed (st.ctarget c) = true → Step wants st (.cClose c)
      { st with panicked := true, cpc := upd st.cpc c .unlocking }
  | cClose {c} : st.cpc c = .removed → st.closed (st.ctarget c) = false → Step wants st (.cClose c)
      { st with closed := upd st.closed (st.ctarget c) true, cpc := upd st.cpc c .unlocking }
  | cUnlock {c} : st.cpc c = .unlocking → Step wants st (.cUnlock c) { st with cpc := upd st.cpc c .done, wl := false }
  | consume {i w rest} : st.buf i = w :: rest → Step wants st (.consume i)
      { st with buf := upd st.buf i rest, consumed := upd st.consumed i (st.consumed i ++ [w]) }

theorem Step.of_step {wants : Nat → Nat → Bool} {st st' : CSt} {a : Act} (hs : step wants st a = some st') :
    Step wants st a st' := by
  cases a <;> dsimp only [step] at hs <;> (repeat' split at hs) <;> cases hs
  -- the branches of `step` that return a state, in its order; a guard `if b` arrives as `b = true` or `¬b = true`
  · exact .wStore ‹_›
  · exact .wRLock ‹_› (by simp_all)
  · exact .wPanic ‹_› ‹_› ‹_›
  · exact .wSend ‹_› ‹_› (by simp_all) ‹_›
  · exact .wFull ‹_› ‹_› (by simp_all) ‹_›
  · exact .wSkip ‹_› (by simp_all)
  · exact .wRUnlock ‹_›
  · exact .add (by simp_all) (by simp_all) (by simp_all)
  · exact .cEnter ‹_› ‹_›
  · exact .cLock ‹_› (by simp_all) (by simp_all)
  · exact .cRemove ‹_› (by simp_all)
  · exact .cMiss ‹_› (by simp_all)
  · exact .cPanic ‹_› ‹_›
  · exact .cClose ‹_› (by simp_all)
  · exact .cUnlock ‹_›
  · exact .consume ‹_›

section
variable {wants : Nat → Nat → Bool} {st st' : CSt}

theorem inv_init : Inv {} := by
  constructor <;> simp [isNotifying, remOf, CPc.inCS]

theorem inv_wpc {w : Nat} {p : WPc} (h : Inv st) (hn : isNotifying p = isNotifying (st.wpc w))
    (hsub : ∀ i, i ∈ remOf p → i ∈ remOf (st.wpc w)) : Inv { st with wpc := upd st.wpc w p } :=
  { h with
    rdIff := upd_forall (fun x (q : WPc) => x ∈ st.rd ↔ isNotifying q = true) (hn ▸ h.rdIff w) h.rdIff
    remSubs := upd_forall (fun _ (q : WPc) => ∀ i, i ∈ remOf q → i ∈ st.subs) (fun i hi => h.remSubs w i (hsub i hi))
      h.remSubs }

theorem inv_wStore {w : Nat} (h : Inv st) (hs : Step wants st (.wStore w) st') : Inv st' := by
  cases hs with
  | wStore hw => exact { inv_wpc (p := .stored) h (by rw [hw]; rfl) (by simp [remOf]) with }

theorem Inv.head_open {w i : Nat} {rem : List Nat} (h : Inv st) (hw : st.wpc w = .notifying (i :: rem)) :
    st.closed i = false :=
  (h.subsOpen i (h.remSubs w i (by rw [hw]; exact List.mem_cons_self))).2

theorem inv_wVisit {w : Nat} (h : Inv st) (hs : Step wants st (.wVisit w) st') : Inv st' := by
  have adv {i rem} (hw : st.wpc w = .notifying (i :: rem)) : Inv { st with wpc := upd st.wpc w (.notifying rem) } :=
    inv_wpc h (by rw [hw]; rfl) (by rw [hw]; exact fun j hj => List.mem_cons_of_mem _ hj)
  cases hs with
  | wSkip hw _ => exact adv hw
  | wSend hw _ _ _ => exact { adv hw with }
  | wFull hw _ _ _ => exact { adv hw with }
  | wPanic hw _ hcl => simp [h.head_open hw] at hcl

theorem inv_wRLock {w : Nat} (h : Inv st) (hs : Step wants st (.wRLock w) st') : Inv st' := by
  cases hs with
  | wRLock hw hwl =>
    have hnot : w ∉ st.rd := by rw [h.rdIff, hw]; simp [isNotifying]
    exact { h with
      wlRd := by simp [hwl]
      rdNodup := List.nodup_cons.mpr ⟨hnot, h.rdNodup⟩
      rdIff := fun x => by
        by_cases hx : x = w
        · subst hx; simp [isNotifying]
        · simpa [hx] using h.rdIff x
      remSubs := upd_forall (fun _ (q : WPc) => ∀ i, i ∈ remOf q → i ∈ st.subs) (fun _ hi => hi) h.remSubs }

theorem inv_wRUnlock {w : Nat} (h : Inv st) (hs : Step wants st (.wRUnlock w) st') : Inv st' := by
  cases hs with
  | wRUnlock hw =>
    exact { h with
      wlRd := fun hh => by simp [h.wlRd hh]
      rdNodup := h.rdNodup.erase w
      rdIff := fun x => by
        by_cases hx : x = w
        · subst hx; simp [isNotifying, h.rdNodup.mem_erase_iff]
        · simpa [hx, h.rdNodup.mem_erase_iff] using h.rdIff x
      remSubs := upd_forall (fun _ (q : WPc) => ∀ i, i ∈ remOf q → i ∈ st.subs) (by simp [remOf]) h.remSubs }

theorem no_notifier (h : Inv st) (hrd : st.rd = []) (w : Nat) : remOf (st.wpc w) = [] := by
  have := h.rdIff w
  rw [hrd] at this
  cases hw : st.wpc w with
  | notifying l => rw [hw] at this; simp [isNotifying] at this
  | _ => rfl

theorem inv_add {i : Nat} (h : Inv st) (hs : Step wants st (.add i) st') : Inv st' := by
  cases hs with
  | add hwl hrd hmade =>
    have fresh : ∀ j, st.made j = true → j ≠ i := fun j hj e => by simp [← e, hj] at hmade
    have hnin : i ∉ st.subs := fun hm => fresh i (h.subsOpen i hm).1 rfl
    have mono : ∀ j, st.made j = true → upd st.made i true j = true := fun _ => upd_true_mono i
    exact { h with
      remSubs := fun w j hj => by simp [no_notifier h hrd w] at hj
      subsOpen := fun j hj => by
        rcases List.mem_append.mp hj with hj | hj
        · exact ⟨mono j (h.subsOpen j hj).1, (h.subsOpen j hj).2⟩
        · obtain rfl := List.mem_singleton.mp hj
          exact ⟨upd_same .., Bool.eq_false_iff.mpr fun hcl => fresh j (h.closedMade j hcl) rfl⟩
      subsNodup := (List.perm_append_singleton i st.subs).nodup_iff.mpr (List.nodup_cons.mpr ⟨hnin, h.subsNodup⟩)
      removedOk := fun c hc => by
        obtain ⟨a, b, d⟩ := h.removedOk c hc
        exact ⟨a, by simp [b, fresh _ d], mono _ d⟩
      madeAcc := fun j hj => by
        by_cases hji : j = i
        · exact Or.inl (by simp [hji])
        · exact (h.madeAcc j (by simpa [hji] using hj)).imp_left (List.mem_append_left _)
      enteredMade := fun c hc => mono _ (h.enteredMade c hc)
      closedMade := fun j hj => mono _ (h.closedMade j hj) }

theorem inv_cEnter {c i : Nat} (h : Inv st) (hs : Step wants st (.cEnter c i) st') : Inv st' := by
  cases hs with
  | cEnter hc hm =>
    -- `entered`, like `idle`, is outside the locked section: only `enteredMade` says something new about `c`
    have oldcs := upd_forall (p := .entered) (c := c) (fun x (q : CPc) => q.inCS = true → (st.cpc x).inCS = true)
      (by simp [CPc.inCS]) fun _ hx => hx
    exact { h with
      csWl := fun x hx => h.csWl x (oldcs x hx)
      csUnique := fun x y hx hy => h.csUnique x y (oldcs x hx) (oldcs y hy)
      removedOk := fun x hx => by
        by_cases hxc : x = c
        · subst hxc; simp at hx
        · simpa [hxc] using h.removedOk x (by simpa [hxc] using hx)
      madeAcc := fun j hj => (h.madeAcc j hj).imp_right <| Or.imp_right fun ⟨x, hx, ht⟩ => by
        have hxc : x ≠ c := fun e => by simp [e, hc] at hx
        exact ⟨x, by simpa [hxc] using hx, by simpa [hxc] using ht⟩
      doneClosed := fun x hx => by
        by_cases hxc : x = c
        · subst hxc; simp at hx
        · simpa [hxc] using h.doneClosed x (by simpa [hxc] using hx)
      enteredMade := fun x hx => by
        by_cases hxc : x = c
        · subst hxc; simpa using hm
        · simpa [hxc] using h.enteredMade x (by simpa [hxc] using hx) }

theorem no_removed {cpc : Nat → CPc} {c : Nat} (only : ∀ x, (cpc x).inCS = true → x = c) (hc : cpc c ≠ .removed) :
    ∀ x, cpc x ≠ .removed :=
  fun x hx => hc (only x (inCS_cases.mpr (.inr (.inl hx))) ▸ hx)

theorem Inv.enteredMade_upd (h : Inv st) {c : Nat} (hc : st.cpc c ≠ .idle) (p : CPc) :
    ∀ x, upd st.cpc c p x ≠ .idle → st.made (st.ctarget x) = true :=
  upd_forall (fun x (q : CPc) => q ≠ .idle → st.made (st.ctarget x) = true) (fun _ => h.enteredMade c hc) h.enteredMade

theorem Inv.doneClosed_upd (h : Inv st) {c : Nat} {p : CPc}
    (hp : p = .unlocking ∨ p = .done → st.closed (st.ctarget c) = true) :
    ∀ x, upd st.cpc c p x = .unlocking ∨ upd st.cpc c p x = .done → st.closed (st.ctarget x) = true :=
  upd_forall (fun x (q : CPc) => q = .unlocking ∨ q = .done → st.closed (st.ctarget x) = true) hp h.doneClosed

theorem inv_cLock {c : Nat} (h : Inv st) (hs : Step wants st (.cLock c) st') : Inv st' := by
  cases hs with
  | cLock hc hwl hrd =>
    have nocs : ∀ x, (st.cpc x).inCS ≠ true := fun x hx => by simpa [hwl] using h.csWl x hx
    have only := only_upd (c := c) (CPc.inCS · = true) (fun x hx => absurd hx (nocs x)) .locked
    exact { h with
      wlRd := fun _ => hrd
      csWl := fun _ _ => rfl
      csUnique := unique_of_only only
      removedOk := fun x hx => absurd hx (no_removed only (by simp) x)
      madeAcc := fun j hj => (h.madeAcc j hj).imp_right <| Or.imp_right fun ⟨x, hx, _⟩ =>
        absurd (inCS_cases.mpr (.inr (.inl hx))) (nocs x)
      doneClosed := h.doneClosed_upd (by simp)
      enteredMade := h.enteredMade_upd (by simp [hc]) _ }

theorem inv_cRemove {c : Nat} (h : Inv st) (hs : Step wants st (.cRemove c) st') : Inv st' := by
  have hc : st.cpc c = .locked := by cases hs <;> assumption
  have hcs := inCS_cases.mpr (.inl hc)
  have hwl := h.csWl c hcs
  have alone := fun x hx => h.csUnique x c hx hcs
  have norem := no_removed alone (by simp [hc])
  have hmade := h.enteredMade c (by simp [hc])
  cases hs with
  | cRemove _ hin =>
    have only := only_upd (CPc.inCS · = true) alone .removed
    exact { h with
      remSubs := fun w j hj => by simp [no_notifier h (h.wlRd hwl) w] at hj
      subsOpen := fun j hj => h.subsOpen j (List.mem_of_mem_erase hj)
      subsNodup := h.subsNodup.erase _
      csWl := fun _ _ => hwl
      csUnique := unique_of_only only
      removedOk := fun x hx => by
        obtain rfl := only x (inCS_cases.mpr (.inr (.inl hx)))
        exact ⟨(h.subsOpen _ hin).2, by simp [h.subsNodup.mem_erase_iff], hmade⟩
      madeAcc := fun j hj => by
        rcases h.madeAcc j hj with a | a | ⟨x, hx, _⟩
        · by_cases hjt : j = st.ctarget c
          · exact .inr (.inr ⟨c, upd_same .., hjt.symm⟩)
          · exact .inl ((List.mem_erase_of_ne hjt).mpr a)
        · exact .inr (.inl a)
        · exact absurd hx (norem x)
      doneClosed := h.doneClosed_upd (by simp)
      enteredMade := h.enteredMade_upd (by simp [hc]) _ }
  | cMiss _ hnin =>
    have only := only_upd (CPc.inCS · = true) alone .unlocking
    -- made, not listed, nobody at `removed`: another `Cancel` has closed the feed already
    have hclosed : st.closed (st.ctarget c) = true := by
      rcases h.madeAcc _ hmade with a | a | ⟨x, hx, _⟩
      · exact absurd a hnin
      · exact a
      · exact absurd hx (norem x)
    exact { h with
      csWl := fun _ _ => hwl
      csUnique := unique_of_only only
      removedOk := fun x hx => absurd hx (no_removed only (by simp) x)
      madeAcc := fun j hj => (h.madeAcc j hj).imp_right <| Or.imp_right fun ⟨x, hx, _⟩ => absurd hx (norem x)
      doneClosed := h.doneClosed_upd fun _ => hclosed
      enteredMade := h.enteredMade_upd (by simp [hc]) _ }

theorem inv_cClose {c : Nat} (h : Inv st) (hs : Step wants st (.cClose c) st') : Inv st' := by
  cases hs with
  | cPanic hc hcl => simp [(h.removedOk c hc).1] at hcl
  | cClose hc _ =>
    obtain ⟨_, hnin, hmade⟩ := h.removedOk c hc
    have hcs := inCS_cases.mpr (.inr (.inl hc))
    have alone := fun x hx => h.csUnique x c hx hcs
    have only := only_upd (CPc.inCS · = true) alone .unlocking
    exact { h with
      subsOpen := fun j hj => by
        have hne : j ≠ st.ctarget c := fun e => hnin (e ▸ hj)
        simpa [hne] using h.subsOpen j hj
      csWl := fun _ _ => h.csWl c hcs
      csUnique := unique_of_only only
      removedOk := fun x hx => absurd hx (no_removed only (by simp) x)
      madeAcc := fun j hj => by
        rcases h.madeAcc j hj with a | a | ⟨x, hx, rfl⟩
        · exact .inl a
        · exact .inr (.inl (upd_true_mono _ a))
        · obtain rfl := alone x (inCS_cases.mpr (.inr (.inl hx)))
          exact .inr (.inl (upd_same ..))
      doneClosed := fun x hx => by
        by_cases hxc : x = c
        · subst hxc; exact upd_same ..
        · exact upd_true_mono _ (h.doneClosed x (by simpa [hxc] using hx))
      enteredMade := h.enteredMade_upd (by simp [hc]) _
      closedMade := fun j hj => by
        by_cases hjt : j = st.ctarget c
        · exact hjt ▸ hmade
        · exact h.closedMade j (by simpa [hjt] using hj) }

theorem inv_cUnlock {c : Nat} (h : Inv st) (hs : Step wants st (.cUnlock c) st') : Inv st' := by
  cases hs with
  | cUnlock hc =>
    have hcs := inCS_cases.mpr (.inr (.inr hc))
    have alone := fun x hx => h.csUnique x c hx hcs
    have nocs : ∀ x, (upd st.cpc c .done x).inCS ≠ true := fun x hx => by
      obtain rfl := only_upd (CPc.inCS · = true) alone .done x hx
      simp [CPc.inCS] at hx
    exact { h with
      wlRd := fun hh => by simp at hh
      csWl := fun x hx => absurd hx (nocs x)
      csUnique := fun x _ hx => absurd hx (nocs x)
      removedOk := fun x hx => absurd (inCS_cases.mpr (.inr (.inl hx))) (nocs x)
      madeAcc := fun j hj => (h.madeAcc j hj).imp_right <| Or.imp_right fun ⟨x, hx, _⟩ =>
        absurd hx (no_removed alone (by simp [hc]) x)
      doneClosed := h.doneClosed_upd fun _ => h.doneClosed c (.inl hc)
      enteredMade := h.enteredMade_upd (by simp [hc]) _ }

theorem inv_consume {i : Nat} (h : Inv st) (hs : Step wants st (.consume i) st') : Inv st' := by
  cases hs with
  | consume _ => exact { h with }

end

theorem inv_step {wants : Nat → Nat → Bool} {st st' : CSt} (a : Act) (h : Inv st) (hs : step wants st a = some st') :
    Inv st' := by
  have hs := Step.of_step hs
  cases a with
  | wStore w => exact inv_wStore h hs
  | wRLock w => exact inv_wRLock h hs
  | wVisit w => exact inv_wVisit h hs
  | wRUnlock w => exact inv_wRUnlock h hs
  | add i => exact inv_add h hs
  | cEnter c i => exact inv_cEnter h hs
  | cLock c => exact inv_cLock h hs
  | cRemove c => exact inv_cRemove h hs
  | cClose c => exact inv_cClose h hs
  | cUnlock c => exact inv_cUnlock h hs
  | consume i => exact inv_consume h hs

theorem inv_reach {wants : Nat → Nat → Bool} {st : CSt} (h : Reach wants st) : Inv st := by
  induction h with
  | init => exact inv_init
  | step a _ hs ih => exact inv_step a ih hs

/-! ## Delivery and order bookkeeping -/

/-- The subscriptions writer `w` attempted to send to, in order. -/
def entries (log : List (Nat × Nat × Bool)) (w : Nat) : List Nat := (log.filter (fun e => e.1 == w)).map (·.2.1)

/-- The writers whose record was accepted into feed `i`, in order. -/
def acceptedBy (log : List (Nat × Nat × Bool)) (i : Nat) : List Nat :=
  (log.filter (fun e => e.2.1 == i && e.2.2)).map (·.1)

theorem entries_append (log : List (Nat × Nat × Bool)) (x i : Nat) (b : Bool) (w : Nat) :
    entries (log ++ [(x, i, b)]) w = if x = w then entries log w ++ [i] else entries log w := by
  unfold entries
  by_cases h : x = w
  · simp [List.filter_append, h]
  · simp [List.filter_append, h]

theorem acceptedBy_append (log : List (Nat × Nat × Bool)) (x i : Nat) (b : Bool) (j : Nat) :
    acceptedBy (log ++ [(x, i, b)]) j = if i = j ∧ b = true then acceptedBy log j ++ [x] else acceptedBy log j := by
  unfold acceptedBy
  by_cases h : i = j
  · cases b <;> simp [List.filter_append, h]
  · simp [List.filter_append, h]

def LogOk (wants : Nat → Nat → Bool) (st : CSt) (w : Nat) : Prop :=
  match st.wpc w with
  | .idle => entries st.log w = []
  | .stored => entries st.log w = []
  | .notifying rem => ∃ pre, st.snap w = pre ++ rem ∧ entries st.log w = pre.filter (wants w)
  | .done => entries st.log w = (st.snap w).filter (wants w)

/-- `snapAct`, `logSnap`, `snapNodup`: attempted exactly once. `mark w` cuts the log where `w` started (`before`, `after`). -/
structure DInv (wants : Nat → Nat → Bool) (st : CSt) : Prop where
  cReq : ∀ c, st.cpc c ≠ .idle → st.cancelReq (st.ctarget c) = true
  reqSubs : ∀ i, st.made i = true → st.cancelReq i = false → i ∈ st.subs
  actMade : ∀ w i, st.wpc w ≠ .idle → st.activeAtStart w i = true → st.made i = true
  snapAct : ∀ w i, (isNotifying (st.wpc w) = true ∨ st.wpc w = .done) → st.activeAtStart w i = true →
    st.cancelReq i = false → i ∈ st.snap w
  logSnap : ∀ w, LogOk wants st w
  snapNodup : ∀ w, (st.snap w).Nodup
  markLe : ∀ w, st.mark w ≤ st.log.length
  before : ∀ w, st.wpc w ≠ .idle → ∀ e ∈ st.log.take (st.mark w), e.1 ≠ w
  after : ∀ w2 w1, st.wpc w2 ≠ .idle → st.doneAtStart w2 w1 = true →
    st.wpc w1 = .done ∧ ∀ e ∈ st.log.drop (st.mark w2), e.1 ≠ w1
  feed : ∀ i, st.consumed i ++ st.buf i = acceptedBy st.log i
  sound : ∀ e ∈ st.log, wants e.1 e.2.1 = true

section
variable {wants : Nat → Nat → Bool} {st st' : CSt}

theorem dinv_init (wants : Nat → Nat → Bool) : DInv wants {} := by
  constructor <;> simp [LogOk, entries, acceptedBy, isNotifying]

theorem logOk_frame {w : Nat} (h : LogOk wants st w) (e1 : st'.wpc w = st.wpc w)
    (e2 : entries st'.log w = entries st.log w) (e3 : st'.snap w = st.snap w) : LogOk wants st' w := by
  unfold LogOk at *
  rw [e1, e2, e3]
  exact h

theorem DInv.entries_nil (h : DInv wants st) {w : Nat} (hw : st.wpc w = .idle ∨ st.wpc w = .stored) :
    entries st.log w = [] := by
  have := h.logSnap w
  unfold LogOk at this
  rcases hw with hw | hw <;> rwa [hw] at this

theorem entries_nil_not_mem {log : List (Nat × Nat × Bool)} {w : Nat} (h : entries log w = []) : ∀ e ∈ log, e.1 ≠ w := by
  intro e he hw
  have : e.2.1 ∈ entries log w := List.mem_map.mpr ⟨e, List.mem_filter.mpr ⟨he, by simp [hw]⟩, rfl⟩
  simp [h] at this

theorem DInv.cReq_upd (h : DInv wants st) {c : Nat} (hc : st.cpc c ≠ .idle) (p : CPc) :
    ∀ x, upd st.cpc c p x ≠ .idle → st.cancelReq (st.ctarget x) = true :=
  upd_forall (fun x (q : CPc) => q ≠ .idle → st.cancelReq (st.ctarget x) = true) (fun _ => h.cReq c hc) h.cReq

theorem DInv.snapAct_upd (h : DInv wants st) {w : Nat} (hw : isNotifying (st.wpc w) = true) (p : WPc) :
    ∀ x i, (isNotifying (upd st.wpc w p x) = true ∨ upd st.wpc w p x = .done) → st.activeAtStart x i = true →
      st.cancelReq i = false → i ∈ st.snap x :=
  upd_forall (fun x (q : WPc) => ∀ i, (isNotifying q = true ∨ q = .done) → st.activeAtStart x i = true →
    st.cancelReq i = false → i ∈ st.snap x) (fun i _ => h.snapAct w i (.inl hw)) h.snapAct

theorem nonidle_upd {w : Nat} {p : WPc} (hw : st.wpc w ≠ .idle) : ∀ x, upd st.wpc w p x ≠ .idle → st.wpc x ≠ .idle :=
  upd_forall (fun x (q : WPc) => q ≠ .idle → st.wpc x ≠ .idle) (fun _ => hw) (fun _ hx => hx)

theorem done_upd {w : Nat} {p : WPc} (hw : st.wpc w = .done → p = .done) :
    ∀ x, st.wpc x = .done → upd st.wpc w p x = .done :=
  upd_forall (fun x (q : WPc) => st.wpc x = .done → q = .done) hw (fun _ hx => hx)

theorem dinv_wStore {w : Nat} (h : DInv wants st) (hs : Step wants st (.wStore w) st') : DInv wants st' := by
  cases hs with
  | wStore hw =>
    have hent := h.entries_nil (.inl hw)
    have done := done_upd (st := st) (w := w) (p := .stored) (by simp [hw])
    exact { h with
      actMade := fun x i hx ha => by
        by_cases hxw : x = w
        · subst hxw; simpa using ha
        · exact h.actMade x i (by simpa [hxw] using hx) (by simpa [hxw] using ha)
      snapAct := fun x i hx ha hq => by
        by_cases hxw : x = w
        · subst hxw; simp [isNotifying] at hx
        · exact h.snapAct x i (by simpa [hxw] using hx) (by simpa [hxw] using ha) hq
      logSnap := fun x => by
        by_cases hxw : x = w
        · subst hxw; unfold LogOk; simp only [upd_same]; exact hent
        · exact logOk_frame (h.logSnap x) (upd_other _ _ _ _ hxw) rfl rfl
      markLe := upd_forall (fun _ m => m ≤ st.log.length) (Nat.le_refl _) h.markLe
      before := fun x hx e he => by
        by_cases hxw : x = w
        · subst hxw; exact entries_nil_not_mem hent e (List.mem_of_mem_take he)
        · exact h.before x (by simpa [hxw] using hx) e (by simp only [upd_other _ _ _ _ hxw] at he; exact he)
      after := fun w2 w1 hx hd => by
        by_cases hxw : w2 = w
        · -- `mark w` is the end of the log
          subst hxw
          exact ⟨done w1 (by simpa using hd), by simp⟩
        · obtain ⟨a, b⟩ := h.after w2 w1 (by simpa [hxw] using hx) (by simpa [hxw] using hd)
          exact ⟨done w1 a, by simp only [upd_other _ _ _ _ hxw]; exact b⟩ }

theorem dinv_wRLock {w : Nat} (hi : Inv st) (h : DInv wants st) (hs : Step wants st (.wRLock w) st') : DInv wants st' := by
  cases hs with
  | wRLock hw hwl =>
    have nonidle := nonidle_upd (p := .notifying st.subs) (by simp [hw] : st.wpc w ≠ .idle)
    exact { h with
      actMade := fun x i hx ha => h.actMade x i (nonidle x hx) ha
      snapAct := fun x i hx ha hq => by
        by_cases hxw : x = w
        · -- active at the start of `w` and not cancelled: still listed, and the list is the snapshot
          subst hxw; simpa using h.reqSubs i (h.actMade x i (by simp [hw]) ha) hq
        · simpa [hxw] using h.snapAct x i (by simpa [hxw] using hx) ha hq
      logSnap := fun x => by
        by_cases hxw : x = w
        · subst hxw; simp [LogOk, h.entries_nil (.inr hw)]
        · exact logOk_frame (h.logSnap x) (upd_other _ _ _ _ hxw) rfl (upd_other _ _ _ _ hxw)
      snapNodup := upd_forall (fun _ (l : List Nat) => l.Nodup) hi.subsNodup h.snapNodup
      before := fun x hx e he => h.before x (nonidle x hx) e he
      after := fun w2 w1 hx hd => by
        obtain ⟨a, b⟩ := h.after w2 w1 (nonidle w2 hx) hd
        exact ⟨done_upd (by simp [hw]) w1 a, b⟩ }

/-- One loop iteration of a notifier; `app` is what it appends to the log (nothing, or one attempt). -/
theorem dinv_visit {w i : Nat} {rem : List Nat} (h : DInv wants st) (hw : st.wpc w = .notifying (i :: rem))
    {app : List (Nat × Nat × Bool)} (happ : app = [] ∧ wants w i = false ∨ ∃ b, app = [(w, i, b)] ∧ wants w i = true)
    {log' : List (Nat × Nat × Bool)} (hlog : log' = st.log ++ app) {buf' : Nat → List Nat}
    (hfeed : ∀ j, st.consumed j ++ buf' j = acceptedBy log' j) :
    DInv wants { st with wpc := upd st.wpc w (.notifying rem), log := log', buf := buf' } := by
  subst hlog
  have nonidle := nonidle_upd (p := .notifying rem) (by simp [hw] : st.wpc w ≠ .idle)
  have appw : ∀ e ∈ app, e.1 = w ∧ wants e.1 e.2.1 = true := by
    rcases happ with ⟨rfl, _⟩ | ⟨b, rfl, hwy⟩ <;> simp [*]
  have hent : ∀ x, entries (st.log ++ app) x = entries st.log x ++ if x = w then [i].filter (wants w) else [] := by
    intro x
    rcases happ with ⟨rfl, hwn⟩ | ⟨b, rfl, hwy⟩
    · simp [hwn]
    · rw [entries_append]
      by_cases hx : x = w
      · simp [hx, hwy]
      · simp [hx, Ne.symm hx]
  exact { h with
    actMade := fun x j hx ha => h.actMade x j (nonidle x hx) ha
    snapAct := h.snapAct_upd (by rw [hw]; rfl) _
    logSnap := fun x => by
      have := h.logSnap x
      by_cases hxw : x = w
      · subst hxw
        unfold LogOk at this ⊢
        rw [hw] at this
        obtain ⟨pre, hp1, hp2⟩ := this
        simpa using ⟨pre ++ [i], by simp [hp1], by simp [hent, hp2]⟩
      · exact logOk_frame this (upd_other _ _ _ _ hxw) (by simp [hent, hxw]) rfl
    markLe := fun x => by have := h.markLe x; simp; omega
    before := fun x hx e he => by
      rw [List.take_append_of_le_length (h.markLe x)] at he
      exact h.before x (nonidle x hx) e he
    after := fun w2 w1 hx hd => by
      obtain ⟨a, b⟩ := h.after w2 w1 (nonidle w2 hx) hd
      refine ⟨done_upd (by simp [hw]) w1 a, fun e he => ?_⟩
      rw [List.drop_append_of_le_length (h.markLe w2)] at he
      rcases List.mem_append.mp he with he | he
      · exact b e he
      · rw [(appw e he).1]; exact fun e' => by simp [e', a] at hw
    feed := hfeed
    sound := fun e he => (List.mem_append.mp he).elim (h.sound e) fun he => (appw e he).2 }

theorem dinv_wRUnlock {w : Nat} (h : DInv wants st) (hs : Step wants st (.wRUnlock w) st') : DInv wants st' := by
  cases hs with
  | wRUnlock hw =>
    have nonidle := nonidle_upd (p := .done) (by simp [hw] : st.wpc w ≠ .idle)
    exact { h with
      actMade := fun x i hx ha => h.actMade x i (nonidle x hx) ha
      snapAct := h.snapAct_upd (by rw [hw]; rfl) _
      logSnap := fun x => by
        have := h.logSnap x
        by_cases hxw : x = w
        · subst hxw
          unfold LogOk at this ⊢
          rw [hw] at this
          obtain ⟨pre, hp1, hp2⟩ := this
          simpa [hp1] using hp2
        · exact logOk_frame this (upd_other _ _ _ _ hxw) rfl rfl
      before := fun x hx e he => h.before x (nonidle x hx) e he
      after := fun w2 w1 hx hd => by
        obtain ⟨a, b⟩ := h.after w2 w1 (nonidle w2 hx) hd
        exact ⟨done_upd (fun _ => rfl) w1 a, b⟩ }

theorem DInv.step {a : Act} (hi : Inv st) (h : DInv wants st) (hs : Step wants st a st') : DInv wants st' := by
  cases hs with
  | wStore hw => exact dinv_wStore h (.wStore hw)
  | wRLock hw hwl => exact dinv_wRLock hi h (.wRLock hw hwl)
  | wSkip hw hn => exact { dinv_visit h hw (.inl ⟨rfl, hn⟩) (List.append_nil _).symm h.feed with }
  | wPanic hw _ hcl => simp [hi.head_open hw] at hcl
  | @wSend _ i _ hw hy =>
    refine { dinv_visit h hw (.inr ⟨true, rfl, hy⟩) rfl fun j => ?_ with }
    rw [acceptedBy_append]
    by_cases hij : i = j
    · subst hij; simp [← h.feed i]
    · simpa [hij, Ne.symm hij] using h.feed j
  | wFull hw hy =>
    refine { dinv_visit h hw (.inr ⟨false, rfl, hy⟩) rfl fun j => ?_ with }
    simpa [acceptedBy_append] using h.feed j
  | wRUnlock hw => exact dinv_wRUnlock h (.wRUnlock hw)
  | @consume i _ _ hb =>
    exact { h with
      feed := fun j => by
        by_cases hji : j = i
        · subst hji; simp [← h.feed j, hb]
        · simpa [hji] using h.feed j }
  | @add i hwl hrd hmade =>
    exact { h with
      reqSubs := fun j hj hq => by
        by_cases hji : j = i
        · simp [hji]
        · exact List.mem_append_left _ (h.reqSubs j (by simpa [hji] using hj) hq)
      actMade := fun w j hw ha => upd_true_mono i (h.actMade w j hw ha) }
  | @cEnter c i hc hm =>
    have old : ∀ j, upd st.cancelReq i true j = false → st.cancelReq j = false := fun j hj => by
      by_cases hji : j = i
      · simp [hji] at hj
      · simpa [hji] using hj
    exact { h with
      cReq := fun x hx => by
        by_cases hxc : x = c
        · simp [hxc]
        · exact upd_true_mono i (by simpa [hxc] using h.cReq x (by simpa [hxc] using hx))
      reqSubs := fun j hj hq => h.reqSubs j hj (old j hq)
      snapAct := fun w j hw ha hq => h.snapAct w j hw ha (old j hq) }
  | @cRemove c hc =>
    have hreq := h.cReq c (by simp [hc])
    exact { h with
      cReq := h.cReq_upd (by simp [hc]) _
      reqSubs := fun j hj hq =>
        (List.mem_erase_of_ne fun e => by simp [e, hreq] at hq).mpr (h.reqSubs j hj hq) }
  | cLock hc | cMiss hc | cPanic hc | cClose hc | cUnlock hc => exact { h with cReq := h.cReq_upd (by simp [hc]) _ }

end

theorem dinv_reach {wants : Nat → Nat → Bool} {st : CSt} (h : Reach wants st) : DInv wants st := by
  induction h with
  | init => exact dinv_init wants
  | step a hr hs ih => exact .step (inv_reach hr) ih (.of_step hs)

/-! ## What a single step can do to the log and to closed flags -/

theorem step_log {wants : Nat → Nat → Bool} {st st' : CSt} {a : Act} (hs : step wants st a = some st') :
    st'.log = st.log ∨ ∃ w i rem b, a = .wVisit w ∧ st.wpc w = .notifying (i :: rem) ∧ st'.log = st.log ++ [(w, i, b)] := by
  cases Step.of_step hs with
  | wSend hw => exact .inr ⟨_, _, _, true, rfl, hw, rfl⟩
  | wFull hw => exact .inr ⟨_, _, _, false, rfl, hw, rfl⟩
  | _ => exact .inl rfl

theorem step_closed_mono {wants : Nat → Nat → Bool} {st st' : CSt} {a : Act} (hs : step wants st a = some st') (i : Nat)
    (hc : st.closed i = true) : st'.closed i = true := by
  cases Step.of_step hs with
  | @cClose c =>
    by_cases hi : i = st.ctarget c
    · simp [hi]
    · simpa [hi] using hc
  | _ => exact hc

/-- Run a list of actions (`none` if one of them is not enabled). -/
def runActs (wants : Nat → Nat → Bool) : List Act → CSt → Option CSt
  | [], st => some st
  | a :: as, st => (step wants st a).bind (runActs wants as)

theorem reach_runActs {wants : Nat → Nat → Bool} : ∀ (acts : List Act) (st st' : CSt), Reach wants st →
    runActs wants acts st = some st' → Reach wants st' := by
  intro acts
  induction acts with
  | nil => intro st st' hr h; simp [runActs] at h; exact h ▸ hr
  | cons a as ih =>
    intro st st' hr h
    simp only [runActs] at h
    cases hs : step wants st a with
    | none => rw [hs] at h; simp at h
    | some s1 => rw [hs] at h; exact ih s1 st' (Reach.step a hr hs) h

end PB.SubsConc
