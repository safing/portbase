import PB.Model.Record
import PBProofs.Lemmas.Varint
/- Helper lemmas for the stored-record model (C08). -/
namespace PB.Record
open PB PB.Varint

theorem toNat_ofNat_mod (n : Nat) : (UInt8.ofNat (n % 256)).toNat = n % 256 :=
  toNat_ofNat_lt (Nat.mod_lt n (by decide))

/-- `omega` is given the digits as successive quotients by 256: one linear equation each. -/
theorem bytesLE_sum (u : Nat) (h : u < 2^64) :
    u % 256 + u / 2^8 % 256 * 2^8 + u / 2^16 % 256 * 2^16 + u / 2^24 % 256 * 2^24 + u / 2^32 % 256 * 2^32
      + u / 2^40 % 256 * 2^40 + u / 2^48 % 256 * 2^48 + u / 2^56 % 256 * 2^56 = u := by
  have e (k : Nat) : u / 2 ^ (k + 8) = u / 2 ^ k / 256 := by rw [Nat.pow_add, Nat.div_div_eq_div_mul]
  rw [e 48, e 40, e 32, e 24, e 16, e 8, e 0, Nat.pow_zero, Nat.div_one]
  omega

theorem decodeLE_encode (x : Int) (h : inInt64 x) :
    decodeLE (UInt8.ofNat (ofInt64 x % 256)) (UInt8.ofNat (ofInt64 x / 2^8 % 256)) (UInt8.ofNat (ofInt64 x / 2^16 % 256))
      (UInt8.ofNat (ofInt64 x / 2^24 % 256)) (UInt8.ofNat (ofInt64 x / 2^32 % 256)) (UInt8.ofNat (ofInt64 x / 2^40 % 256))
      (UInt8.ofNat (ofInt64 x / 2^48 % 256)) (UInt8.ofNat (ofInt64 x / 2^56 % 256)) = x := by
  unfold decodeLE
  simp only [toNat_ofNat_mod]
  rw [bytesLE_sum _ (by unfold ofInt64; omega), toInt64_ofInt64 x h.1 h.2]

theorem flagByte_eq_one (b : Bool) : (flagByte b == 1) = b := by
  cases b <;> simp [flagByte]

theorem genCodeMarshal_length (m : Meta) : (genCodeMarshal m).length = 34 := rfl

theorem genCode_roundtrip (m : Meta) (h : m.InRange) (rest : Bytes) :
    genCodeUnmarshal (genCodeMarshal m ++ rest) = some m := by
  obtain ⟨h1, h2, h3, h4⟩ := h
  simp only [genCodeMarshal, encodeLE, List.cons_append, List.nil_append, genCodeUnmarshal,
    decodeLE_encode _ h1, decodeLE_encode _ h2, decodeLE_encode _ h3, decodeLE_encode _ h4, flagByte_eq_one]

/-- The container calls of `MarshalRecord` produce the flat layout. -/
theorem marshalRecord_flat (m : Meta) (ds : Bytes) :
    marshalRecord m ds = [1] ++ (pack64 (metaSection m).length ++ (metaSection m ++ ds)) := by
  simp [marshalRecord, PB.Container.new, PB.Container.appendAsBlock, PB.Container.appendNumber,
    PB.Container.append, PB.Container.compileData]

theorem metaSection_eq (m : Meta) : metaSection m = 71 :: genCodeMarshal m := by
  simp [metaSection, pack8, fGenCode]

theorem loadMeta_metaSection (m : Meta) (h : m.InRange) : loadMeta (metaSection m) = .ok m := by
  have hg := genCode_roundtrip m h []
  rw [List.append_nil] at hg
  rw [metaSection_eq]
  simp [loadMeta, unpack8, genCodeMarshal_length m, fRAW, fGenCode, hg]

theorem marshalBase_eq_marshalWrapper (m : Meta) (json : Bytes) : marshalBase m json = marshalWrapper m 74 json := by
  by_cases hd : m.deleted > 0 <;> simp [marshalBase, marshalWrapper, wrapperDataSection, hd, pack8, fJSON]

end PB.Record
