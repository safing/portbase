import PB.Model.Iter
/- Invariants of the hand-over model `PB.Iter.HandOver` (C03: a running query against concurrent re-flagging). -/
namespace PB.Iter

/-- Induction over schedules, for any `exec` that runs a partial step function along a list (the two equations). -/
theorem exec_inv_of {σ α : Type} (step : σ → α → Option σ) (exec : σ → List α → Option σ)
    (hnil : ∀ s, exec s [] = some s)
    (hcons : ∀ s a rest, exec s (a :: rest) = match step s a with | some s' => exec s' rest | none => none)
    {P : σ → Prop} (hstep : ∀ s s' a, P s → step s a = some s' → P s') :
    ∀ (sched : List α) (s s' : σ), P s → exec s sched = some s' → P s' := by
  intro sched
  induction sched with
  | nil => intro s s' h hs; rw [hnil] at hs; cases hs; exact h
  | cons a rest ih =>
    intro s s' h hs
    rw [hcons] at hs
    split at hs
    · next s1 h1 => exact ih s1 s' (hstep s s1 a h h1) hs
    · cases hs

theorem exec_inv {P : St → Prop} (hstep : ∀ s s' a, P s → step s a = some s' → P s') :
    ∀ (sched : List Act) (s s' : St), P s → exec s sched = some s' → P s' :=
  exec_inv_of step exec (fun _ => rfl) (fun s a _ => by rw [exec]; cases step s a <;> rfl) hstep

end PB.Iter

namespace PB.Iter.HandOver

theorem exec_inv {P : St → Prop} (hstep : ∀ s s' a, P s → step s a = some s' → P s') :
    ∀ (sched : List Act) (s s' : St), P s → exec s sched = some s' → P s' :=
  exec_inv_of step exec (fun _ => rfl) (fun s a _ => by rw [exec]; cases step s a <;> rfl) hstep

/-- `y` is not on its way to the consumer: what the third and fourth part of `Inv` say of every `y` they speak of. -/
def Away (s : St) (y : Nat) : Prop := y ∉ s.recvd ∧ y ∉ s.buf ∧ s.hand ≠ some y

/-- Nothing that still waits for its check, and nothing that was marked while it waited, is on its way to the consumer. -/
def Inv (s : St) : Prop :=
  s.todo.Nodup ∧ (∀ x ∈ s.due, x ∈ s.prot) ∧
  (∀ x ∈ s.todo, x ∉ s.recvd ∧ x ∉ s.buf ∧ s.hand ≠ some x) ∧
  (∀ x ∈ s.due, x ∉ s.recvd ∧ x ∉ s.buf ∧ s.hand ≠ some x)

theorem inv_init (todo : List Nat) (cap : Nat) (h : todo.Nodup) : Inv (init todo cap) := by
  refine ⟨h, ?_, ?_, ?_⟩ <;> simp [init]

theorem Away.send {s : St} {x y : Nat} (h : Away s y) (hh : s.hand = some x) :
    Away { s with hand := none, buf := s.buf ++ [x] } y := by
  refine ⟨h.1, fun hm => ?_, nofun⟩
  rcases List.mem_append.1 hm with h1 | h1
  · exact h.2.1 h1
  · exact h.2.2 (by rw [hh, List.mem_singleton.1 h1])

theorem Away.recv {s : St} {x y : Nat} {rest : List Nat} (h : Away s y) (hb : s.buf = x :: rest) :
    Away { s with buf := rest, recvd := x :: s.recvd } y := by
  obtain ⟨h1, h2, h3⟩ := h
  rw [hb, List.mem_cons, not_or] at h2
  exact ⟨fun hm => (List.mem_cons.1 hm).elim h2.1 h1, h2.2, h3⟩

theorem inv_step (s s' : St) (a : Act) (hi : Inv s) (hs : step s a = some s') : Inv s' := by
  obtain ⟨hnd, hdp, htd, hdu⟩ := hi
  cases a with simp only [step] at hs
  | check =>
    split at hs
    · next x rest hh ht =>
      rw [ht] at hnd htd
      obtain ⟨hx, hrest⟩ := List.nodup_cons.1 hnd
      have htd' : ∀ y ∈ rest, Away s y := fun y hy => htd y (List.mem_cons_of_mem _ hy)
      split at hs <;> cases hs
      · exact ⟨hrest, hdp, htd', hdu⟩
      · next hnp =>
        -- the new hand-over `x` is neither waiting any more (distinct keys) nor was it marked while it waited
        exact ⟨hrest, hdp,
          fun y hy => ⟨(htd' y hy).1, (htd' y hy).2.1, fun e => hx (Option.some.inj e ▸ hy)⟩,
          fun y hy => ⟨(hdu y hy).1, (hdu y hy).2.1, fun e => hnp (Option.some.inj e ▸ hdp y hy)⟩⟩
    · cases hs
  | send =>
    split at hs
    · next x hh =>
      split at hs <;> cases hs
      exact ⟨hnd, hdp, fun y hy => Away.send (htd y hy) hh, fun y hy => Away.send (hdu y hy) hh⟩
    · cases hs
  | recv =>
    split at hs
    · next x rest hb =>
      cases hs
      exact ⟨hnd, hdp, fun y hy => Away.recv (htd y hy) hb, fun y hy => Away.recv (hdu y hy) hb⟩
    · cases hs
  | protect x =>
    cases hs
    refine ⟨hnd, fun y hy => ?_, htd, fun y hy => ?_⟩ <;> dsimp only at hy ⊢ <;> split at hy
    · exact (List.mem_cons.1 hy).elim (fun e => e ▸ List.mem_cons_self) fun h => List.mem_cons_of_mem _ (hdp y h)
    · exact List.mem_cons_of_mem _ (hdp y hy)
    · next hx => exact (List.mem_cons.1 hy).elim (fun e => e ▸ htd x hx) (hdu y)
    · exact hdu y hy

theorem inv_exec (sched : List Act) (s s' : St) (hi : Inv s) (hs : exec s sched = some s') : Inv s' :=
  exec_inv inv_step sched s s' hi hs

theorem buf_le_cap_exec (sched : List Act) (s s' : St) (hb : s.buf.length ≤ s.cap) (hs : exec s sched = some s') :
    s'.buf.length ≤ s'.cap ∧ s'.cap = s.cap := by
  refine exec_inv (P := fun x => x.buf.length ≤ x.cap ∧ x.cap = s.cap) (fun s1 s2 a h h12 => ?_) sched s s' ⟨hb, rfl⟩ hs
  cases a with simp only [step] at h12
  | check =>
    split at h12
    · split at h12 <;> cases h12 <;> exact h
    · cases h12
  | send =>
    split at h12
    · split at h12 <;> cases h12
      next hlt => exact ⟨by simp; exact hlt, h.2⟩
    · cases h12
  | recv =>
    split at h12
    · next x rest hbuf =>
      cases h12
      exact ⟨by have := h.1; rw [hbuf] at this; exact Nat.le_of_succ_le this, h.2⟩
    · cases h12
  | protect x => cases h12; exact h

/-- Every candidate still to be visited is marked (the re-flag of all of them has returned). -/
def Closed (s : St) : Prop := ∀ x ∈ s.todo, x ∈ s.prot

theorem closed_step (s s' : St) (a : Act) (hc : Closed s) (hs : step s a = some s') :
    Closed s' ∧ inFlight s' ≤ inFlight s := by
  cases a with simp only [step] at hs
  | check =>
    split at hs
    · next x rest hh ht =>
      rw [if_pos (hc x (ht ▸ List.mem_cons_self))] at hs
      cases hs
      exact ⟨fun y hy => hc y (ht ▸ List.mem_cons_of_mem _ hy), Nat.le_refl _⟩
    · cases hs
  | send =>
    split at hs
    · next x hh =>
      split at hs <;> cases hs
      exact ⟨hc, by simp [inFlight, hh]; omega⟩
    · cases hs
  | recv =>
    split at hs
    · next x rest hbuf => cases hs; exact ⟨hc, by simp [inFlight, hbuf]; omega⟩
    · cases hs
  | protect x => cases hs; exact ⟨fun y hy => List.mem_cons_of_mem _ (hc y hy), Nat.le_refl _⟩

theorem closed_exec (sched : List Act) (s s' : St) (hc : Closed s) (hs : exec s sched = some s') :
    inFlight s' ≤ inFlight s :=
  (exec_inv (P := fun x => Closed x ∧ inFlight x ≤ inFlight s)
    (fun s1 s2 a h h12 => ⟨(closed_step s1 s2 a h.1 h12).1, Nat.le_trans (closed_step s1 s2 a h.1 h12).2 h.2⟩)
    sched s s' ⟨hc, Nat.le_refl _⟩ hs).2

end PB.Iter.HandOver
