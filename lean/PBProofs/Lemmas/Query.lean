import PB.Model.Query
import PB.Spec.Query
/-
The two halves of `grammar_complete` (C11): a rendered sentence tokenizes to `Sentence.toks` (read from its end through
`Lx`), and these words parse to `Sentence.query` (one equation of `parseAndOr` per kind of word).
-/
namespace PB.Query

theorem unesc_cons_ne {c : Char} (r : List Char) (h : c ≠ '\\') : unesc (c :: r) = c :: unesc r := by
  cases r <;> simp [unesc, h]

theorem unesc_bs_cons (d : Char) (r : List Char) : unesc ('\\' :: d :: r) = d :: unesc r := by
  simp [unesc]

theorem unesc_escBody (t : List Char) : unesc (escBody t) = t := by
  induction t with
  | nil => simp [escBody, unesc]
  | cons c r ih =>
    by_cases h : c = '\\' ∨ c = '"'
    · simp [escBody, h, unesc_bs_cons, ih]
    · have h1 : c ≠ '\\' := fun e => h (Or.inl e)
      simp [escBody, h, unesc_cons_ne _ h1, ih]

theorem special_of_bs {c : Char} (h : c = '\\') : isSpecial c = true := by subst h; decide
theorem special_of_quote {c : Char} (h : c = '"') : isSpecial c = true := by subst h; decide

theorem unesc_bsl (t : List Char) : unesc (bsl t) = t := by
  induction t with
  | nil => simp [bsl, unesc]
  | cons c r ih =>
    by_cases h : isSpecial c = true
    · simp [bsl, h, unesc_bs_cons, ih]
    · have h1 : c ≠ '\\' := fun e => h (special_of_bs e)
      simp [bsl, h, unesc_cons_ne _ h1, ih]

theorem bsl_noSpecial (t : List Char) (h : t.any isSpecial = false) : bsl t = t := by
  induction t with
  | nil => simp [bsl]
  | cons c r ih =>
    simp only [List.any_cons, Bool.or_eq_false_iff] at h
    simp [bsl, h.1, ih h.2]

theorem lex_skip (m : Mode) (c : Char) (rest : List Char) :
    lexAux true m (c :: rest) = lexAux false (m.push c) rest := by
  cases m <;> simp [lexAux]
theorem lex_quote_close (acc rest : List Char) :
    lexAux false (.quote acc) ('"' :: rest) = (prepToken acc :: ·) <$> lexAux false .idle rest := by
  simp [lexAux]
theorem lex_quote_char (acc rest : List Char) (c : Char) (h : c ≠ '"') :
    lexAux false (.quote acc) (c :: rest) = lexAux (decide (c = '\\')) (.quote (acc ++ [c])) rest := by
  simp [lexAux, h]
theorem lex_idle_sep (c : Char) (rest : List Char) (h : isSep c = true) :
    lexAux false .idle (c :: rest) = (if c = '(' ∨ c = ')' then ([c] :: ·) else id) <$> lexAux false .idle rest := by
  simp [lexAux, h]
theorem lex_idle_quote (rest : List Char) : lexAux false .idle ('"' :: rest) = lexAux false (.quote []) rest := by
  simp [lexAux, isSep]
theorem lex_idle_char (c : Char) (rest : List Char) (h : isSep c = false) (h2 : c ≠ '"') :
    lexAux false .idle (c :: rest) = lexAux (decide (c = '\\')) (.word [c]) rest := by
  simp [lexAux, h, h2]
theorem lex_word_sep (acc : List Char) (c : Char) (rest : List Char) (h : isSep c = true) :
    lexAux false (.word acc) (c :: rest) =
      (fun ts => prepToken acc :: (if c = '(' ∨ c = ')' then [c] :: ts else ts)) <$> lexAux false .idle rest := by
  simp [lexAux, h]
theorem lex_word_char (acc : List Char) (c : Char) (rest : List Char) (h : isSep c = false) (h2 : c ≠ '"') :
    lexAux false (.word acc) (c :: rest) = lexAux (decide (c = '\\')) (.word (acc ++ [c])) rest := by
  simp [lexAux, h, h2]

/-- The rest of the input lets a plain word end here: end of input or a separator. -/
def sepStart : List Char → Bool
  | [] => true
  | c :: _ => isSep c

/-- `s` may follow a plain word, and tokenizes to `ts`. -/
def Lx (s : List Char) (ts : List Tok) : Prop := sepStart s = true ∧ lexAux false .idle s = .ok ts

theorem sep_special {c : Char} (h : isSep c = true) : isSpecial c = true := by
  simp only [isSep, Bool.or_eq_true, decide_eq_true_eq] at h
  simp only [isSpecial, Bool.or_eq_true, decide_eq_true_eq]
  rcases h with ((((h | h) | h) | h) | h) | h <;> simp [h]

theorem not_sep_of_not_special {c : Char} (h : isSpecial c = false) : isSep c = false := by
  cases hs : isSep c with
  | false => rfl
  | true => rw [sep_special hs] at h; cases h

theorem lex_word_end (acc rest : List Char) (ts : List Tok) (h : Lx rest ts) :
    lexAux false (.word acc) rest = .ok (prepToken acc :: ts) := by
  obtain ⟨hs, h⟩ := h
  cases rest with
  | nil => simp [lexAux] at h ⊢; exact h
  | cons s r =>
    simp only [sepStart] at hs
    rw [lex_idle_sep s r hs] at h
    rw [lex_word_sep acc s r hs]
    cases hr : lexAux false .idle r with
    | error e => rw [hr] at h; cases h
    | ok ts' =>
      rw [hr] at h
      by_cases hp : s = '(' ∨ s = ')'
      · simp only [hp, if_true] at h ⊢
        cases h; rfl
      · simp only [hp, if_false] at h ⊢
        cases h; rfl

theorem lex_word_scan (w acc rest : List Char) :
    lexAux false (.word acc) (bsl w ++ rest) = lexAux false (.word (acc ++ bsl w)) rest := by
  induction w generalizing acc with
  | nil => simp [bsl]
  | cons c r ih =>
    by_cases h : isSpecial c = true
    · simp only [bsl, h, if_true, List.cons_append]
      rw [lex_word_char acc '\\' _ (by decide) (by decide)]
      simp only [decide_true, lex_skip, Mode.push]
      rw [ih]; simp
    · have hf : isSpecial c = false := by simpa using h
      have h1 : c ≠ '\\' := fun e => h (special_of_bs e)
      have h2 : c ≠ '"' := fun e => h (special_of_quote e)
      simp only [bsl, hf, Bool.false_eq_true, if_false, List.cons_append]
      rw [lex_word_char acc c _ (not_sep_of_not_special hf) h2]
      simp only [h1, decide_false]
      rw [ih]; simp

theorem lex_idle_word (c : Char) (rest : List Char) (h : isSep c = false) (h2 : c ≠ '"') :
    lexAux false .idle (c :: rest) = lexAux false (.word []) (c :: rest) := by
  rw [lex_idle_char c rest h h2, lex_word_char [] c rest h h2]; rfl

theorem bsl_head (w : List Char) (hw : w ≠ []) : ∃ c r, bsl w = c :: r ∧ isSep c = false ∧ c ≠ '"' := by
  cases w with
  | nil => exact absurd rfl hw
  | cons c r =>
    by_cases h : isSpecial c = true
    · exact ⟨'\\', c :: bsl r, by simp [bsl, h], by decide, by decide⟩
    · have hf : isSpecial c = false := by simpa using h
      exact ⟨c, bsl r, by simp [bsl, hf], not_sep_of_not_special hf, fun e => h (special_of_quote e)⟩

theorem lex_idle_bsl (w rest : List Char) (hw : w ≠ []) :
    lexAux false .idle (bsl w ++ rest) = lexAux false (.word (bsl w)) rest := by
  obtain ⟨c, r, hc, hs, hq⟩ := bsl_head w hw
  rw [hc, List.cons_append, lex_idle_word c _ hs hq, ← List.cons_append, ← hc, lex_word_scan, List.nil_append]

theorem trimQuote_cons {c : Char} (r : List Char) (h : c ≠ '"') : trimQuote (c :: r) = c :: r := by
  simp [trimQuote, h]

theorem prep_bsl (w : List Char) : prepToken (bsl w) = w := by
  by_cases hw : w = []
  · subst hw; rfl
  · obtain ⟨c, r, hc, _, hq⟩ := bsl_head w hw
    rw [prepToken, hc, trimQuote_cons r hq, ← hc, unesc_bsl]

theorem lex_bsl_word (w rest : List Char) (ts : List Tok) (hw : w ≠ []) (h : Lx rest ts) :
    lexAux false .idle (bsl w ++ rest) = .ok (w :: ts) := by
  rw [lex_idle_bsl w rest hw, lex_word_end _ rest ts h, prep_bsl]

theorem lex_quote_scan (w acc rest : List Char) :
    lexAux false (.quote acc) (escBody w ++ '"' :: rest) =
      (prepToken (acc ++ escBody w) :: ·) <$> lexAux false .idle rest := by
  induction w generalizing acc with
  | nil => simp [escBody, lex_quote_close]
  | cons c r ih =>
    by_cases h : c = '\\' ∨ c = '"'
    · simp only [escBody, h, if_true, List.cons_append]
      rw [lex_quote_char acc _ '\\' (by decide)]
      simp only [decide_true, lex_skip, Mode.push]
      rw [ih]; simp
    · have h1 : c ≠ '\\' := fun e => h (Or.inl e)
      have h2 : c ≠ '"' := fun e => h (Or.inr e)
      simp only [escBody, h, if_false, List.cons_append]
      rw [lex_quote_char acc _ c h2]
      simp only [h1, decide_false]
      rw [ih]; simp

theorem escBody_head {w : List Char} {c : Char} {r : List Char} (h : escBody w = c :: r) : c ≠ '"' := by
  cases w with
  | nil => cases h
  | cons d t =>
    by_cases hd : d = '\\' ∨ d = '"'
    · simp only [escBody, hd, if_true, List.cons.injEq] at h; rw [← h.1]; decide
    · simp only [escBody, hd, if_false, List.cons.injEq] at h; rw [← h.1]; exact fun e => hd (.inr e)

theorem prep_escBody (w : List Char) : prepToken (escBody w) = w := by
  cases hc : escBody w with
  | nil => rw [← unesc_escBody w, hc]; rfl
  | cons c r => rw [prepToken, trimQuote_cons r (escBody_head hc), ← hc, unesc_escBody]

theorem lex_quoted_word (w rest : List Char) (ts : List Tok)
    (h : lexAux false .idle rest = .ok ts) : lexAux false .idle ('"' :: escBody w ++ '"' :: rest) = .ok (w :: ts) := by
  rw [List.cons_append, lex_idle_quote, lex_quote_scan, h]
  simp only [List.nil_append, prep_escBody]
  rfl

theorem ws_sep {c : Char} (h : isWs c = true) : isSep c = true ∧ ¬ (c = '(' ∨ c = ')') := by
  simp only [isWs, Bool.or_eq_true, decide_eq_true_eq] at h
  rcases h with ((h | h) | h) | h <;> subst h <;> decide

theorem lex_ws (g rest : List Char) (hg : g.all isWs = true) :
    lexAux false .idle (g ++ rest) = lexAux false .idle rest := by
  induction g with
  | nil => rfl
  | cons c r ih =>
    simp only [List.all_cons, Bool.and_eq_true] at hg
    obtain ⟨hsep, hnp⟩ := ws_sep hg.1
    rw [List.cons_append, lex_idle_sep c _ hsep, ih hg.2]
    simp only [hnp, if_false]
    cases lexAux false .idle rest <;> rfl

theorem sepStart_ws (g rest : List Char) (hg : g.all isWs = true) (h : g ≠ [] ∨ sepStart rest = true) :
    sepStart (g ++ rest) = true := by
  cases g with
  | nil => exact h.resolve_left (fun h => h rfl)
  | cons c r =>
    simp only [List.all_cons, Bool.and_eq_true] at hg
    exact (ws_sep hg.1).1

theorem lex_word (w : Word) (rest : List Char) (ts : List Tok) (hw : w.wf = true) (h : Lx rest ts) :
    lexAux false .idle (w.render ++ rest) = .ok (w.text :: ts) := by
  obtain ⟨st, t⟩ := w
  cases st with
  | raw =>
    simp only [Word.wf, Bool.and_eq_true, Bool.not_eq_true', List.isEmpty_eq_false_iff] at hw
    have := lex_bsl_word t rest ts hw.1 h
    rw [bsl_noSpecial t hw.2] at this
    simpa [Word.render] using this
  | quoted =>
    have := lex_quoted_word t rest ts h.2
    simpa [Word.render] using this
  | bslash =>
    simp only [Word.wf, Bool.not_eq_true', List.isEmpty_eq_false_iff] at hw
    simpa [Word.render] using lex_bsl_word t rest ts hw h

theorem lex_kw (k rest : List Char) (ts : List Tok) (hk : plainWord k = true) (h : Lx rest ts) :
    lexAux false .idle (k ++ rest) = .ok (k :: ts) :=
  lex_word ⟨.raw, k⟩ rest ts hk h

theorem Lx_gap (g rest : List Char) (ts : List Tok) (hg : gapOK g = true)
    (h : lexAux false .idle rest = .ok ts) : Lx (g ++ rest) ts := by
  simp only [gapOK, Bool.and_eq_true, Bool.not_eq_true', List.isEmpty_eq_false_iff] at hg
  exact ⟨sepStart_ws g rest hg.2 (.inl hg.1), by rw [lex_ws g rest hg.2, h]⟩

theorem Lx_ws (g rest : List Char) (ts : List Tok) (hg : g.all isWs = true) (h : Lx rest ts) : Lx (g ++ rest) ts :=
  ⟨sepStart_ws g rest hg (.inr h.1), by rw [lex_ws g rest hg, h.2]⟩

theorem Lx_gap_word (g : List Char) (w : Word) (rest : List Char) (ts : List Tok) (hg : gapOK g = true)
    (hw : w.wf = true) (h : Lx rest ts) : Lx (g ++ (w.render ++ rest)) (w.text :: ts) :=
  Lx_gap g _ _ hg (lex_word w rest ts hw h)

theorem Lx_gap_kw (g k rest : List Char) (ts : List Tok) (hg : gapOK g = true)
    (hk : plainWord k = true) (h : Lx rest ts) : Lx (g ++ (k ++ rest)) (k :: ts) :=
  Lx_gap g _ _ hg (lex_kw k rest ts hk h)

theorem Lx_paren {c : Char} (hc : c = '(' ∨ c = ')') (rest : List Char) (ts : List Tok)
    (h : lexAux false .idle rest = .ok ts) : Lx (c :: rest) ([c] :: ts) := by
  rcases hc with rfl | rfl <;> exact ⟨rfl, by rw [lex_idle_sep _ rest rfl, h]; rfl⟩

theorem Lx_nil : Lx [] [] := ⟨rfl, rfl⟩

theorem lookupOpIn_mem (n : Tok) (op : Nat) : ∀ l : List (String × Nat), lookupOpIn n l = some op →
    ∃ k, (k, op) ∈ l ∧ k.toList = n
  | [], h => by simp [lookupOpIn] at h
  | (k, v) :: rest, h => by
    simp only [lookupOpIn] at h
    by_cases hk : k.toList = n
    · simp only [hk, if_true, Option.some.injEq] at h
      exact ⟨k, by simp [h], hk⟩
    · simp only [hk, if_false] at h
      obtain ⟨k', hm, hk'⟩ := lookupOpIn_mem n op rest h
      exact ⟨k', List.mem_cons_of_mem _ hm, hk'⟩

theorem operator_names :
    (∀ p ∈ PB.Gen.Query.operatorNames, lookupOp p.1.toList = some p.2 ∧ plainWord p.1.toList = true)
    ∧ lookupOp kwNot = none := by decide

theorem lookupOp_plain {n : Tok} {op : Nat} (h : lookupOp n = some op) : plainWord n = true := by
  obtain ⟨k, hm, hk⟩ := lookupOpIn_mem n op _ h
  exact hk ▸ (operator_names.1 (k, op) hm).2

mutual
def SCond.toks : SCond → List Tok
  | .clause _ key opn neg val =>
    (if neg = 2 then [kwNot] else []) ++ key.text :: ((if neg = 1 then [kwNot] else []) ++
      opn :: (match val with | none => [] | some v => [v.text]))
  | .group isOr _ _ _ neg kids =>
    (if neg then [kwNot] else []) ++ kwLp :: (membersToks (connective isOr) kids ++ [kwRp])
def membersToks (conn : Tok) : List SCond → List Tok
  | [] => []
  | c :: cs => match cs with
    | [] => c.toks
    | _ :: _ => c.toks ++ conn :: membersToks conn cs
end

theorem plain_not : plainWord kwNot = true := by decide
theorem plain_conn (b : Bool) : plainWord (connective b) = true := by cases b <;> decide

theorem group_wf {isOr : Bool} {g p ng : List Char} {neg : Bool} {kids : List SCond}
    (h : (SCond.group isOr g p ng neg kids).wf = true) :
    gapOK g = true ∧ p.all isWs = true ∧ ng.all isWs = true ∧ kidsWf kids = true ∧ kids ≠ [] ∧ 2 ≤ kids.length := by
  simp only [SCond.wf, Bool.and_eq_true, decide_eq_true_eq] at h
  obtain ⟨⟨⟨⟨hg, hp⟩, hng⟩, hk⟩, hlen⟩ := h
  exact ⟨hg, hp, hng, hk, by intro e; subst e; simp at hlen, hlen⟩

theorem lex_clause_core (g : List Char) (key : Word) (opn : Tok) (neg : Nat) (hg : gapOK g = true)
    (hkey : key.wf = true) (hopn : plainWord opn = true) (hneg : neg ≤ 2) (X : List Char) (T : List Tok) (hX : Lx X T) :
    lexAux false .idle ((if neg = 2 then kwNot ++ g else []) ++ (key.render ++ ((if neg = 1 then g ++ kwNot else []) ++
      (g ++ (opn ++ X))))) =
      .ok ((if neg = 2 then [kwNot] else []) ++ key.text :: ((if neg = 1 then [kwNot] else []) ++ opn :: T)) := by
  have hop' := Lx_gap_kw g opn _ _ hg hopn hX
  have hneg3 : neg = 0 ∨ neg = 1 ∨ neg = 2 := by omega
  rcases hneg3 with rfl | rfl | rfl
  · have := lex_word key _ _ hkey hop'
    simpa [List.append_assoc] using this
  · have h1 := Lx_gap_kw g kwNot _ _ hg plain_not hop'
    have := lex_word key _ _ hkey h1
    simpa [List.append_assoc] using this
  · have h1 := Lx_gap_word g key _ _ hg hkey hop'
    have := lex_kw kwNot _ _ plain_not h1
    simpa [List.append_assoc] using this

theorem lex_clause (g : List Char) (key : Word) (opn : Tok) (neg : Nat) (val : Option Word)
    (hwf : (SCond.clause g key opn neg val).wf = true) (rest : List Char) (ts : List Tok) (h : Lx rest ts) :
    lexAux false .idle ((SCond.clause g key opn neg val).render ++ rest) =
      .ok ((SCond.clause g key opn neg val).toks ++ ts) := by
  simp only [SCond.wf, Bool.and_eq_true, decide_eq_true_eq, Bool.not_eq_true'] at hwf
  obtain ⟨⟨⟨⟨hg, hkey⟩, _⟩, hneg⟩, hop⟩ := hwf
  cases hl : lookupOp opn with
  | none => simp [hl] at hop
  | some op =>
    have hopn := lookupOp_plain hl
    simp only [hl] at hop
    cases val with
    | none =>
      have := lex_clause_core g key opn neg hg hkey hopn hneg rest ts h
      simpa [SCond.render, SCond.toks, List.append_assoc] using this
    | some v =>
      simp only [Bool.and_eq_true] at hop
      have := lex_clause_core g key opn neg hg hkey hopn hneg _ _ (Lx_gap_word g v rest ts hg hop.2 h)
      simpa [SCond.render, SCond.toks, List.append_assoc] using this

mutual
theorem lex_scond : (c : SCond) → c.wf = true → ∀ (rest : List Char) (ts : List Tok), Lx rest ts →
    lexAux false .idle (c.render ++ rest) = .ok (c.toks ++ ts)
  | .clause g key opn neg val, hwf, rest, ts, h => lex_clause g key opn neg val hwf rest ts h
  | .group isOr g p ng neg kids, hwf, rest, ts, h => by
    obtain ⟨hg, hp, hng, hk, hne, _⟩ := group_wf hwf
    have h1 : Lx (p ++ ')' :: rest) (kwRp :: ts) := Lx_ws p _ _ hp (Lx_paren (.inr rfl) rest ts h.2)
    have h2 := lex_members isOr g kids hk hne (p ++ ')' :: rest) (kwRp :: ts) h1 hg
    have h3 : Lx ('(' :: (p ++ (renderMembers (g ++ connective isOr ++ g) kids ++ (p ++ ')' :: rest))))
        (kwLp :: (membersToks (connective isOr) kids ++ kwRp :: ts)) :=
      Lx_paren (.inl rfl) _ _ (by rw [lex_ws p _ hp]; exact h2)
    cases neg with
    | false => simpa [SCond.render, SCond.toks, List.append_assoc] using h3.2
    | true =>
      have h4 := lex_kw kwNot _ _ plain_not (Lx_ws ng _ _ hng h3)
      simpa [SCond.render, SCond.toks, List.append_assoc] using h4
theorem lex_members (isOr : Bool) (g : List Char) : (cs : List SCond) → kidsWf cs = true → cs ≠ [] →
    ∀ (rest : List Char) (ts : List Tok), Lx rest ts → gapOK g = true →
    lexAux false .idle (renderMembers (g ++ connective isOr ++ g) cs ++ rest) =
      .ok (membersToks (connective isOr) cs ++ ts)
  | [], _, hne, _, _, _, _ => absurd rfl hne
  | [c], hk, _, rest, ts, h, _ => by
    simp only [kidsWf, Bool.and_eq_true] at hk
    simpa [renderMembers, membersToks] using lex_scond c hk.1 rest ts h
  | c :: c' :: cs, hk, _, rest, ts, h, hg => by
    simp only [kidsWf, Bool.and_eq_true] at hk
    have hk' : kidsWf (c' :: cs) = true := by simp [kidsWf, hk.2.1, hk.2.2]
    have ih := lex_members isOr g (c' :: cs) hk' (by simp) rest ts h hg
    have h1 : Lx (g ++ (renderMembers (g ++ connective isOr ++ g) (c' :: cs) ++ rest))
        (membersToks (connective isOr) (c' :: cs) ++ ts) := Lx_gap g _ _ hg ih
    have h2 := Lx_gap_kw g (connective isOr) _ _ hg (plain_conn isOr) h1
    have := lex_scond c hk.1 _ _ h2
    simpa [renderMembers, membersToks, List.append_assoc] using this
end

theorem digit_not_special {c : Char} (h : isDigit c = true) : isSpecial c = false := by
  cases hs : isSpecial c with
  | false => rfl
  | true =>
    simp only [isSpecial, Bool.or_eq_true, decide_eq_true_eq] at hs
    rcases hs with ((((((h' | h') | h') | h') | h') | h') | h') | h' <;> subst h' <;> revert h <;> decide

theorem parseNatAux_all_digits : ∀ (t : List Char) (a n : Nat), parseNatAux a t = some n → t.any isSpecial = false
  | [], _, _, _ => rfl
  | c :: r, a, n, h => by
    simp only [parseNatAux] at h
    by_cases hd : isDigit c = true
    · simp only [hd, if_true] at h
      simp [digit_not_special hd, parseNatAux_all_digits r _ n h]
    · simp [hd] at h

theorem parseNat_plain {t : List Char} {n : Nat} (h : parseNat t = some n) : plainWord t = true := by
  simp only [parseNat] at h
  by_cases ht : t = []
  · simp [ht] at h
  · simp only [ht, if_false] at h
    simp [plainWord, ht, parseNatAux_all_digits t 0 n h]

theorem parseUint31_plain {t : List Char} (h : (parseUint31 t).isSome = true) : plainWord t = true := by
  simp only [parseUint31] at h
  cases hp : parseNat t with
  | none => simp [hp] at h
  | some n => exact parseNat_plain hp

def Sentence.whereToks (s : Sentence) : List Tok :=
  match s.where_ with
  | none => []
  | some c => kwWhere :: (match c with
    | .group isOr _ _ _ false kids => if s.strip then membersToks (connective isOr) kids else c.toks
    | _ => c.toks)

def Sentence.tailToks (s : Sentence) : List Tok :=
  (match s.orderby with | none => [] | some w => [kwOrderby, w.text])
  ++ (match s.limit with | none => [] | some t => [kwLimit, t])
  ++ (match s.offset with | none => [] | some t => [kwOffset, t])

def Sentence.toks (s : Sentence) : List Tok := kwQuery :: s.pfx.text :: (s.whereToks ++ s.tailToks)

def Sentence.renderTail (s : Sentence) : List Char :=
  (match s.orderby with | none => [] | some w => s.gap ++ kwOrderby ++ s.gap ++ w.render)
    ++ (match s.limit with | none => [] | some t => s.gap ++ kwLimit ++ s.gap ++ t)
    ++ (match s.offset with | none => [] | some t => s.gap ++ kwOffset ++ s.gap ++ t)

theorem Sentence.render_eq (s : Sentence) :
    s.render = kwQuery ++ (s.gap ++ (s.pfx.render ++ (s.renderWhere ++ s.renderTail))) := by
  obtain ⟨g, p, w, ob, l, o, st⟩ := s
  cases ob <;> cases l <;> cases o <;> simp [Sentence.render, Sentence.renderTail, List.append_assoc]

theorem Lx_tail (s : Sentence) (hwf : s.wf = true) : Lx s.renderTail s.tailToks := by
  simp only [Sentence.wf, Bool.and_eq_true] at hwf
  obtain ⟨⟨⟨⟨⟨hg, _⟩, _⟩, hob⟩, hlim⟩, hoff⟩ := hwf
  have h3 : Lx (match s.offset with | none => [] | some t => s.gap ++ kwOffset ++ s.gap ++ t)
      (match s.offset with | none => [] | some t => [kwOffset, t]) := by
    cases ho : s.offset with
    | none => exact Lx_nil
    | some t =>
      simp only [ho] at hoff
      have := Lx_gap_kw s.gap kwOffset _ _ hg (by decide) (Lx_gap_kw s.gap t [] [] hg (parseUint31_plain hoff) Lx_nil)
      simpa [List.append_assoc] using this
  have h2 : Lx ((match s.limit with | none => [] | some t => s.gap ++ kwLimit ++ s.gap ++ t)
        ++ (match s.offset with | none => [] | some t => s.gap ++ kwOffset ++ s.gap ++ t))
      ((match s.limit with | none => [] | some t => [kwLimit, t])
        ++ (match s.offset with | none => [] | some t => [kwOffset, t])) := by
    cases hl : s.limit with
    | none => simpa using h3
    | some t =>
      simp only [hl] at hlim
      have := Lx_gap_kw s.gap kwLimit _ _ hg (by decide) (Lx_gap_kw s.gap t _ _ hg (parseUint31_plain hlim) h3)
      simpa [List.append_assoc] using this
  cases hb : s.orderby with
  | none => simpa [Sentence.renderTail, Sentence.tailToks, hb] using h2
  | some w =>
    simp only [hb] at hob
    have := Lx_gap_kw s.gap kwOrderby _ _ hg (by decide) (Lx_gap_word s.gap w _ _ hg hob h2)
    simpa [Sentence.renderTail, Sentence.tailToks, hb, List.append_assoc] using this

def bodyOf (strip : Bool) : SCond → List Char
  | .group isOr g p ng false kids =>
    if strip then renderMembers (g ++ connective isOr ++ g) kids else (SCond.group isOr g p ng false kids).render
  | c => c.render

def bodyToks (strip : Bool) : SCond → List Tok
  | .group isOr g p ng false kids =>
    if strip then membersToks (connective isOr) kids else (SCond.group isOr g p ng false kids).toks
  | c => c.toks

theorem renderWhere_eq (s : Sentence) :
    s.renderWhere = match s.where_ with | none => [] | some c => s.gap ++ kwWhere ++ s.gap ++ bodyOf s.strip c := by
  unfold Sentence.renderWhere
  cases s.where_ with
  | none => rfl
  | some c =>
    cases c with
    | clause g k o n v => rfl
    | group isOr g p ng neg kids => cases neg <;> rfl

theorem whereToks_eq (s : Sentence) :
    s.whereToks = match s.where_ with | none => [] | some c => kwWhere :: bodyToks s.strip c := by
  unfold Sentence.whereToks
  cases s.where_ with
  | none => rfl
  | some c =>
    cases c with
    | clause g k o n v => rfl
    | group isOr g p ng neg kids => cases neg <;> rfl

theorem body_cases (strip : Bool) (c : SCond) :
    (bodyOf strip c = c.render ∧ bodyToks strip c = c.toks) ∨
    ∃ isOr g p ng kids, c = .group isOr g p ng false kids ∧
      bodyOf strip c = renderMembers (g ++ connective isOr ++ g) kids ∧
      bodyToks strip c = membersToks (connective isOr) kids := by
  cases c with
  | clause g k o n v => exact .inl ⟨rfl, rfl⟩
  | group isOr g p ng neg kids =>
    cases neg with
    | true => exact .inl ⟨rfl, rfl⟩
    | false =>
      cases strip with
      | false => exact .inl ⟨rfl, rfl⟩
      | true => exact .inr ⟨isOr, g, p, ng, kids, rfl, rfl, rfl⟩

theorem lex_body (strip : Bool) (c : SCond) (hw : c.wf = true) (rest : List Char) (ts : List Tok) (h : Lx rest ts) :
    lexAux false .idle (bodyOf strip c ++ rest) = .ok (bodyToks strip c ++ ts) := by
  rcases body_cases strip c with ⟨hr, ht⟩ | ⟨isOr, g, p, ng, kids, rfl, hr, ht⟩ <;> rw [hr, ht]
  · exact lex_scond c hw rest ts h
  · obtain ⟨hg, _, _, hk, hne, _⟩ := group_wf hw
    exact lex_members isOr g kids hk hne rest ts h hg

theorem Lx_where (s : Sentence) (hwf : s.wf = true) :
    Lx (s.renderWhere ++ s.renderTail) (s.whereToks ++ s.tailToks) := by
  have ht := Lx_tail s hwf
  simp only [Sentence.wf, Bool.and_eq_true] at hwf
  obtain ⟨⟨⟨⟨⟨hg, _⟩, hw⟩, _⟩, _⟩, _⟩ := hwf
  rw [renderWhere_eq, whereToks_eq]
  cases hc : s.where_ with
  | none => simpa using ht
  | some c =>
    simp only [hc] at hw
    have := Lx_gap_kw s.gap kwWhere _ _ hg (by decide) (Lx_gap s.gap _ _ hg (lex_body s.strip c hw _ _ ht))
    simpa [List.append_assoc] using this

theorem lex_sentence (s : Sentence) (hwf : s.wf = true) : lex s.render = .ok s.toks := by
  have hw := Lx_where s hwf
  simp only [Sentence.wf, Bool.and_eq_true] at hwf
  obtain ⟨⟨⟨⟨⟨hg, hp⟩, _⟩, _⟩, _⟩, _⟩ := hwf
  have := lex_kw kwQuery _ _ (by decide) (Lx_gap_word s.gap s.pfx _ _ hg hp hw)
  rw [lex, Sentence.render_eq]
  simpa [Sentence.toks] using this

section parser
variable (O : Oracle)

theorem pa_lp (cur : Frame) (outer : List Frame) (rest : List Tok) :
    parseAndOr O cur outer (kwLp :: rest) = parseAndOr O Frame.init (cur :: outer) rest := by
  rw [parseAndOr.eq_def]; simp +decide

theorem pa_rp_pop (cur p : Frame) (outer : List Frame) (rest : List Tok) :
    parseAndOr O cur (p :: outer) (kwRp :: rest) = parseAndOr O (p.add cur.finish) outer rest := by
  rw [parseAndOr.eq_def]; simp +decide

theorem pa_not (cur : Frame) (outer : List Frame) (rest : List Tok) :
    parseAndOr O cur outer (kwNot :: rest) = parseAndOr O { cur with wrapNot := true, more := true } outer rest := by
  rw [parseAndOr.eq_def]; simp +decide

theorem pa_conn (isOr : Bool) (cur : Frame) (outer : List Frame) (rest : List Tok)
    (h : cur.typeSet = true → cur.isOr = isOr) :
    parseAndOr O cur outer (connective isOr :: rest) =
      parseAndOr O { cur with isOr := isOr, typeSet := true, more := true } outer rest := by
  have h' : cur.typeSet = false ∨ cur.isOr = isOr := by cases ht : cur.typeSet <;> simp [h, ht]
  cases isOr <;> rw [parseAndOr.eq_def] <;> rcases h' with h' | h' <;> simp +decide [h']

/-- `parseCondition`. -/
theorem pa_cond (cur : Frame) (outer : List Frame) (key opn : Tok) (op : Nat) (neg : Bool) (val : Option Word)
    (rest : List Tok) (hm : cur.more = true) (hk : isStructural key = false) (hl : lookupOp opn = some op)
    (he : val = none ↔ op = opExists) :
    parseAndOr O cur outer
        (key :: ((if neg then [kwNot] else []) ++
          opn :: ((match val with | none => [] | some v => [v.text]) ++ rest))) =
      parseAndOr O (cur.add ((if neg then Cond.not else id)
        (mkWhere O key op (match val with | none => .nil | some v => .str v.text)))) outer rest := by
  have hn : opn ≠ kwNot := by intro e; rw [e, operator_names.2] at hl; cases hl
  simp only [isStructural, Bool.or_eq_false_iff, decide_eq_false_iff_not] at hk
  obtain ⟨⟨⟨⟨k1, k2⟩, k3⟩, k4⟩, k5⟩ := hk
  have hx : op = opExists ↔ val = none := he.symm
  -- `key op`, `key not op`, `key op v`, `key not op v`: each list in constructor form before `parseAndOr` is unfolded
  -- on it; `simp` then walks `parseCondition` (no structural key, `not` or not, the name resolves, value iff not `exists`)
  cases val <;> cases neg <;>
    simp only [↓reduceIte, Bool.false_eq_true, List.nil_append, List.cons_append] <;>
    rw [parseAndOr.eq_def] <;> simp [hm, k1, k2, k3, k4, k5, hn, hl, hx]

/-- The rest of the snippets lets the root condition end here. -/
def stopStart : List Tok → Bool
  | [] => true
  | t :: _ => t = kwOrderby || t = kwLimit || t = kwOffset

theorem pa_stop (cur : Frame) (tail : List Tok) (hm : cur.more = false) (ht : stopStart tail = true) :
    parseAndOr O cur [] tail = .ok (cur.finish, tail) := by
  cases tail with
  | nil => rw [parseAndOr.eq_def]; simp [hm]
  | cons t r =>
    simp only [stopStart, Bool.or_eq_true, decide_eq_true_eq] at ht
    rw [parseAndOr.eq_def]
    rcases ht with (h | h) | h <;> simp [hm, h]

theorem condList_length (cs : List SCond) : (condList O cs).length = cs.length := by
  induction cs with
  | nil => rfl
  | cons c r ih => simp [condList, ih]

/-- The frame after the members `cs` of a group have been parsed into `f`. A connective is read only between two
    members, so `isOr` / `typeSet` are touched only if there are at least two. -/
def fAfter (f : Frame) (isOr : Bool) (cs : List SCond) : Frame :=
  { isOr := if 2 ≤ cs.length then isOr else f.isOr
    typeSet := f.typeSet || decide (2 ≤ cs.length)
    wrapNot := false
    more := false
    conds := f.conds ++ condList O cs }

theorem add_plain (f : Frame) (c : Cond) (hw : f.wrapNot = false) :
    f.add c = { f with conds := f.conds ++ [c], wrapNot := false, more := false } := by
  simp [Frame.add, hw]

theorem add_wrapped (f : Frame) (c : Cond) (hw : f.wrapNot = false) :
    ({ f with wrapNot := true, more := true } : Frame).add c = f.add (.not c) := by
  simp [Frame.add, hw]

theorem pa_clause (g : List Char) (key : Word) (opn : Tok) (neg : Nat) (val : Option Word)
    (hwf : (SCond.clause g key opn neg val).wf = true) (cur : Frame) (outer : List Frame) (rest : List Tok)
    (hm : cur.more = true) (hw : cur.wrapNot = false) :
    parseAndOr O cur outer ((SCond.clause g key opn neg val).toks ++ rest) =
      parseAndOr O (cur.add ((SCond.clause g key opn neg val).cond O)) outer rest := by
  simp only [SCond.wf, Bool.and_eq_true, decide_eq_true_eq, Bool.not_eq_true'] at hwf
  obtain ⟨⟨⟨⟨_, _⟩, hkey⟩, hneg⟩, hop⟩ := hwf
  cases hl : lookupOp opn with
  | none => simp [hl] at hop
  | some op =>
    have he : val = none ↔ op = opExists := by cases val <;> simp_all
    have hneg3 : neg = 0 ∨ neg = 1 ∨ neg = 2 := by omega
    -- `cases val` makes the `match`es of `toks`, `cond` and `pa_cond` compute
    rcases hneg3 with rfl | rfl | rfl
    · cases val <;> simpa [SCond.toks, SCond.cond, hl] using pa_cond O cur outer key.text opn op false _ rest hm hkey hl he
    · cases val <;> simpa [SCond.toks, SCond.cond, hl] using pa_cond O cur outer key.text opn op true _ rest hm hkey hl he
    · -- `not key op value`: the `not` sets `wrapNot`, and `add` wraps the clause
      have := pa_cond O { cur with wrapNot := true, more := true } outer key.text opn op false val rest rfl hkey hl he
      rw [add_wrapped _ _ hw] at this
      cases val <;> simpa [SCond.toks, SCond.cond, hl, pa_not] using this

theorem membersToks_cons2 (conn : Tok) (c c' : SCond) (cs : List SCond) :
    membersToks conn (c :: c' :: cs) = c.toks ++ conn :: membersToks conn (c' :: cs) := by
  simp [membersToks]

theorem finish_group (isOr : Bool) (cs : List SCond) (h : 2 ≤ cs.length) :
    (fAfter O Frame.init isOr cs).finish = if isOr then Cond.or (condList O cs) else Cond.and (condList O cs) := by
  have hl := condList_length O cs
  simp only [fAfter, Frame.init, h, if_true, List.nil_append, Frame.finish]
  match hc : condList O cs, hl with
  | [], hl => simp at hl; omega
  | [c], hl => simp at hl; omega
  | a :: b :: r, _ => rfl

mutual
theorem pa_scond : (c : SCond) → c.wf = true → ∀ (cur : Frame) (outer : List Frame) (rest : List Tok),
    cur.more = true → cur.wrapNot = false →
    parseAndOr O cur outer (c.toks ++ rest) = parseAndOr O (cur.add (c.cond O)) outer rest
  | .clause g key opn neg val, hwf, cur, outer, rest, hm, hw => pa_clause O g key opn neg val hwf cur outer rest hm hw
  | .group isOr g p ng neg kids, hwf, cur, outer, rest, hm, hw => by
    obtain ⟨_, _, _, hk, hne, hlen⟩ := group_wf hwf
    have hfin := finish_group O isOr kids hlen
    cases neg with
    | false =>
      have h1 := pa_members isOr kids hk hne Frame.init (cur :: outer) (kwRp :: rest) rfl rfl (by simp [Frame.init])
      simp only [SCond.toks, SCond.cond, Bool.false_eq_true, if_false, List.nil_append, List.cons_append,
        List.append_assoc]
      rw [pa_lp, h1, pa_rp_pop, hfin]
    | true =>
      have h1 := pa_members isOr kids hk hne Frame.init ({ cur with wrapNot := true, more := true } :: outer)
        (kwRp :: rest) rfl rfl (by simp [Frame.init])
      simp only [SCond.toks, SCond.cond, if_true, List.cons_append, List.nil_append, List.append_assoc]
      rw [pa_not, pa_lp, h1, pa_rp_pop, hfin, add_wrapped _ _ hw]
theorem pa_members (isOr : Bool) : (cs : List SCond) → kidsWf cs = true → cs ≠ [] →
    ∀ (f : Frame) (outer : List Frame) (tail : List Tok), f.more = true → f.wrapNot = false →
    (f.typeSet = true → f.isOr = isOr) →
    parseAndOr O f outer (membersToks (connective isOr) cs ++ tail) = parseAndOr O (fAfter O f isOr cs) outer tail
  | [], _, hne, _, _, _, _, _, _ => absurd rfl hne
  | [c], hk, _, f, outer, tail, hm, hw, _ => by
    simp only [kidsWf, Bool.and_eq_true] at hk
    have := pa_scond c hk.1 f outer tail hm hw
    simp only [membersToks]
    rw [this, add_plain f _ hw]
    simp [fAfter, condList]
  | c :: c' :: cs, hk, _, f, outer, tail, hm, hw, hts => by
    simp only [kidsWf, Bool.and_eq_true] at hk
    have hk' : kidsWf (c' :: cs) = true := by simp [kidsWf, hk.2.1, hk.2.2]
    have h1 := pa_scond c hk.1 f outer (connective isOr :: (membersToks (connective isOr) (c' :: cs) ++ tail)) hm hw
    rw [membersToks_cons2, List.append_assoc, List.cons_append, h1, add_plain f _ hw]
    refine (pa_conn O isOr _ outer _ (by simpa using hts)).trans ?_
    refine (pa_members isOr (c' :: cs) hk' (by simp) _ outer tail rfl rfl (by simp)).trans ?_
    simp [fAfter, condList, List.append_assoc]
end

/-- orderby / limit / offset of the sentence written into `q`. -/
def Sentence.applyTail (s : Sentence) (q : Query) : Query :=
  { q with
    orderBy := match s.orderby with | none => q.orderBy | some w => w.text
    limit := match s.limit with | none => q.limit | some t => ((parseUint31 t).getD 0 : Nat)
    offset := match s.offset with | none => q.offset | some t => ((parseUint31 t).getD 0 : Nat) }

theorem stop_tail (s : Sentence) : stopStart s.tailToks = true := by
  obtain ⟨g, p, w, ob, l, o, st⟩ := s
  cases ob <;> cases l <;> cases o <;> simp [Sentence.tailToks, stopStart]

theorem clauses_tail (s : Sentence) (hwf : s.wf = true) (q : Query)
    (h1 : q.orderBy = []) (h2 : q.limit = 0) (h3 : q.offset = 0) :
    clauses O q s.tailToks = .ok (s.applyTail q) ∧ clausesPost q s.tailToks = .ok (s.applyTail q) := by
  simp only [Sentence.wf, Bool.and_eq_true] at hwf
  obtain ⟨⟨⟨⟨⟨_, _⟩, _⟩, _⟩, hlim⟩, hoff⟩ := hwf
  obtain ⟨g, p, w, ob, l, o, st⟩ := s
  obtain ⟨qa, qb, qc, qd, qe, qf⟩ := q
  simp only at h1 h2 h3 hlim hoff
  subst h1 h2 h3
  cases l with
  | none =>
    cases o with
    | none => cases ob <;> simp +decide [Sentence.tailToks, Sentence.applyTail, clauses, clausesPost]
    | some u =>
      obtain ⟨m, hm⟩ := Option.isSome_iff_exists.mp hoff
      cases ob <;> simp +decide [Sentence.tailToks, Sentence.applyTail, clauses, clausesPost, hm]
  | some t =>
    obtain ⟨n, hn⟩ := Option.isSome_iff_exists.mp hlim
    cases o with
    | none => cases ob <;> simp +decide [Sentence.tailToks, Sentence.applyTail, clauses, clausesPost, hn]
    | some u =>
      obtain ⟨m, hm⟩ := Option.isSome_iff_exists.mp hoff
      cases ob <;> simp +decide [Sentence.tailToks, Sentence.applyTail, clauses, clausesPost, hn, hm]

theorem pa_body (strip : Bool) (c : SCond) (hw : c.wf = true) (tail : List Tok) (hst : stopStart tail = true) :
    parseAndOr O Frame.init [] (bodyToks strip c ++ tail) = .ok (c.cond O, tail) := by
  rcases body_cases strip c with ⟨_, ht⟩ | ⟨isOr, g, p, ng, kids, rfl, _, ht⟩ <;> rw [ht]
  · rw [pa_scond O c hw Frame.init [] tail rfl rfl, pa_stop O _ _ (by simp [Frame.add, Frame.init]) hst]
    simp [Frame.add, Frame.init, Frame.finish]
  · obtain ⟨_, _, _, hk, hne, hlen⟩ := group_wf hw
    rw [pa_members O isOr kids hk hne Frame.init [] tail rfl rfl (by simp [Frame.init]),
      pa_stop O _ _ (by simp [fAfter]) hst, finish_group O isOr kids hlen]
    cases isOr <;> simp [SCond.cond]

theorem parseToks_query (p : Tok) (rest : List Tok) :
    parseToks O (kwQuery :: p :: rest) =
      match clauses O (Query.new p) rest with | .error e => .error e | .ok q => q.check := by
  simp only [parseToks, ne_eq, not_true_eq_false, if_false]
  cases clauses O (Query.new p) rest <;> rfl

theorem query_eq (s : Sentence) :
    s.query O = s.applyTail { Query.new s.pfx.text with where_ := s.where_.map (·.cond O) } := by
  obtain ⟨g, p, w, ob, l, o, st⟩ := s
  cases ob <;> cases l <;> cases o <;> simp [Sentence.query, Sentence.applyTail, Query.new]

theorem parseToks_sentence (s : Sentence) (hwf : s.wf = true) : parseToks O s.toks = (s.query O).check := by
  have hw : match s.where_ with | none => True | some c => c.wf = true := by
    simp only [Sentence.wf, Bool.and_eq_true] at hwf
    cases hc : s.where_ <;> simp_all
  rw [query_eq, Sentence.toks, parseToks_query, whereToks_eq]
  cases hc : s.where_ with
  | none =>
    rw [List.nil_append, (clauses_tail O s hwf _ rfl rfl rfl).1]
    simp [Query.new]
  | some c =>
    simp only [hc] at hw
    rw [List.cons_append, clauses.eq_def]
    simp only [if_true, pa_body O s.strip c hw s.tailToks (stop_tail s)]
    rw [(clauses_tail O s hwf _ rfl rfl rfl).2]
    simp [Query.new]

end parser

end PB.Query
