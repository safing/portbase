import PB.Model.HooksConc
import PBProofs.Lemmas.SubsConc
/- Invariants of the interleaving model of hook runners and `RegisteredHook.Cancel` (C14); proofs as in `Lemmas/SubsConc`. -/
namespace PB.HooksConc
open PB.SubsConc (upd upd_same upd_other upd_forall only_upd unique_of_only upd_true_mono)
open PB.Subs (Phase)

def inLoop : RPc → Bool
  | .running _ | .calling _ _ => true
  | _ => false

/-- The hooks a runner is calling or may still call. -/
def pendOf : RPc → List Nat
  | .running r => r
  | .calling h r => h :: r
  | _ => []

/-- The locking is the one the theorems are about: the read lock is held during the calls, `Cancel` is exclusive. -/
def LockCfg.Sound (cfg : LockCfg) : Prop := (∀ ph, cfg.callsUnderLock ph = true) ∧ cfg.cancelExclusive = true

theorem LockCfg.code_sound : LockCfg.code.Sound :=
  ⟨fun ph => by cases ph <;> rfl, rfl⟩

/-- The safety invariant of the lock protocol. -/
structure Inv (st : HSt) : Prop where
  wlRd : st.wl = true → st.rd = []
  rdIff : ∀ g, g ∈ st.rd ↔ inLoop (st.rpc g) = true
  rdNodup : st.rd.Nodup
  /-- what a runner is calling or still has to call is registered (nobody can change the list while it holds the read lock) -/
  pendHooks : ∀ g h, h ∈ pendOf (st.rpc g) → h ∈ st.hooks
  hooksMade : ∀ h, h ∈ st.hooks → st.made h = true
  hooksNodup : st.hooks.Nodup
  csWl : ∀ x, (st.xpc x).inCS = true → st.wl = true
  csUnique : ∀ x y, (st.xpc x).inCS = true → (st.xpc y).inCS = true → x = y
  removedOut : ∀ x, (st.xpc x = .removed ∨ st.xpc x = .done) → st.xtarget x ∉ st.hooks
  enteredMade : ∀ x, st.xpc x ≠ .idle → st.made (st.xtarget x) = true
  retOut : ∀ h, st.cancelReturned h = true → h ∉ st.hooks ∧ st.made h = true
  doneRet : ∀ x, st.xpc x = .done → st.cancelReturned (st.xtarget x) = true
  noLate : st.late = []

theorem upd_apply {α : Type} (f : Nat → α) (i j : Nat) (x : α) : upd f i x j = if j = i then x else f j := rfl

theorem inCS_cases {p : XPc} : p.inCS = true ↔ p = .locked ∨ p = .removed := by
  cases p <;> simp [XPc.inCS]

inductive Step (cfg : LockCfg) (phaseOf : Nat → Phase) (applies : Nat → Nat → Bool) (st : HSt) : Act → HSt → Prop
  | reg {k} : st.wl = false → st.rd = [] → st.made k = false → Step cfg phaseOf applies st (.reg k)
      { st with made := upd st.made k true, hooks := st.hooks ++ [k] }
  | rLock {g} : st.rpc g = .idle → st.wl = false → Step cfg phaseOf applies st (.rLock g)
      { st with rpc := upd st.rpc g (.running st.hooks), rd := g :: st.rd, snap := upd st.snap g st.hooks,
                madeAtLock := upd st.madeAtLock g st.made }
  | rSkip {g k rem} : st.rpc g = .running (k :: rem) → applies g k = false → Step cfg phaseOf applies st (.rSkip g)
      { st with rpc := upd st.rpc g (.running rem) }
  | rCallBegin {g k rem} : st.rpc g = .running (k :: rem) → applies g k = true → Step cfg phaseOf applies st (.rCallBegin g)
      { st with rpc := upd st.rpc g (.calling k rem), calls := st.calls ++ [(g, k)],
                late := if st.cancelReturned k then st.late ++ [(g, k)] else st.late }
  | rVeto {g k rem v} : st.rpc g = .calling k rem → v = true → Step cfg phaseOf applies st (.rCallEnd g v)
      { st with rpc := upd st.rpc g (.running []), vetoed := upd st.vetoed g true }
  | rPass {g k rem v} : st.rpc g = .calling k rem → v = false → Step cfg phaseOf applies st (.rCallEnd g v)
      { st with rpc := upd st.rpc g (.running rem) }
  | rRelease {g rem} : st.rpc g = .running rem → cfg.callsUnderLock (phaseOf g) = false → g ∈ st.rd →
      Step cfg phaseOf applies st (.rRelease g) { st with rpc := upd st.rpc g (.running rem), rd := st.rd.erase g }
  | rUnlock {g} : st.rpc g = .running [] → Step cfg phaseOf applies st (.rUnlock g)
      { st with rpc := upd st.rpc g .done, rd := st.rd.erase g }
  | xEnter {x k} : st.xpc x = .idle → st.made k = true → Step cfg phaseOf applies st (.xEnter x k)
      { st with xpc := upd st.xpc x .entered, xtarget := upd st.xtarget x k, cancelReq := upd st.cancelReq k true }
  | xLock {x} : st.xpc x = .entered → cfg.cancelExclusive = true → st.wl = false → st.rd = [] →
      Step cfg phaseOf applies st (.xLock x) { st with xpc := upd st.xpc x .locked, wl := true }
  | xLockShared {x} : st.xpc x = .entered → cfg.cancelExclusive = false → st.wl = false →
      Step cfg phaseOf applies st (.xLock x) { st with xpc := upd st.xpc x .locked }
  | xRemove {x} : st.xpc x = .locked → Step cfg phaseOf applies st (.xRemove x)
      { st with hooks := st.hooks.erase (st.xtarget x), xpc := upd st.xpc x .removed }
  | xUnlock {x} : st.xpc x = .removed → Step cfg phaseOf applies st (.xUnlock x)
      { st with xpc := upd st.xpc x .done, wl := if cfg.cancelExclusive then false else st.wl,
                cancelReturned := upd st.cancelReturned (st.xtarget x) true }

theorem Step.of_step {cfg : LockCfg} {phaseOf : Nat → Phase} {applies : Nat → Nat → Bool} {st st' : HSt} {a : Act}
    (hs : step cfg phaseOf applies st a = some st') : Step cfg phaseOf applies st a st' := by
  -- stop splitting once `hs` is `some _ = some st'`: the new state of `rCallBegin` and `xUnlock` holds an `if` itself
  cases a <;> dsimp only [step] at hs <;> (repeat' first | cases hs | split at hs)
  · exact .reg (by simp_all) (by simp_all) (by simp_all)
  · exact .rLock ‹_› (by simp_all)
  · exact .rSkip ‹_› (by simp_all)
  · exact .rCallBegin ‹_› ‹_›
  · exact .rVeto ‹_› ‹_›
  · exact .rPass ‹_› (by simp_all)
  · exact .rRelease ‹_› (by simp_all) (by simp_all)
  · exact .rUnlock ‹_›
  · exact .xEnter ‹_› ‹_›
  · exact .xLock ‹_› ‹_› (by simp_all) (by simp_all)
  · exact .xLockShared ‹_› (by simp_all) (by simp_all)
  · exact .xRemove ‹_›
  · exact .xUnlock ‹_›

section
variable {cfg : LockCfg} {phaseOf : Nat → Phase} {applies : Nat → Nat → Bool} {st st' : HSt}

theorem inv_init : Inv {} := by
  constructor <;> simp [inLoop, pendOf, XPc.inCS]

theorem no_runner (h : Inv st) (hrd : st.rd = []) (g : Nat) : pendOf (st.rpc g) = [] := by
  have := h.rdIff g
  rw [hrd] at this
  cases hg : st.rpc g with
  | running l => rw [hg] at this; simp [inLoop] at this
  | calling c l => rw [hg] at this; simp [inLoop] at this
  | _ => rfl

theorem inv_rpc {g : Nat} {p : RPc} (h : Inv st) (hn : inLoop p = inLoop (st.rpc g))
    (hsub : ∀ k, k ∈ pendOf p → k ∈ pendOf (st.rpc g)) : Inv { st with rpc := upd st.rpc g p } :=
  { h with
    rdIff := upd_forall (fun x (q : RPc) => x ∈ st.rd ↔ inLoop q = true) (hn ▸ h.rdIff g) h.rdIff
    pendHooks := upd_forall (fun _ (q : RPc) => ∀ k, k ∈ pendOf q → k ∈ st.hooks)
      (fun k hk => h.pendHooks g k (hsub k hk)) h.pendHooks }

theorem inv_reg {k : Nat} (h : Inv st) (hs : Step cfg phaseOf applies st (.reg k) st') : Inv st' := by
  cases hs with
  | reg hwl hrd hmade =>
    have fresh : ∀ j, st.made j = true → j ≠ k := fun j hj e => by simp [← e, hj] at hmade
    have hnin : k ∉ st.hooks := fun hm => fresh k (h.hooksMade k hm) rfl
    have mono : ∀ j, st.made j = true → upd st.made k true j = true := fun _ => upd_true_mono k
    exact { h with
      pendHooks := fun g j hj => by simp [no_runner h hrd g] at hj
      hooksMade := fun j hj => by
        rcases List.mem_append.mp hj with hj | hj
        · exact mono j (h.hooksMade j hj)
        · simp [List.mem_singleton.mp hj]
      hooksNodup := (List.perm_append_singleton k st.hooks).nodup_iff.mpr (List.nodup_cons.mpr ⟨hnin, h.hooksNodup⟩)
      removedOut := fun x (hx : st.xpc x = .removed ∨ st.xpc x = .done) => by
        have := h.enteredMade x (by rcases hx with hx | hx <;> simp [hx])
        simp [h.removedOut x hx, fresh _ this]
      enteredMade := fun x hx => mono _ (h.enteredMade x hx)
      retOut := fun j hj => by
        obtain ⟨a, b⟩ := h.retOut j hj
        exact ⟨by simp [a, fresh j b], mono j b⟩ }

theorem inv_rLock {g : Nat} (h : Inv st) (hs : Step cfg phaseOf applies st (.rLock g) st') : Inv st' := by
  cases hs with
  | rLock hg hwl =>
    have hnot : g ∉ st.rd := by rw [h.rdIff, hg]; simp [inLoop]
    exact { h with
      wlRd := by simp [hwl]
      rdNodup := List.nodup_cons.mpr ⟨hnot, h.rdNodup⟩
      rdIff := fun x => by
        by_cases hx : x = g
        · subst hx; simp [inLoop]
        · simpa [hx] using h.rdIff x
      pendHooks := upd_forall (fun _ (q : RPc) => ∀ k, k ∈ pendOf q → k ∈ st.hooks) (fun _ hk => hk) h.pendHooks }

theorem inv_loop {a : Act} (h : Inv st) (hs : Step cfg phaseOf applies st a st')
    (ha : a matches .rSkip _ | .rCallBegin _ | .rCallEnd ..) : Inv st' := by
  have rest {g k rem} (hl : inLoop (st.rpc g) = true) (hp : pendOf (st.rpc g) = k :: rem) :
      Inv { st with rpc := upd st.rpc g (.running rem) } :=
    inv_rpc h hl.symm (by rw [hp]; exact fun j hj => List.mem_cons_of_mem _ hj)
  cases hs with
  | rSkip hg => exact rest (by rw [hg]; rfl) (by rw [hg]; rfl)
  | @rCallBegin g k rem hg =>
    -- the hook about to be called is registered, hence no `Cancel` of it has returned
    have hnr : st.cancelReturned k = false := Bool.eq_false_iff.mpr fun hr =>
      (h.retOut k hr).1 (h.pendHooks g k (by rw [hg]; exact List.mem_cons_self))
    exact { inv_rpc (p := .calling k rem) h (by rw [hg]; rfl) (by rw [hg]; exact fun _ hk => hk) with
      noLate := by simp [hnr, h.noLate] }
  | rVeto hg => exact { inv_rpc (p := .running []) h (by rw [hg]; rfl) (by simp [pendOf]) with }
  | rPass hg => exact rest (by rw [hg]; rfl) (by rw [hg]; rfl)
  | _ => simp at ha

theorem inv_rUnlock {g : Nat} (h : Inv st) (hs : Step cfg phaseOf applies st (.rUnlock g) st') : Inv st' := by
  cases hs with
  | rUnlock hg =>
    exact { h with
      wlRd := fun hh => by simp [h.wlRd hh]
      rdNodup := h.rdNodup.erase g
      rdIff := fun x => by
        by_cases hx : x = g
        · subst hx; simp [inLoop, h.rdNodup.mem_erase_iff]
        · simpa [hx, h.rdNodup.mem_erase_iff] using h.rdIff x
      pendHooks := upd_forall (fun _ (q : RPc) => ∀ k, k ∈ pendOf q → k ∈ st.hooks) (by simp [pendOf]) h.pendHooks }

theorem Inv.enteredMade_upd (h : Inv st) {x : Nat} (hx : st.xpc x ≠ .idle) (p : XPc) :
    ∀ y, upd st.xpc x p y ≠ .idle → st.made (st.xtarget y) = true :=
  upd_forall (fun y (q : XPc) => q ≠ .idle → st.made (st.xtarget y) = true) (fun _ => h.enteredMade x hx) h.enteredMade

theorem inv_xEnter {x k : Nat} (h : Inv st) (hs : Step cfg phaseOf applies st (.xEnter x k) st') : Inv st' := by
  cases hs with
  | xEnter hx hm =>
    -- `entered`, like `idle`, is outside the locked section: only `enteredMade` says something new about `x`
    have oldcs := upd_forall (p := .entered) (c := x) (fun y (q : XPc) => q.inCS = true → (st.xpc y).inCS = true)
      (by simp [XPc.inCS]) fun _ hy => hy
    exact { h with
      csWl := fun y hy => h.csWl y (oldcs y hy)
      csUnique := fun y z hy hz => h.csUnique y z (oldcs y hy) (oldcs z hz)
      removedOut := fun y hy => by
        by_cases hyx : y = x
        · subst hyx; simp at hy
        · simpa [hyx] using h.removedOut y (by simpa [hyx] using hy)
      enteredMade := fun y hy => by
        by_cases hyx : y = x
        · subst hyx; simpa using hm
        · simpa [hyx] using h.enteredMade y (by simpa [hyx] using hy)
      doneRet := fun y hy => by
        by_cases hyx : y = x
        · subst hyx; simp at hy
        · simpa [hyx] using h.doneRet y (by simpa [hyx] using hy) }

theorem inv_xLock (hcfg : cfg.Sound) {x : Nat} (h : Inv st) (hs : Step cfg phaseOf applies st (.xLock x) st') : Inv st' := by
  cases hs with
  | xLockShared _ hsh => simp [hcfg.2] at hsh
  | xLock hx _ hwl hrd =>
    have nocs : ∀ y, (st.xpc y).inCS ≠ true := fun y hy => by simpa [hwl] using h.csWl y hy
    have only := only_upd (c := x) (XPc.inCS · = true) (fun y hy => absurd hy (nocs y)) .locked
    exact { h with
      wlRd := fun _ => hrd
      csWl := fun _ _ => rfl
      csUnique := unique_of_only only
      removedOut := upd_forall (fun y (q : XPc) => q = .removed ∨ q = .done → st.xtarget y ∉ st.hooks) (by simp)
        h.removedOut
      enteredMade := h.enteredMade_upd (by simp [hx]) _
      doneRet := upd_forall (fun y (q : XPc) => q = .done → st.cancelReturned (st.xtarget y) = true) (by simp) h.doneRet }

theorem inv_xRemove {x : Nat} (h : Inv st) (hs : Step cfg phaseOf applies st (.xRemove x) st') : Inv st' := by
  cases hs with
  | xRemove hx =>
    have hcs := inCS_cases.mpr (.inl hx)
    have hwl := h.csWl x hcs
    have only := only_upd (XPc.inCS · = true) (fun y hy => h.csUnique y x hy hcs) .removed
    have hsub : ∀ j, j ∈ st.hooks.erase (st.xtarget x) → j ∈ st.hooks := fun j hj => List.mem_of_mem_erase hj
    exact { h with
      pendHooks := fun g j hj => by simp [no_runner h (h.wlRd hwl) g] at hj
      hooksMade := fun j hj => h.hooksMade j (hsub j hj)
      hooksNodup := h.hooksNodup.erase _
      csWl := fun _ _ => hwl
      csUnique := unique_of_only only
      removedOut := fun y hy hm => by
        by_cases hyx : y = x
        · subst hyx; exact (h.hooksNodup.mem_erase_iff.mp hm).1 rfl
        · exact h.removedOut y (by simpa [hyx] using hy) (hsub _ hm)
      enteredMade := h.enteredMade_upd (by simp [hx]) _
      retOut := fun j hj => ⟨fun hm => (h.retOut j hj).1 (hsub j hm), (h.retOut j hj).2⟩
      doneRet := upd_forall (fun y (q : XPc) => q = .done → st.cancelReturned (st.xtarget y) = true) (by simp) h.doneRet }

theorem inv_xUnlock {x : Nat} (h : Inv st) (hs : Step cfg phaseOf applies st (.xUnlock x) st') : Inv st' := by
  cases hs with
  | xUnlock hx =>
    have hcs := inCS_cases.mpr (.inr hx)
    have hout := h.removedOut x (.inl hx)
    have hmade := h.enteredMade x (by simp [hx])
    have nocs : ∀ y, (upd st.xpc x .done y).inCS ≠ true := fun y hy => by
      obtain rfl := only_upd (XPc.inCS · = true) (fun y hy => h.csUnique y x hy hcs) .done y hy
      simp [XPc.inCS] at hy
    exact { h with
      wlRd := fun _ => h.wlRd (h.csWl x hcs)
      csWl := fun y hy => absurd hy (nocs y)
      csUnique := fun y _ hy => absurd hy (nocs y)
      removedOut := upd_forall (fun y (q : XPc) => q = .removed ∨ q = .done → st.xtarget y ∉ st.hooks) (fun _ => hout)
        h.removedOut
      enteredMade := h.enteredMade_upd (by simp [hx]) _
      retOut := fun j hj => by
        by_cases hjt : j = st.xtarget x
        · subst hjt; exact ⟨hout, hmade⟩
        · exact h.retOut j (by simpa [hjt] using hj)
      doneRet := fun y hy => by
        by_cases hyx : y = x
        · subst hyx; exact upd_same ..
        · exact upd_true_mono _ (h.doneRet y (by simpa [hyx] using hy)) }

end

/-- Where the read lock is held during the calls, `rRelease` is never enabled. -/
theorem rRelease_disabled {cfg : LockCfg} (hc : cfg.Sound) {phaseOf : Nat → Phase} {applies : Nat → Nat → Bool} {st : HSt} {g : Nat} :
    step cfg phaseOf applies st (.rRelease g) = none := by
  simp only [step]
  cases st.rpc g <;> simp [hc.1]

theorem inv_step {cfg : LockCfg} (hcfg : cfg.Sound) {phaseOf : Nat → Phase} {applies : Nat → Nat → Bool} {st st' : HSt} (a : Act)
    (h : Inv st) (hs : step cfg phaseOf applies st a = some st') : Inv st' := by
  have hs' := Step.of_step hs
  cases a with
  | reg k => exact inv_reg h hs'
  | rLock g => exact inv_rLock h hs'
  | rRelease g => rw [rRelease_disabled hcfg] at hs; simp at hs
  | rUnlock g => exact inv_rUnlock h hs'
  | xEnter x k => exact inv_xEnter h hs'
  | xLock x => exact inv_xLock hcfg h hs'
  | xRemove x => exact inv_xRemove h hs'
  | xUnlock x => exact inv_xUnlock h hs'
  | _ => exact inv_loop h hs' rfl

theorem inv_reach {cfg : LockCfg} (hcfg : cfg.Sound) {phaseOf : Nat → Phase} {applies : Nat → Nat → Bool} {st : HSt}
    (h : Reach cfg phaseOf applies st) : Inv st := by
  induction h with
  | init => exact inv_init
  | step a _ hs ih => exact inv_step hcfg a ih hs

theorem reach_runActs {cfg : LockCfg} {phaseOf : Nat → Phase} {applies : Nat → Nat → Bool} :
    ∀ (acts : List Act) (st st' : HSt), Reach cfg phaseOf applies st → runActs cfg phaseOf applies acts st = some st' →
      Reach cfg phaseOf applies st' := by
  intro acts
  induction acts with
  | nil => intro st st' h e; simp [runActs] at e; subst e; exact h
  | cons a as ih =>
    intro st st' h e
    simp only [runActs] at e
    cases hs : step cfg phaseOf applies st a with
    | none => rw [hs] at e; simp at e
    | some s1 => rw [hs] at e; exact ih s1 st' (Reach.step a h hs) e

/-- The ghost list of call begins grows only by `rCallBegin`, by one entry for the head of the runner's list. -/
theorem step_calls {cfg : LockCfg} {phaseOf : Nat → Phase} {applies : Nat → Nat → Bool} {st st' : HSt} {a : Act}
    (hs : step cfg phaseOf applies st a = some st') :
    st'.calls = st.calls ∨ ∃ g k rem, a = .rCallBegin g ∧ st.rpc g = .running (k :: rem) ∧ st'.calls = st.calls ++ [(g, k)] := by
  cases Step.of_step hs with
  | rCallBegin hg => exact .inr ⟨_, _, _, rfl, hg, rfl⟩
  | _ => exact .inl rfl

/-! ## Which hooks a runner calls -/

theorem callsOf_append (calls : List (Nat × Nat)) (x k g : Nat) :
    callsOf (calls ++ [(x, k)]) g = if x = g then callsOf calls g ++ [k] else callsOf calls g := by
  unfold callsOf
  by_cases h : x = g <;> simp [List.filter_append, h]

/-- What runner `g` has called so far, relative to the list it iterates over (`snap g`): the applicable hooks of the
    part of the list it has passed — all of them, unless a veto ended the loop. -/
def LogOk (applies : Nat → Nat → Bool) (st : HSt) (g : Nat) : Prop :=
  match st.rpc g with
  | .idle => callsOf st.calls g = [] ∧ st.vetoed g = false
  | .running rem =>
    if st.vetoed g then rem = [] ∧ callsOf st.calls g <+: (st.snap g).filter (applies g)
    else ∃ pre, st.snap g = pre ++ rem ∧ callsOf st.calls g = pre.filter (applies g)
  | .calling k rem =>
    st.vetoed g = false ∧ applies g k = true ∧
      ∃ pre, st.snap g = pre ++ k :: rem ∧ callsOf st.calls g = (pre ++ [k]).filter (applies g)
  | .done =>
    if st.vetoed g then callsOf st.calls g <+: (st.snap g).filter (applies g)
    else callsOf st.calls g = (st.snap g).filter (applies g)

structure DInv (applies : Nat → Nat → Bool) (st : HSt) : Prop where
  xReq : ∀ x, st.xpc x ≠ .idle → st.cancelReq (st.xtarget x) = true
  liveIn : ∀ k, st.made k = true → st.cancelReq k = false → k ∈ st.hooks
  snapLive : ∀ g k, st.rpc g ≠ .idle → st.madeAtLock g k = true → st.cancelReq k = false → k ∈ st.snap g
  logSnap : ∀ g, LogOk applies st g
  snapNodup : ∀ g, (st.snap g).Nodup

section
variable {cfg : LockCfg} {phaseOf : Nat → Phase} {applies : Nat → Nat → Bool} {st st' : HSt}

theorem dinv_init (applies : Nat → Nat → Bool) : DInv applies {} := by
  constructor <;> simp [LogOk, callsOf]

/-- `LogOk` only looks at the runner's own pc, the calls, its snapshot and its veto flag. -/
theorem logOk_frame {g : Nat} (h : LogOk applies st g)
    (e1 : st'.rpc g = st.rpc g) (e2 : callsOf st'.calls g = callsOf st.calls g) (e3 : st'.snap g = st.snap g)
    (e4 : st'.vetoed g = st.vetoed g) : LogOk applies st' g := by
  unfold LogOk at *
  rw [e1, e2, e3, e4]
  exact h

theorem logOk_of_own {g' : Nat} (h : ∀ g, LogOk applies st g)
    (hoth : ∀ g, g ≠ g' → st'.rpc g = st.rpc g ∧ callsOf st'.calls g = callsOf st.calls g ∧ st'.snap g = st.snap g ∧
      st'.vetoed g = st.vetoed g) (hself : LogOk applies st' g') : ∀ g, LogOk applies st' g := fun g => by
  by_cases hg : g = g'
  · exact hg ▸ hself
  · obtain ⟨e1, e2, e3, e4⟩ := hoth g hg
    exact logOk_frame (h g) e1 e2 e3 e4

theorem logOk_step {a : Act} (hs : Step cfg phaseOf applies st a st') (h : ∀ g, LogOk applies st g) :
    ∀ g, LogOk applies st' g := by
  cases hs with
  | @rLock g hg =>
    refine logOk_of_own h (fun x hx => ⟨upd_other _ _ _ _ hx, rfl, upd_other _ _ _ _ hx, rfl⟩) ?_
    have := h g
    unfold LogOk at this ⊢
    rw [hg] at this
    simp only [upd_same, this.2, Bool.false_eq_true, if_false]
    exact ⟨[], rfl, by simp [this.1]⟩
  | @rSkip g k rem hg hap =>
    refine logOk_of_own h (fun x hx => ⟨upd_other _ _ _ _ hx, rfl, rfl, rfl⟩) ?_
    have := h g
    unfold LogOk at this ⊢
    rw [hg] at this
    by_cases hv : st.vetoed g = true
    · simp [hv] at this
    · simp only [hv, Bool.false_eq_true, if_false] at this
      obtain ⟨pre, h1, h2⟩ := this
      simpa [hv] using ⟨pre ++ [k], by simp [h1], by simp [List.filter_append, hap, h2]⟩
  | @rCallBegin g k rem hg hap =>
    refine logOk_of_own h (fun x hx => ⟨upd_other _ _ _ _ hx, by simp [callsOf_append, Ne.symm hx], rfl, rfl⟩) ?_
    have := h g
    unfold LogOk at this ⊢
    rw [hg] at this
    by_cases hv : st.vetoed g = true
    · simp [hv] at this
    · simp only [hv, Bool.false_eq_true, if_false] at this
      obtain ⟨pre, h1, h2⟩ := this
      simpa [hv, hap] using ⟨pre, h1, by simp [callsOf_append, h2]⟩
  | @rVeto g k rem v hg =>
    refine logOk_of_own h (fun x hx => ⟨upd_other _ _ _ _ hx, rfl, rfl, upd_other _ _ _ _ hx⟩) ?_
    have := h g
    unfold LogOk at this ⊢
    rw [hg] at this
    obtain ⟨_, _, pre, h1, h2⟩ := this
    have : pre ++ k :: rem = (pre ++ [k]) ++ rem := by simp
    simp [h2, h1, this, -List.append_assoc]
  | @rPass g k rem v hg =>
    refine logOk_of_own h (fun x hx => ⟨upd_other _ _ _ _ hx, rfl, rfl, rfl⟩) ?_
    have := h g
    unfold LogOk at this ⊢
    rw [hg] at this
    obtain ⟨hv0, _, pre, h1, h2⟩ := this
    simpa [hv0] using ⟨pre ++ [k], by simp [h1], h2⟩
  | @rRelease g rem hg =>
    exact logOk_of_own h (fun x hx => ⟨upd_other _ _ _ _ hx, rfl, rfl, rfl⟩)
      (logOk_frame (h g) (by simp [hg]) rfl rfl rfl)
  | @rUnlock g hg =>
    refine logOk_of_own h (fun x hx => ⟨upd_other _ _ _ _ hx, rfl, rfl, rfl⟩) ?_
    have := h g
    unfold LogOk at this ⊢
    rw [hg] at this
    by_cases hv : st.vetoed g = true
    · simpa [hv] using this
    · simp only [hv, Bool.false_eq_true, if_false] at this
      obtain ⟨pre, h1, h2⟩ := this
      simp [hv, h2, h1]
  | _ => exact fun g => logOk_frame (h g) rfl rfl rfl rfl

theorem DInv.xReq_upd (h : DInv applies st) {x : Nat} (hx : st.xpc x ≠ .idle) (p : XPc) :
    ∀ y, upd st.xpc x p y ≠ .idle → st.cancelReq (st.xtarget y) = true :=
  upd_forall (fun y (q : XPc) => q ≠ .idle → st.cancelReq (st.xtarget y) = true) (fun _ => h.xReq x hx) h.xReq

theorem DInv.snapLive_upd (h : DInv applies st) {g : Nat} (hg : st.rpc g ≠ .idle) (p : RPc) :
    ∀ x k, upd st.rpc g p x ≠ .idle → st.madeAtLock x k = true → st.cancelReq k = false → k ∈ st.snap x :=
  upd_forall (fun x (q : RPc) => ∀ k, q ≠ .idle → st.madeAtLock x k = true → st.cancelReq k = false → k ∈ st.snap x)
    (fun k _ => h.snapLive g k hg) h.snapLive

theorem DInv.step {a : Act} (hi : Inv st) (h : DInv applies st) (hs : Step cfg phaseOf applies st a st') :
    DInv applies st' := by
  have hlog := logOk_step hs h.logSnap
  cases hs with
  | @reg k =>
    exact { h with
      logSnap := hlog
      liveIn := fun j hj hr => by
        by_cases hjk : j = k
        · simp [hjk]
        · exact List.mem_append_left _ (h.liveIn j (by simpa [hjk] using hj) hr) }
  | @rLock g =>
    exact { h with
      logSnap := hlog
      snapLive := fun x k hx hm hr => by
        by_cases hxg : x = g
        · subst hxg; simpa using h.liveIn k (by simpa using hm) hr
        · simpa [hxg] using h.snapLive x k (by simpa [hxg] using hx) (by simpa [hxg] using hm) hr
      snapNodup := upd_forall (fun _ (l : List Nat) => l.Nodup) hi.hooksNodup h.snapNodup }
  | rSkip hg | rCallBegin hg | rVeto hg | rPass hg | rRelease hg | rUnlock hg =>
    exact { h with logSnap := hlog, snapLive := h.snapLive_upd (by simp [hg]) _ }
  | @xEnter x k hx =>
    have old : ∀ j, upd st.cancelReq k true j = false → st.cancelReq j = false := fun j hj => by
      by_cases hjk : j = k
      · simp [hjk] at hj
      · simpa [hjk] using hj
    exact { h with
      logSnap := hlog
      xReq := fun y hy => by
        by_cases hyx : y = x
        · simp [hyx]
        · have := h.xReq y (by simpa [hyx] using hy)
          by_cases ht : st.xtarget y = k <;> simp [hyx, ht, this]
      liveIn := fun j hj hr => h.liveIn j hj (old j hr)
      snapLive := fun g j hg hm hr => h.snapLive g j hg hm (old j hr) }
  | xLock hx | xLockShared hx | xUnlock hx => exact { h with logSnap := hlog, xReq := h.xReq_upd (by simp [hx]) _ }
  | @xRemove x hx =>
    have hreq := h.xReq x (by simp [hx])
    exact { h with
      logSnap := hlog
      xReq := h.xReq_upd (by simp [hx]) _
      liveIn := fun j hj hr => (List.mem_erase_of_ne fun e => by simp [e, hreq] at hr).mpr (h.liveIn j hj hr) }

end

theorem dinv_reach {cfg : LockCfg} (hcfg : cfg.Sound) {phaseOf : Nat → Phase} {applies : Nat → Nat → Bool} {st : HSt}
    (h : Reach cfg phaseOf applies st) : DInv applies st := by
  induction h with
  | init => exact dinv_init applies
  | step a hr hs ih => exact .step (inv_reach hcfg hr) ih (.of_step hs)

end PB.HooksConc
