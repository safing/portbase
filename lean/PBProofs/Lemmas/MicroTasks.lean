import PB.Model.MicroTasks
import PBProofs.Lemmas.Guard
/-! Helper lemmas for C15: the inductive invariants of the microtask scheduler model, each restated as an assertion indexed
    by the program location, so that a step puts numerals there and what it does not touch carries over by evaluation. -/
namespace PB.MicroTasks
open PB.Gen.MicroTasks

theorem addG_sched (s : St) : addG s dSched = { s with cI := s.cI + 1 } := rfl
theorem addG_sdsched (s : St) : addG s dShutdownSched = { s with cI := s.cI + 1 } := rfl
theorem addG_high (s : St) : addG s dHighRun = { s with cI := s.cI + 1 } := rfl
theorem addG_tmo (s : St) : addG s dTimeoutMedium = { s with cI := s.cI + 1 } := rfl
theorem addG_conclude (s : St) : addG s dConclude = { s with cD := s.cD + 1 } := rfl
theorem addM_run (s : St) : addM s dModRun = { s with mI := s.mI + 1 } := rfl
theorem addM_conclude (s : St) : addM s dModConclude = { s with mD := s.mD + 1 } := rfl
theorem tmoEnq_counts : timeoutEnqueueCounts = true := rfl
theorem tmoWait_counts_not : timeoutWaitCounts = false := rfl

theorem space_iff (s : St) : space s = true ↔ s.cI < s.cD + s.lim := by
  unfold space schedSpace St.cnt
  rw [decide_eq_true_iff]
  omega

theorem space_false_iff (s : St) : space s = false ↔ s.cD + s.lim ≤ s.cI := by
  rw [← Bool.not_eq_true, space_iff]
  omega

def Inv (s : St) : Prop :=
  s.shut ≤ 1 ∧ s.fin ≤ 1 ∧ s.hk ≤ 2 ∧ s.spc ≤ 8 ∧ s.pend ≤ 1 ∧
  (s.hk = 0 → s.spc ≠ 3 ∧ s.spc ≠ 7) ∧
  (s.hk ≠ 0 → s.spc = 3 ∨ s.spc = 7) ∧
  (s.pend = 1 → s.spc = 4 ∨ s.spc = 8 ∨ s.hk = 2) ∧
  (s.spc = 4 ∨ s.spc = 8 ∨ s.hk = 2 → s.pend = 1) ∧
  (s.shut = 0 → s.spc < 6) ∧
  -- accounting: every admitted, not yet decremented task is counted or has exactly one increment owed
  s.cI + s.sM + s.sL + s.pend = s.cD + s.c + s.r + s.d1 + s.d2 + s.hc + s.hr + s.hd1 + s.hd2 ∧
  s.mI = s.mD + s.r + s.d1 + s.hr + s.hd1 ∧
  -- before any timer of a clearance wait fires there are no stale requests and nobody counted itself
  (s.tmo = 0 → s.tz = 0 → s.sM = 0 ∧ s.sL = 0 ∧ s.te = 0 ∧ s.hk ≠ 2) ∧
  -- the limit, strengthened along the scheduler's program counter
  (s.tmo = 0 → s.tz = 0 → s.spc < 6 → s.c + s.r + s.d1 + s.d2 ≤ s.lim) ∧
  (s.tmo = 0 → s.tz = 0 → s.spc = 2 ∨ s.spc = 3 → s.c + s.r + s.d1 + s.d2 + 1 ≤ s.lim) ∧
  -- no lost wake-up: a scheduler that waits without a token has either seen a full house that is still
  -- full, or a finishing task is about to offer the token
  (s.spc = 5 → s.fin = 0 → s.cD + s.lim ≤ s.cI ∨ 0 < s.d3)

theorem inv_init (lim : Nat) : Inv (init lim) := by
  unfold Inv init; simp

/-- the slot the scheduler of the normal loop has reserved while it selects or holds a request -/
def need (spc : Nat) : Nat := if spc = 2 ∨ spc = 3 then 1 else 0

def schedOk (spc hk pend : Nat) : Prop :=
  if spc = 3 ∨ spc = 7 then hk = 1 ∧ pend = 0 ∨ hk = 2 ∧ pend = 1
  else if spc = 4 ∨ spc = 8 then hk = 0 ∧ pend = 1
  else if spc ≤ 8 then hk = 0 ∧ pend = 0
  else False

theorem schedOk_iff {spc hk pend : Nat} : schedOk spc hk pend ↔
    hk ≤ 2 ∧ spc ≤ 8 ∧ pend ≤ 1 ∧ (hk = 0 → spc ≠ 3 ∧ spc ≠ 7) ∧ (hk ≠ 0 → spc = 3 ∨ spc = 7) ∧
    (pend = 1 → spc = 4 ∨ spc = 8 ∨ hk = 2) ∧ (spc = 4 ∨ spc = 8 ∨ hk = 2 → pend = 1) := by
  unfold schedOk
  grind

/-- the row of `schedOk` at the holding locations 3 and 7, as two implications -/
theorem schedOk_holding {hk pend : Nat} (h : hk = 1 ∧ pend = 0 ∨ hk = 2 ∧ pend = 1) :
    (hk = 1 → pend = 0) ∧ (¬ hk = 1 → hk = 2 ∧ pend = 1) := by
  omega

/-- `Inv` at the scheduler's location `spc`, with the number `ml` of admitted medium/low tasks as a second parameter: a
    step of the scheduler puts a numeral for `spc` (then `schedOk`, `need` and the guards evaluate), a step of a task
    says what `ml` becomes. -/
structure SAt (s : St) (spc ml : Nat) : Prop where
  shut : s.shut ≤ 1
  fin : s.fin ≤ 1
  sched : schedOk spc s.hk s.pend
  down : if 6 ≤ spc then s.shut = 1 else True
  acc : s.cI + s.sM + s.sL + s.pend = s.cD + ml + s.hc + s.hr + s.hd1 + s.hd2
  mods : s.mI = s.mD + s.r + s.d1 + s.hr + s.hd1
  quiet : s.tmo = 0 → s.tz = 0 →
    (s.sM = 0 ∧ s.sL = 0 ∧ s.te = 0) ∧ s.hk ≠ 2 ∧ if spc < 6 then ml + need spc ≤ s.lim else True
  wake : if spc = 5 then s.fin = 0 → s.cD + s.lim ≤ s.cI ∨ 0 < s.d3 else True

variable {s s' : St}

theorem inv_iff : Inv s ↔ SAt s s.spc s.admML := by
  unfold Inv St.admML
  constructor
  · rintro ⟨h1, h2, h3, h4, h5, h6, h7, h8, h9, h10, h11, h12, h13, h14, h15, h16⟩
    refine ⟨h1, h2, schedOk_iff.2 ⟨h3, h4, h5, h6, h7, h8, h9⟩, ?_, ?_, h12, ?_, ?_⟩ <;> clear h3 h4 h5 h6 h7 h8 h9 <;>
      grind [need]
  · rintro ⟨h1, h2, hs, hd, ha, hm, hq, hw⟩
    have := schedOk_iff.1 hs
    unfold need at hq
    grind

theorem Inv.at {spc : Nat} (h : Inv s) (hp : s.spc = spc) : SAt s spc s.admML := hp ▸ inv_iff.1 h

theorem St.admML_succ (s : St) : s.c + 1 + s.r + s.d1 + s.d2 = s.admML + 1 := by
  unfold St.admML; omega

theorem SAt.step {spc ml : Nat} (hp : s'.spc = spc) (hm : s'.admML = ml) (h : SAt s' spc ml)
    (hl : s'.lim = s.lim := by rfl) : Inv s' ∧ s'.lim = s.lim := by
  subst hp hm; exact ⟨inv_iff.2 h, hl⟩

/-- before shutdown the flag is unset, so the scheduler is in its normal loop, where the limit conjunct speaks -/
theorem SAt.limit {ml : Nat} (h : SAt s s.spc ml) (hshut : s.shut = 0) (htmo : s.tmo = 0) (hz : s.tz = 0) :
    ml + need s.spc ≤ s.lim := by
  have hd := h.down
  have hl := (h.quiet htmo hz).2.2
  split at hd
  · omega
  · rwa [if_pos (by omega)] at hl

theorem ite_imp {c p q : Prop} [Decidable c] (f : p → q) (h : if c then p else True) : if c then q else True := by
  split
  · exact f ((if_pos ‹c›).mp h)
  · trivial

theorem inv_step_lim (a : Act) (h : Inv s) (hs : step s a = some s') : Inv s' ∧ s'.lim = s.lim := by
  have h0 := inv_iff.1 h
  cases a with
  | submit p => cases p <;> cases hs <;> exact ⟨h, rfl⟩
  | callNil | hcall | ret | doneAgain | stopCheck => cases hs; exact ⟨h, rfl⟩
  | flag =>
    obtain ⟨hspc, hs⟩ := of_ite_some hs
    have h := h.at hspc
    split at hs <;> cases hs
    · exact SAt.step rfl rfl { h with
        down := ‹s.shut = 1›, quiet := fun a b => ⟨(h.quiet a b).1, (h.quiet a b).2.1, trivial⟩ }
    · exact SAt.step rfl rfl { h with }
  | read =>
    obtain ⟨hspc, hs⟩ := of_ite_some hs
    have h := h.at hspc
    split at hs <;> cases hs
    · -- the guard saw space: with nothing stale and no increment owed the count is exact, so a slot is free
      have hsp := (space_iff s).1 ‹_›
      refine SAt.step rfl rfl { h with quiet := fun a b => ⟨(h.quiet a b).1, (h.quiet a b).2.1, ?_⟩ }
      have := (h.quiet a b).1
      have := h.acc
      have : s.pend = 0 := h.sched.2   -- `schedOk 1 _ _` evaluates to its row `hk = 0 ∧ pend = 0`
      show s.admML + 1 ≤ s.lim
      omega
    · have hfull := (space_false_iff s).1 (eq_false_of_ne_true ‹_›)
      exact SAt.step rfl rfl { h with wake := fun _ => .inl hfull }
  | pickOther =>
    rw [step] at hs
    split at hs
    · cases hs
      have h := h.at ‹s.spc = 2›
      exact SAt.step rfl rfl { h with
        quiet := fun a b => ⟨(h.quiet a b).1, (h.quiet a b).2.1, Nat.le_of_succ_le (h.quiet a b).2.2⟩ }
    · split at hs <;> cases hs
      exact ⟨h, rfl⟩
  | take p stale =>
    cases stale
    · -- a live request: nothing is owed yet
      cases p
      all_goals
        obtain ⟨⟨hspc, _⟩, ⟨⟩⟩ := of_ite_some hs
        rcases hspc with hspc | hspc
        all_goals
          have h := h.at hspc
          exact SAt.step (congrArg (· + 1) hspc) rfl { h with
            sched := .inl ⟨rfl, h.sched.2⟩
            quiet := fun a b => ⟨(h.quiet a b).1, (by decide : 1 ≠ 2), (h.quiet a b).2.2⟩ }
    · -- a stale request: its owner went on uncounted, so the increment is owed; a maximum delay has expired
      cases p
      all_goals
        obtain ⟨⟨hspc, hpos⟩, ⟨⟩⟩ := of_ite_some hs
        rcases hspc with hspc | hspc
        all_goals
          have h := h.at hspc
          have hp : s.pend = 0 := h.sched.2
          exact SAt.step (ml := s.admML) (congrArg (· + 1) hspc) rfl { h with
            sched := .inr ⟨rfl, rfl⟩
            acc := by have := h.acc; dsimp only; omega
            quiet := fun a b => by have := (h.quiet a b).1; omega }
  | close =>
    obtain ⟨hspc, hs⟩ := of_ite_some hs
    split at hs <;> cases hs
    · -- the owner is cleared here; the scheduler owes its increment until `count`
      rcases hspc with hspc | hspc
      all_goals
        have h := h.at hspc
        have hp : s.pend = 0 := (schedOk_holding h.sched).1 ‹_›
        exact SAt.step (congrArg (· + 1) hspc) s.admML_succ { h with
          sched := ⟨rfl, rfl⟩
          acc := by have := h.acc; dsimp only; omega
          quiet := fun a b => ⟨(h.quiet a b).1, (by decide : 0 ≠ 2), (h.quiet a b).2.2⟩ }
    · -- the held request was stale: the increment is owed already
      rcases hspc with hspc | hspc
      all_goals
        have h := h.at hspc
        have hk : s.hk = 2 ∧ s.pend = 1 := (schedOk_holding h.sched).2 ‹_›
        exact SAt.step (congrArg (· + 1) hspc) rfl { h with
          sched := ⟨rfl, hk.2⟩
          quiet := fun a b => absurd hk.1 (h.quiet a b).2.1 }
  | count =>
    by_cases h4 : s.spc = 4
    case' pos =>
      have hloc := h4
      have hs := (if_pos h4).symm.trans hs
      rw [addG_sched] at hs
    case' neg =>
      obtain ⟨hloc, hs⟩ := of_ite_some ((if_neg h4).symm.trans hs)
      rw [addG_sdsched] at hs
    all_goals
      cases hs
      have h := h.at hloc
      have hp : s.pend = 1 := h.sched.2
      exact SAt.step (ml := s.admML) rfl rfl { h with
        sched := ⟨h.sched.1, rfl⟩, acc := by have := h.acc; dsimp only; omega }
  | wakeToken =>
    obtain ⟨⟨hspc, _⟩, ⟨⟩⟩ := of_ite_some hs
    have h := h.at hspc
    exact SAt.step rfl rfl { h with fin := Nat.zero_le 1, wake := trivial }
  | wakeTick =>
    obtain ⟨hspc, ⟨⟩⟩ := of_ite_some hs
    have h := h.at hspc
    exact SAt.step rfl rfl { h with wake := trivial }
  | shutdown =>
    obtain ⟨_, ⟨⟩⟩ := of_ite_some hs
    exact SAt.step rfl rfl { h0 with shut := Nat.le_refl 1, down := ite_imp (fun _ => rfl) h0.down }
  | tmoEnq p z =>
    -- a timer on time bumps `tmo`, an early one `tz`: no quiet state afterwards
    cases z
    · cases p <;> obtain ⟨_, ⟨⟩⟩ := of_ite_some hs <;>
        exact SAt.step rfl rfl { h0 with quiet := fun a _ => absurd a (Nat.succ_ne_zero _) }
    · cases p <;> obtain ⟨_, ⟨⟩⟩ := of_ite_some hs <;>
        exact SAt.step rfl rfl { h0 with quiet := fun _ b => absurd b (Nat.succ_ne_zero _) }
  | tmoInc =>
    obtain ⟨⟨hte, _⟩, hs⟩ := of_ite_some hs
    rw [addG_tmo] at hs
    cases hs
    exact SAt.step rfl s.admML_succ { h0 with
      acc := by have := h0.acc; dsimp only; omega
      quiet := fun a b => by have := (h0.quiet a b).1; omega
      wake := ite_imp (fun w hf => (w hf).imp_left Nat.le_succ_of_le) h0.wake }
  | tmoWait p z =>
    cases z
    · cases p <;> obtain ⟨_, ⟨⟩⟩ := of_ite_some hs <;>
        exact SAt.step rfl s.admML_succ { h0 with
          acc := by have := h0.acc; dsimp only; omega
          quiet := fun a _ => absurd a (Nat.succ_ne_zero _) }
    · cases p <;> obtain ⟨_, ⟨⟩⟩ := of_ite_some hs <;>
        exact SAt.step rfl s.admML_succ { h0 with
          acc := by have := h0.acc; dsimp only; omega
          quiet := fun _ b => absurd b (Nat.succ_ne_zero _) }
  | tmoHeld z =>
    cases z
    · obtain ⟨⟨hspc, hk1⟩, ⟨⟩⟩ := of_ite_some hs
      rcases hspc with hspc | hspc
      all_goals
        have h := h.at hspc
        have hp : s.pend = 0 := (schedOk_holding h.sched).1 hk1
        exact SAt.step hspc s.admML_succ { h with
          sched := .inr ⟨rfl, rfl⟩
          acc := by have := h.acc; dsimp only; omega
          quiet := fun a _ => absurd a (Nat.succ_ne_zero _) }
    · obtain ⟨⟨hspc, hk1, _⟩, ⟨⟩⟩ := of_ite_some hs
      rcases hspc with hspc | hspc
      all_goals
        have h := h.at hspc
        have hp : s.pend = 0 := (schedOk_holding h.sched).1 hk1
        exact SAt.step hspc s.admML_succ { h with
          sched := .inr ⟨rfl, rfl⟩
          acc := by have := h.acc; dsimp only; omega
          quiet := fun _ b => absurd b (Nat.succ_ne_zero _) }
  | tmoLate z =>
    -- the guard of the early kind is closed and evaluates to `true` (`signal*DefaultsZeroDelay = false`)
    cases z <;> cases hs
    · exact SAt.step rfl rfl { h0 with quiet := fun a _ => absurd a (Nat.succ_ne_zero _) }
    · exact SAt.step rfl rfl { h0 with quiet := fun _ b => absurd b (Nat.succ_ne_zero _) }
  | hinc =>
    obtain ⟨hpos, hs⟩ := of_ite_some hs
    rw [addG_high] at hs
    cases hs
    exact SAt.step (ml := s.admML) rfl rfl { h0 with
      acc := by have := h0.acc; dsimp only; omega
      wake := ite_imp (fun w hf => (w hf).imp_left Nat.le_succ_of_le) h0.wake }
  | «begin» high | fnRet high _ | modDec high =>
    -- a move to the next location: the sums stay, `mI` (`begin`) or `mD` (`modDec`) follows
    cases high
    all_goals
      obtain ⟨hpos, ⟨⟩⟩ := of_ite_some hs
    case false =>
      exact SAt.step rfl (by simp only [St.admML, addM_run, addM_conclude]; omega) { h0 with
        mods := by have := h0.mods; simp only [addM_run, addM_conclude]; omega }
    case true =>
      exact SAt.step (ml := s.admML) rfl rfl { h0 with
        acc := by have := h0.acc; simp only [addM_run, addM_conclude]; omega
        mods := by have := h0.mods; simp only [addM_run, addM_conclude]; omega }
  | dec high =>
    cases high
    all_goals
      obtain ⟨hpos, hs⟩ := of_ite_some hs
      rw [addG_conclude] at hs
      cases hs
    · -- the admitted sum drops by one (`hml`, used by the `omega`s below)
      have hml : s.admML = (s.c + s.r + s.d1 + (s.d2 - 1)) + 1 := by simp only [St.admML]; omega
      exact SAt.step (ml := s.c + s.r + s.d1 + (s.d2 - 1)) rfl rfl { h0 with
        acc := by have := h0.acc; dsimp only; omega
        quiet := fun a b => ⟨(h0.quiet a b).1, (h0.quiet a b).2.1,
          ite_imp (fun w => by dsimp only; omega) (h0.quiet a b).2.2⟩
        wake := ite_imp (fun _ _ => .inr (Nat.succ_pos _)) h0.wake }
    · exact SAt.step (ml := s.admML) rfl rfl { h0 with
        acc := by have := h0.acc; dsimp only; omega
        wake := ite_imp (fun _ _ => .inr (Nat.succ_pos _)) h0.wake }
  | tokSend =>
    obtain ⟨_, ⟨⟩⟩ := of_ite_some hs
    exact SAt.step rfl rfl { h0 with
      fin := Nat.le_refl 1, wake := ite_imp (fun _ hf => absurd hf (Nat.succ_ne_zero 0)) h0.wake }
  | tokDrop =>
    obtain ⟨⟨_, hf1⟩, ⟨⟩⟩ := of_ite_some hs
    exact SAt.step rfl rfl { h0 with
      wake := ite_imp (fun _ hf => absurd (hf1.symm.trans hf) (Nat.succ_ne_zero 0)) h0.wake }

theorem inv_step (a : Act) (h : Inv s) (hs : step s a = some s') : Inv s' := (inv_step_lim a h hs).1

theorem run_cons {s1 : St} {a : Act} {as : List Act} {P : St → Prop} (h : step s a = some s1)
    (hr : ∃ s', run s1 as = some s' ∧ P s') : ∃ s', run s (a :: as) = some s' ∧ P s' := by
  rw [run, h]; exact hr

theorem run_inv (as : List Act) : ∀ {s s' : St}, Inv s → run s as = some s' → Inv s' ∧ s'.lim = s.lim := by
  induction as with
  | nil => intro s s' h hr; cases hr; exact ⟨h, rfl⟩
  | cons a as ih =>
    intro s s' h hr
    rw [run] at hr
    split at hr
    · have h1 := inv_step_lim a h ‹_›
      exact (ih h1.1 hr).imp_right (·.trans h1.2)
    · cases hr

/-- regenerated: `concludeMicroTask` runs the stop check unconditionally between its two decrements -/
theorem concludeChecksStop_true : concludeChecksStop = true := rfl

/-- regenerated: each of the four timers of `get{Medium,Low}PriorityClearance` (enqueue phase, wait phase) is armed
    with the function's `maxDelay` parameter -/
theorem armed_param (ph : Phase) (p : Prio) : armed ph p = Arm.param := by
  cases ph <;> cases p <;> rfl

/-- regenerated: the function's error reaches the caller of the blocking variants unchanged -/
theorem retVal_eq (out : Nat) : retVal out = out + 2 := rfl

theorem zN_true : zN true = 1 := rfl
theorem zN_false : zN false = 0 := rfl

/-- An action of somebody else leaves the followed task alone, except the scheduler's `close` / `count` on the
    task's own request. (This is why the acceptor only has to apply `dstep … false` to the task whose request
    the scheduler holds: for every task of a trace the events form a run of `fstep`.) -/
theorem dstep_other_id (d : DSt) (a : Act) (h1 : ¬(a = .close ∧ d.req = 2)) (h2 : ¬(a = .count ∧ d.req = 3)) :
    dstep d a false = some d := by
  cases a with
  | close => exact if_neg fun h => h1 ⟨rfl, h⟩
  | count => exact if_neg fun h => h2 ⟨rfl, h⟩
  | _ => rfl

/-- 1 at the program locations `k … 10` of a task, 0 before them and at 11 -/
def ind (k pc : Nat) : Nat := if k ≤ pc ∧ pc ≤ 10 then 1 else 0

/-- which states `req` of the clearance request go with which location `pc`, by priority class -/
def locOk (cls pc req : Nat) : Prop :=
  if pc = 1 then cls = 2 ∧ req = 0
  else if pc = 2 then cls ≠ 2 ∧ (req = 1 ∨ req = 2)
  else if pc = 3 then cls ≠ 2 ∧ req = 5
  else if 4 ≤ pc ∧ pc ≤ 10 then (if cls = 2 then req = 0 else 1 ≤ req ∧ req ≤ 5)
  else if pc = 0 ∨ pc = 11 then req = 0
  else False

/-- the scheduler moves a request on wherever its owner is, except that an owner still waiting (2) leaves on `close` -/
theorem locOk.advance {cls pc req : Nat} (h : locOk cls pc req) (h1 : 1 ≤ req) (h4 : req ≤ 4)
    (h2 : pc = 2 → req ≠ 2) : locOk cls pc (req + 1) := by
  unfold locOk at *
  grind

theorem locOk.to4 {cls pc req : Nat} (h : locOk cls pc req) (hp : 1 ≤ pc ∧ pc ≤ 3) : locOk cls 4 req := by
  unfold locOk at *
  grind

/-- The ghost fields of a followed task are functions of its location `pc` and the state `req` of its request, both
    taken as parameters so that a step puts numerals there. -/
structure At (d : DSt) (pc req : Nat) : Prop where
  execs : d.execs = if d.var = 2 then 0 else ind 5 pc
  res : d.res = if pc = 11 then 1 else if pc = 10 ∧ d.var = 0 then d.out + 2 else 0
  nilm : d.nilm = if pc = 0 then d.nilm else if pc = 11 then 1 else 0
  mI : d.mI = ind 5 pc
  mD : d.mD = ind 7 pc
  gD : d.gD = ind 8 pc
  gI : d.gI = if req = 0 ∨ req = 5 then ind 4 pc else if req = 4 then 1 else 0
  flag : d.flag = if d.var = 2 then ind 6 pc else 0
  dones : d.dones = 0 ↔ d.flag = 0
  chk : ind 8 pc ≤ d.chk ∧ d.chk ≤ ind 7 pc
  ez : ¬(d.zd = 1 ∧ d.var = 2) → d.ez = 0
  loc : locOk d.cls pc req

def DInv (d : DSt) : Prop := At d d.pc d.req

variable {d d' : DSt}

theorem dinv_new (cls var nilm zd : Nat) : DInv (DSt.new cls var nilm zd) :=
  ⟨(ite_self 0).symm, rfl, rfl, rfl, rfl, rfl, rfl, (ite_self 0).symm, Iff.rfl, ⟨Nat.le_refl 0, Nat.le_refl 0⟩,
    fun _ => rfl, rfl⟩

theorem prioCls_ne_two (p : Prio) : prioCls p ≠ 2 := by cases p <;> decide

theorem ez_step {ph : Phase} {z : Bool} (hz : d.zOk ph z) (h : ¬(d.zd = 1 ∧ d.var = 2) → d.ez = 0) :
    ¬(d.zd = 1 ∧ d.var = 2) → d.ez + zN z = 0 := by
  intro hn
  cases z
  · exact h hn
  · rcases hz rfl with ⟨h1, h2, _⟩ | h3
    · exact absurd ⟨h1, h2⟩ hn
    · exact absurd (armed_param _ _) h3

theorem dinv_step (a : Act) (me : Bool) (h : DInv d) (hs : dstep d a me = some d') : DInv d' := by
  -- with the fields of `d` as variables a guard `pc = 4` is substituted, in `h` and in the goal
  obtain ⟨cls, var, nilm, zd, pc, req, execs, out, res, gI, gD, mI, mD, flag, dones, chk, ez⟩ := d
  replace h : At _ pc req := h
  cases me
  · by_cases hc : a = .close ∧ req = 2
    · obtain ⟨rfl, rfl⟩ := hc
      cases hs
      by_cases hp : pc = 2
      · subst hp
        -- closed while the owner still waits: it is cleared, and `locOk cls 4 3` comes down to `cls ≠ 2`
        exact { h with loc := show locOk cls 4 3 from (if_neg h.loc.1).mpr ⟨by decide, by decide⟩ }
      · rw [DInv, if_neg hp]
        exact { h with loc := h.loc.advance (by decide) (by decide) (absurd · hp) }
    by_cases hn : a = .count ∧ req = 3
    · obtain ⟨rfl, rfl⟩ := hn
      cases hs
      exact { h with gI := congrArg (· + 1) h.gI, loc := h.loc.advance (by decide) (by decide) (fun _ => by decide) }
    · rw [dstep_other_id _ a hc hn] at hs
      cases hs
      exact h
  cases a with
  | flag | read | pickOther | close | count | wakeToken | wakeTick | shutdown => cases hs
  | callNil =>
    obtain ⟨⟨rfl, hn⟩, ⟨⟩⟩ := of_ite_some hs
    exact { h with res := rfl, nilm := hn }
  | submit p =>
    obtain ⟨⟨rfl, hn, hcls⟩, ⟨⟩⟩ := of_ite_some hs
    obtain rfl : req = 0 := h.loc
    exact { h with nilm := hn, loc := ⟨hcls ▸ prioCls_ne_two p, .inl rfl⟩ }
  | hcall =>
    obtain ⟨⟨rfl, hn, hcls⟩, ⟨⟩⟩ := of_ite_some hs
    exact { h with nilm := hn, loc := ⟨hcls, h.loc⟩ }
  | hinc | tmoInc =>
    -- the task counts itself: a high-priority task has no request, after an enqueue timeout it was never queued
    obtain ⟨rfl, ⟨⟩⟩ := of_ite_some hs
    obtain ⟨-, rfl⟩ := h.loc
    exact { h with gI := congrArg (· + 1) h.gI, loc := h.loc.to4 (by decide) }
  | take p b =>
    cases b
    all_goals
      obtain ⟨⟨rfl, _⟩, ⟨⟩⟩ := of_ite_some hs
      exact { h with loc := h.loc.advance (by decide) (by decide) (fun _ => by decide) }
  | tmoEnq p z =>
    obtain ⟨⟨rfl, rfl, _, hz⟩, ⟨⟩⟩ := of_ite_some hs
    exact { h with ez := ez_step hz h.ez, loc := ⟨h.loc.1, rfl⟩ }
  | tmoWait p z =>
    obtain ⟨⟨rfl, rfl, _, hz⟩, ⟨⟩⟩ := of_ite_some hs
    exact { h with ez := ez_step hz h.ez, loc := h.loc.to4 (by decide) }
  | tmoHeld z =>
    obtain ⟨⟨rfl, rfl, hz⟩, ⟨⟩⟩ := of_ite_some hs
    exact { h with ez := ez_step hz h.ez, loc := h.loc.to4 (by decide) }
  | tmoLate z =>
    obtain ⟨⟨_, _, hz⟩, ⟨⟩⟩ := of_ite_some hs
    exact { h with ez := ez_step hz h.ez }
  | «begin» high =>
    obtain ⟨⟨rfl, _⟩, ⟨⟩⟩ := of_ite_some hs
    -- `ind 5 4 = 0`, `ind 5 5 = 1`: the one execution, unless the task is a `Signal*` (`var = 2`)
    exact { h with mI := congrArg (· + 1) h.mI, execs := by rw [h.execs]; split <;> rfl }
  | fnRet high out =>
    obtain ⟨⟨rfl, _⟩, hs⟩ := of_ite_some hs
    by_cases hv : var = 2
    · -- a `Signal*` task: the first effective `done()`
      obtain ⟨hf, ⟨⟩⟩ := of_ite_some ((if_pos hv).symm.trans hs)
      exact { h with flag := (if_pos hv).symm, dones := by simp }   -- `dones + 1 ≠ 0` and `flag = 1 ≠ 0`
    · cases (if_neg hv).symm.trans hs
      exact { h with flag := h.flag.trans ((if_neg hv).trans (if_neg hv).symm) }
  | modDec high =>
    obtain ⟨⟨rfl, _⟩, ⟨⟩⟩ := of_ite_some hs
    exact { h with mD := congrArg (· + 1) h.mD, chk := ⟨h.chk.1, Nat.le_succ_of_le h.chk.2⟩ }
  | dec high =>
    obtain ⟨⟨rfl, _, hchk⟩, ⟨⟩⟩ := of_ite_some hs
    exact { h with gD := congrArg (· + 1) h.gD, chk := ⟨Nat.le_of_eq (hchk rfl).symm, Nat.le_of_eq (hchk rfl)⟩ }
  | tokSend | tokDrop =>
    obtain ⟨rfl, ⟨⟩⟩ := of_ite_some hs
    exact { h with }
  | ret =>
    obtain ⟨rfl, ⟨⟩⟩ := of_ite_some hs
    -- at 9 the row of `res` is 0; at 10 it is `out + 2` for a blocking variant (`var = 0`), which is what `ret` writes
    exact { h with res := by have := h.res; by_cases hv : var = 0 <;> simp_all [retVal_eq] }
  | doneAgain =>
    obtain ⟨⟨_, hf⟩, ⟨⟩⟩ := of_ite_some hs
    exact { h with dones := by simp [show flag = 1 from hf] }
  | stopCheck =>
    obtain ⟨⟨rfl, _⟩, ⟨⟩⟩ := of_ite_some hs
    exact { h with chk := ⟨Nat.zero_le _, Nat.le_refl _⟩ }

theorem sat_of_run {lim : Nat} {as : List Act} {s : St} (h : run (init lim) as = some s) :
    SAt s s.spc s.admML ∧ s.lim = lim :=
  ⟨inv_iff.1 (run_inv as (inv_init lim) h).1, (run_inv as (inv_init lim) h).2⟩

theorem fstep_some {f f' : FSt} {a : Act} {me : Bool} (h : fstep f a me = some f') :
    step f.g a = some f'.g ∧ dstep f.d a me = some f'.d := by
  unfold fstep at h
  split at h <;> cases h
  exact ⟨‹_›, ‹_›⟩

theorem finv_run (tr : List (Act × Bool)) : ∀ {f f' : FSt}, Inv f.g → DInv f.d → frun f tr = some f' →
    Inv f'.g ∧ DInv f'.d := by
  induction tr with
  | nil => intro f f' h1 h2 hr; cases hr; exact ⟨h1, h2⟩
  | cons x tr ih =>
    intro f f' h1 h2 hr
    rw [frun] at hr
    split at hr
    · have := fstep_some ‹_›
      exact ih (inv_step _ h1 this.1) (dinv_step _ _ h2 this.2) hr
    · cases hr

theorem task_at {lim cls var nilm zd : Nat} {tr : List (Act × Bool)} {f : FSt}
    (h : frun ⟨init lim, DSt.new cls var nilm zd⟩ tr = some f) : At f.d f.d.pc f.d.req :=
  (finv_run tr (inv_init lim) (dinv_new cls var nilm zd) h).2

theorem addK_run (m : MSt) : addK m dModRun = { m with kI := m.kI + 1 } := rfl
theorem addK_conclude (m : MSt) : addK m dModConclude = { m with kD := m.kD + 1 } := rfl

def MInv (m : MSt) : Prop :=
  m.kI = m.kD + m.run ∧ m.flag ≤ 1 ∧ m.done ≤ 1 ∧ m.st ≤ 2 ∧ m.sp ≤ 3 ∧
  (m.st = 2 ↔ m.sp ≠ 0) ∧ (2 ≤ m.sp → m.flag = 1) ∧ (m.st = 1 → m.flag = 0)

theorem minv_init : MInv MSt.init := by
  unfold MInv MSt.init; simp

theorem minv_step {m m' : MSt} (a : MAct) (h : MInv m) (hs : mstep m a = some m') : MInv m' := by
  unfold MInv at *
  cases a with
  | «begin» => cases hs; rw [addK_run]; grind
  | modDec => obtain ⟨hr, hs⟩ := of_ite_some hs; rw [addK_conclude] at hs; cases hs; grind
  | check oth => rw [mstep] at hs; split at hs <;> cases hs <;> grind
  | stopBegin | flagSet | wake | timeout | offline | start => obtain ⟨hg, ⟨⟩⟩ := of_ite_some hs; grind

theorem minv_run (as : List MAct) : ∀ {m m' : MSt}, MInv m → mrun m as = some m' → MInv m' := by
  induction as with
  | nil => intro m m' h hr; cases hr; exact h
  | cons a as ih =>
    intro m m' h hr
    rw [mrun] at hr
    split at hr
    · exact ih (minv_step a h ‹_›) hr
    · cases hr

/-- a step of the product is a step of the task's own automaton (or leaves it alone): the module never acts on it -/
theorem tstep_f {t t' : TSt} {a : TAct} (h : tstep t a = some t') :
    t'.f = t.f ∨ ∃ b me, fstep t.f b me = some t'.f := by
  cases a with
  | mod a =>
    rw [tstep] at h
    split at h <;> cases h
    exact .inl rfl
  | task b me =>
    rw [tstep] at h
    split at h
    · cases h
    · refine .inr ⟨b, me, ?_⟩
      rw [‹fstep t.f b me = _›]
      -- whichever branch of `tstep` applies (own `begin`, `modDec`, `fnRet`, any other), its result has `f := f'`
      (repeat' split at h) <;> cases h <;> rfl

theorem tinv_run (tr : List TAct) : ∀ {t t' : TSt}, Inv t.f.g → DInv t.f.d → trun t tr = some t' →
    Inv t'.f.g ∧ DInv t'.f.d := by
  induction tr with
  | nil => intro t t' h1 h2 hr; cases hr; exact ⟨h1, h2⟩
  | cons a tr ih =>
    intro t t' h1 h2 hr
    rw [trun] at hr
    split at hr
    · rcases tstep_f ‹_› with he | ⟨b, me, hf⟩
      · exact ih (he ▸ h1) (he ▸ h2) hr
      · exact ih (inv_step b h1 (fstep_some hf).1) (dinv_step b me h2 (fstep_some hf).2) hr
    · cases hr

end PB.MicroTasks
