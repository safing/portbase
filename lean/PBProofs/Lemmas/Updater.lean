import PB.Model.Updater
import PB.Spec.Updater
/- Lemmas for C19: version order, sorting, the selection cascade, purge, `AddVersion`, the invariant of all histories. -/
namespace PB.Updater
open PB.Updater.Spec

/-! ### The version order is a strict total order -/

/-- one level of a lexicographic comparison: `strLt` is this at every character, `Ver.lt` three levels above `preLt` -/
def lexNat (x y : Nat) (rest : Bool) : Bool := if x ≠ y then decide (x < y) else rest

theorem lexNat_eq_true {x y : Nat} {r : Bool} : lexNat x y r = true ↔ x < y ∨ x = y ∧ r = true := by
  unfold lexNat
  by_cases h : x = y
  · simp [h]
  · simp only [ne_eq, h, not_false_eq_true, if_true, decide_eq_true_eq, false_and, or_false]

theorem lexNat_self (x : Nat) (r : Bool) : lexNat x x r = r := by simp [lexNat]

theorem lexNat_trans {x y z : Nat} {r s t : Bool} (h1 : lexNat x y r = true) (h2 : lexNat y z s = true)
    (h : r = true → s = true → t = true) : lexNat x z t = true := by
  rw [lexNat_eq_true] at *
  rcases h1 with h1 | ⟨rfl, h1⟩
  · rcases h2 with h2 | ⟨rfl, _⟩
    · exact Or.inl (Nat.lt_trans h1 h2)
    · exact Or.inl h1
  · rcases h2 with h2 | ⟨rfl, h2⟩
    · exact Or.inl h2
    · exact Or.inr ⟨rfl, h h1 h2⟩

theorem lexNat_total {x y : Nat} {r s : Bool} (h1 : lexNat x y r = false) (h2 : lexNat y x s = false) :
    x = y ∧ r = false ∧ s = false := by
  rw [← Bool.not_eq_true, lexNat_eq_true] at h1 h2
  obtain rfl : x = y := Nat.le_antisymm (Nat.le_of_not_lt fun h => h2 (Or.inl h)) (Nat.le_of_not_lt fun h => h1 (Or.inl h))
  exact ⟨rfl, Bool.eq_false_iff.mpr fun hr => h1 (Or.inr ⟨rfl, hr⟩), Bool.eq_false_iff.mpr fun hs => h2 (Or.inr ⟨rfl, hs⟩)⟩

theorem strLt_cons (a b : Nat) (as bs : Str) : strLt (a :: as) (b :: bs) = lexNat a b (strLt as bs) := by
  simp only [strLt, lexNat]
  by_cases h1 : a < b
  · simp [h1, Nat.ne_of_lt h1]
  · by_cases h2 : b < a
    · simp [h1, h2, Nat.ne_of_gt h2]
    · simp [Nat.le_antisymm (Nat.le_of_not_lt h2) (Nat.le_of_not_lt h1)]

theorem Ver.lt_eq (a b : Ver) :
    a.lt b = lexNat a.maj b.maj (lexNat a.min b.min (lexNat a.pat b.pat (preLt a.pre b.pre))) := rfl

theorem strLt_irrefl : ∀ a : Str, strLt a a = false
  | [] => rfl
  | x :: xs => by rw [strLt_cons, lexNat_self, strLt_irrefl xs]

theorem strLt_trans : ∀ {a b c : Str}, strLt a b = true → strLt b c = true → strLt a c = true
  | [], _ :: _, _ :: _, _, _ => rfl
  | _ :: as, _ :: bs, _ :: cs, h1, h2 => by
    rw [strLt_cons] at *
    exact lexNat_trans h1 h2 strLt_trans
  | [], [], _, h1, _ => by cases h1
  | _ :: _, [], _, h1, _ => by cases h1
  | _, _ :: _, [], _, h2 => by cases h2

theorem strLt_total : ∀ {a b : Str}, strLt a b = false → strLt b a = false → a = b
  | [], [], _, _ => rfl
  | [], _ :: _, h, _ => by cases h
  | _ :: _, [], _, h => by cases h
  | x :: xs, y :: ys, h1, h2 => by
    rw [strLt_cons] at h1 h2
    obtain ⟨rfl, h1, h2⟩ := lexNat_total h1 h2
    rw [strLt_total h1 h2]

theorem preLt_irrefl (a : Str) : preLt a a = false := by
  cases a <;> simp [preLt, strLt_irrefl]

theorem preLt_trans {a b c : Str} (h1 : preLt a b = true) (h2 : preLt b c = true) : preLt a c = true := by
  match a, b, c with
  | [], _, _ => simp [preLt] at h1
  | _ :: _, [], _ => simp [preLt] at h2
  | _ :: _, _ :: _, [] => rfl
  | _ :: _, _ :: _, _ :: _ => exact strLt_trans h1 h2

theorem preLt_total {a b : Str} (h1 : preLt a b = false) (h2 : preLt b a = false) : a = b := by
  match a, b with
  | [], [] => rfl
  | [], _ :: _ => simp [preLt] at h2
  | _ :: _, [] => simp [preLt] at h1
  | _ :: _, _ :: _ => exact strLt_total h1 h2

theorem Ver.lt_irrefl (a : Ver) : a.lt a = false := by
  simp only [Ver.lt_eq, lexNat_self, preLt_irrefl]

theorem Ver.lt_trans (a b c : Ver) (h1 : a.lt b = true) (h2 : b.lt c = true) : a.lt c = true := by
  rw [Ver.lt_eq] at *
  exact lexNat_trans h1 h2 fun h1 h2 => lexNat_trans h1 h2 fun h1 h2 => lexNat_trans h1 h2 preLt_trans

theorem Ver.lt_total (a b : Ver) (h1 : a.lt b = false) (h2 : b.lt a = false) : a = b := by
  rw [Ver.lt_eq] at *
  obtain ⟨e1, h1, h2⟩ := lexNat_total h1 h2
  obtain ⟨e2, h1, h2⟩ := lexNat_total h1 h2
  obtain ⟨e3, h1, h2⟩ := lexNat_total h1 h2
  cases a; cases b
  simp only [Ver.mk.injEq]
  exact ⟨e1, e2, e3, preLt_total h1 h2⟩

theorem Ver.lt_asymm (a b : Ver) : a.lt b = true → b.lt a = false := by
  intro h
  cases h2 : b.lt a
  · rfl
  · have := Ver.lt_trans a b a h h2
    simp [Ver.lt_irrefl] at this

/-- "not older than" is transitive -/
theorem Ver.ge_trans (a b c : Ver) : a.lt b = false → b.lt c = false → a.lt c = false := by
  intro h1 h2
  cases h : a.lt c
  · rfl
  · cases hba : b.lt a
    · have := Ver.lt_total a b h1 hba
      subst this
      simp [h] at h2
    · have := Ver.lt_trans b a c hba h
      simp [this] at h2

/-! ### Sorting newest first -/

/-- newest first: no element is older than a later one -/
def Sorted (l : List RV) : Prop := l.Pairwise (fun a b => a.ver.lt b.ver = false)

/-- version numbers are pairwise different: the version number is a key of the list -/
def VerNodup (l : List RV) : Prop := l.Pairwise (fun a b => a.ver ≠ b.ver)

theorem insertDesc_perm (x : RV) : ∀ l, (insertDesc x l).Perm (x :: l)
  | [] => List.Perm.refl _
  | y :: ys => by
    unfold insertDesc
    split
    · exact ((insertDesc_perm x ys).cons y).trans (List.Perm.swap x y ys)
    · exact List.Perm.refl _

theorem sortDesc_perm : ∀ l, (sortDesc l).Perm l
  | [] => List.Perm.refl _
  | x :: xs => (insertDesc_perm x (sortDesc xs)).trans ((sortDesc_perm xs).cons x)

theorem insertDesc_sorted (x : RV) : ∀ l, Sorted l → Sorted (insertDesc x l)
  | [], _ => by simp [insertDesc, Sorted]
  | y :: ys, h => by
    unfold insertDesc
    have hy := List.pairwise_cons.mp h
    split
    · rename_i hlt
      apply List.pairwise_cons.mpr
      refine ⟨?_, insertDesc_sorted x ys hy.2⟩
      intro z hz
      rcases List.mem_cons.mp ((insertDesc_perm x ys).mem_iff.mp hz) with hz | hz
      · subst hz; exact Ver.lt_asymm _ _ hlt
      · exact hy.1 z hz
    · rename_i hlt
      have hlt' : x.ver.lt y.ver = false := by simpa using hlt
      apply List.pairwise_cons.mpr
      refine ⟨?_, h⟩
      intro z hz
      rcases List.mem_cons.mp hz with rfl | hz
      · exact hlt'
      · exact Ver.ge_trans _ _ _ hlt' (hy.1 z hz)

theorem sortDesc_sorted : ∀ l, Sorted (sortDesc l)
  | [] => by simp [sortDesc, Sorted]
  | x :: xs => insertDesc_sorted x _ (sortDesc_sorted xs)

theorem mem_sortDesc {l : List RV} {x : RV} : x ∈ sortDesc l ↔ x ∈ l := (sortDesc_perm l).mem_iff

theorem VerNodup.perm {l l' : List RV} (p : l.Perm l') (h : VerNodup l) : VerNodup l' :=
  (p.pairwise_iff (fun {_ _} h => Ne.symm h)).mp h

theorem verNodup_of_map_eq {l l' : List RV} (h : l'.map (·.ver) = l.map (·.ver)) (hn : VerNodup l) : VerNodup l' := by
  have key : ∀ {l : List RV}, VerNodup l ↔ (l.map (·.ver)).Pairwise (· ≠ ·) := List.pairwise_map.symm
  rw [key] at *
  rwa [h]

theorem VerNodup.map {g : RV → RV} (hg : ∀ x, (g x).ver = x.ver) {l : List RV} (h : VerNodup l) : VerNodup (l.map g) :=
  verNodup_of_map_eq (by rw [List.map_map]; exact List.map_congr_left fun x _ => hg x) h

theorem pairwise_cut {R : RV → RV → Prop} {s : List RV} (h : s.Pairwise R) (n : Nat) {a b : RV}
    (ha : a ∈ s.take n) (hb : b ∈ s.drop n) : R a b := by
  rw [← List.take_append_drop n s] at h
  exact (List.pairwise_append.mp h).2.2 a ha b hb

theorem verNodup_sortDesc {l : List RV} (h : VerNodup l) : VerNodup (sortDesc l) :=
  h.perm (sortDesc_perm l).symm

theorem VerNodup.eq_of_ver {l : List RV} (h : VerNodup l) {a b : RV} (ha : a ∈ l) (hb : b ∈ l)
    (e : a.ver = b.ver) : a = b := by
  induction l with
  | nil => cases ha
  | cons x xs ih =>
    have hx := List.pairwise_cons.mp h
    rcases List.mem_cons.mp ha with h1 | h1
    · rcases List.mem_cons.mp hb with h2 | h2
      · rw [h1, h2]
      · subst h1; exact absurd e (hx.1 b h2)
    · rcases List.mem_cons.mp hb with h2 | h2
      · subst h2; exact absurd e.symm (hx.1 a h1)
      · exact ih hx.2 h1 h2

/-- in a sorted list the first element with a quality is a newest element with that quality -/
theorem find_sorted_newest {s : List RV} (hs : Sorted s) {p : RV → Bool} {r : RV}
    (h : s.find? p = some r) : Newest (fun rv => p rv = true) s r := by
  obtain ⟨hp, as, bs, rfl, has⟩ := List.find?_eq_some_iff_append.mp h
  refine ⟨by simp, hp, ?_⟩
  intro w hw hpw
  have hs' := List.pairwise_append.mp hs
  rcases List.mem_append.mp hw with hw | hw
  · have := has w hw; simp [hpw] at this
  · rcases List.mem_cons.mp hw with rfl | hw
    · exact Ver.lt_irrefl _
    · exact (List.pairwise_cons.mp hs'.2.1).1 w hw

theorem Newest.perm {P : RV → Prop} {l l' : List RV} (p : l.Perm l') {r : RV} (h : Newest P l r) : Newest P l' r :=
  ⟨p.mem_iff.mp h.1, h.2.1, fun w hw => h.2.2 w (p.mem_iff.mpr hw)⟩

theorem Newest.unique {P : RV → Prop} {l : List RV} (hn : VerNodup l) {r r' : RV}
    (h : Newest P l r) (h' : Newest P l r') : r = r' :=
  hn.eq_of_ver h.1 h'.1 (Ver.lt_total _ _ (h.2.2 r' h'.1 h'.2.1) (h'.2.2 r h.1 h.2.1))

/-! ### The specification only depends on the set of versions -/

theorem prescribed_congr {fl idx} {l l' : List RV} (hm : ∀ x, x ∈ l ↔ x ∈ l') {r : RV}
    (h : Prescribed fl idx l r) : Prescribed fl idx l' r := by
  have hN : ∀ {P : RV → Prop} r, Newest P l r ↔ Newest P l' r := fun r => by simp only [Newest, hm]
  have hD : DevAvail l = DevAvail l' := by simp only [DevAvail, hm]
  have hC : CurOk fl idx l = CurOk fl idx l' := by simp only [CurOk, hN]
  have hS : AnySel fl idx l = AnySel fl idx l' := by simp only [AnySel, hm]
  have hT : AnyStableSel fl idx l = AnyStableSel fl idx l' := by simp only [AnyStableSel, hm]
  cases h with
  | dev h1 h2 h3 h4 => exact .dev h1 ((hm r).mp h2) h3 h4
  | current h1 h2 h3 => exact .current (hD ▸ h1) ((hN r).mp h2) h3
  | newestSelectable h1 h2 h3 h4 => exact .newestSelectable (hD ▸ h1) (hC ▸ h2) h3 ((hN r).mp h4)
  | newestStable h1 h2 h3 h4 => exact .newestStable (hD ▸ h1) (hC ▸ h2) (hS ▸ h3) ((hN r).mp h4)
  | fallback h1 h2 h3 h4 h5 => exact .fallback (hD ▸ h1) (hC ▸ h2) (hS ▸ h3) (hT ▸ h4) ((hN r).mp h5)

/-! ### The cascade meets the specification -/

theorem selectable_not_bl {fl idx} {rv : RV} (h : selectable fl idx rv = true) : rv.bl = false := by
  unfold selectable at h
  cases hb : rv.bl
  · rfl
  · simp [hb] at h

theorem selectFrom_eq_none_iff {fl idx} {s : List RV} : selectFrom fl idx s = none ↔ s = [] := by
  cases s with
  | nil => simp [selectFrom]
  | cons a t =>
    simp only [selectFrom, Option.orElse_eq_orElse, Option.orElse_eq_or, reduceCtorEq, iff_false]
    intro h
    simp at h

theorem selectFrom_prescribed_sorted {fl idx} {s : List RV} (hs : Sorted s) (hn : VerNodup s) {r : RV}
    (h : selectFrom fl idx s = some r) : Prescribed fl idx s r := by
  cases s with
  | nil => simp [selectFrom] at h
  | cons first tl =>
    simp only [selectFrom, Option.orElse_eq_orElse, Option.orElse_eq_or, Option.or_eq_some_iff] at h
    -- 1) the dev release (outside dev mode the step is `none`)
    rcases h with hdev | ⟨hdev, h⟩
    · cases hd : fl.dev with
      | false => simp [hd] at hdev
      | true =>
      simp only [hd, if_true] at hdev
      have hm := List.mem_of_find?_eq_some hdev
      have hp := List.find?_some hdev
      simp only [Bool.and_eq_true, beq_iff_eq] at hp
      exact .dev hd hm hp.1 hp.2
    have ndev : ¬(fl.dev = true ∧ DevAvail (first :: tl)) := by
      rintro ⟨hd, d, hdm, hdv, hda⟩
      simp only [hd, if_true] at hdev
      have := List.find?_eq_none.mp hdev d hdm
      simp [hdv, hda] at this
    -- 2) the current release
    rcases h with hcur | ⟨hcur, h⟩
    · cases hc : (first :: tl).find? (·.cur) with
      | none => simp [hc] at hcur
      | some c =>
        simp only [hc] at hcur
        split at hcur
        · rename_i hsel
          cases hcur
          exact .current ndev (find_sorted_newest hs hc) hsel
        · cases hcur
    have ncur : ¬CurOk fl idx (first :: tl) := by
      rintro ⟨c, hcn, hcs⟩
      cases hc : (first :: tl).find? (·.cur) with
      | none => have := List.find?_eq_none.mp hc c hcn.1; simp [hcn.2.1] at this
      | some c' =>
        have := Newest.unique hn (find_sorted_newest hs hc) hcn
        subst this
        simp only [hc] at hcur
        simp [show selectable fl idx c' = true from hcs] at hcur
    -- 3) newest selectable (without pre-releases the step is `none`)
    rcases h with hpre | ⟨hpre, h⟩
    · cases hu : fl.usePre with
      | false => simp [hu] at hpre
      | true =>
      simp only [hu, if_true] at hpre
      exact .newestSelectable ndev ncur hu (find_sorted_newest hs hpre)
    have npre : ¬(fl.usePre = true ∧ AnySel fl idx (first :: tl)) := by
      rintro ⟨hu, x, hxm, hxs⟩
      simp only [hu, if_true] at hpre
      have := List.find?_eq_none.mp hpre x hxm
      simp [show selectable fl idx x = true from hxs] at this
    -- 4) newest selectable stable
    rcases h with hst | ⟨hst, h⟩
    · have := find_sorted_newest hs hst
      refine .newestStable ndev ncur npre ⟨this.1, ?_, ?_⟩
      · have := this.2.1; simpa [Sel] using this
      · intro w hw hpw
        exact this.2.2 w hw (by simpa [Sel] using hpw)
    have nst : ¬AnyStableSel fl idx (first :: tl) := by
      rintro ⟨x, hxm, hxp, hxs⟩
      have := List.find?_eq_none.mp hst x hxm
      simp [hxp, show selectable fl idx x = true from hxs] at this
    -- 5) newest
    cases h
    refine .fallback ndev ncur npre nst ⟨by simp, trivial, ?_⟩
    intro w hw _
    rcases List.mem_cons.mp hw with rfl | hw
    · exact Ver.lt_irrefl _
    · exact (List.pairwise_cons.mp hs).1 w hw

/-! ### The specification determines the version -/

theorem Spec.Prescribed.unique {fl idx} {vs : List RV} (hn : VerNodup vs) {r r' : RV}
    (h : Prescribed fl idx vs r) (h' : Prescribed fl idx vs r') : r = r' := by
  cases h with
  | dev a1 a2 a3 a4 =>
    have hD : fl.dev = true ∧ DevAvail vs := ⟨a1, r, a2, a3, a4⟩
    cases h' with
    | dev b1 b2 b3 b4 => exact hn.eq_of_ver a2 b2 (a3.trans b3.symm)
    | current b1 => exact absurd hD b1
    | newestSelectable b1 => exact absurd hD b1
    | newestStable b1 => exact absurd hD b1
    | fallback b1 => exact absurd hD b1
  | current a1 a2 a3 =>
    have hC : CurOk fl idx vs := ⟨r, a2, a3⟩
    cases h' with
    | dev b1 b2 b3 b4 => exact absurd ⟨b1, r', b2, b3, b4⟩ a1
    | current b1 b2 b3 => exact Newest.unique hn a2 b2
    | newestSelectable b1 b2 => exact absurd hC b2
    | newestStable b1 b2 => exact absurd hC b2
    | fallback b1 b2 => exact absurd hC b2
  | newestSelectable a1 a2 a3 a4 =>
    have hS : fl.usePre = true ∧ AnySel fl idx vs := ⟨a3, r, a4.1, a4.2.1⟩
    cases h' with
    | dev b1 b2 b3 b4 => exact absurd ⟨b1, r', b2, b3, b4⟩ a1
    | current b1 b2 b3 => exact absurd ⟨r', b2, b3⟩ a2
    | newestSelectable b1 b2 b3 b4 => exact Newest.unique hn a4 b4
    | newestStable b1 b2 b3 => exact absurd hS b3
    | fallback b1 b2 b3 => exact absurd hS b3
  | newestStable a1 a2 a3 a4 =>
    have hT : AnyStableSel fl idx vs := ⟨r, a4.1, a4.2.1.1, a4.2.1.2⟩
    cases h' with
    | dev b1 b2 b3 b4 => exact absurd ⟨b1, r', b2, b3, b4⟩ a1
    | current b1 b2 b3 => exact absurd ⟨r', b2, b3⟩ a2
    | newestSelectable b1 b2 b3 b4 => exact absurd ⟨b3, r', b4.1, b4.2.1⟩ a3
    | newestStable b1 b2 b3 b4 => exact Newest.unique hn a4 b4
    | fallback b1 b2 b3 b4 => exact absurd hT b4
  | fallback a1 a2 a3 a4 a5 =>
    cases h' with
    | dev b1 b2 b3 b4 => exact absurd ⟨b1, r', b2, b3, b4⟩ a1
    | current b1 b2 b3 => exact absurd ⟨r', b2, b3⟩ a2
    | newestSelectable b1 b2 b3 b4 => exact absurd ⟨b3, r', b4.1, b4.2.1⟩ a3
    | newestStable b1 b2 b3 b4 => exact absurd ⟨r', b4.1, b4.2.1.1, b4.2.1.2⟩ a4
    | fallback b1 b2 b3 b4 b5 => exact Newest.unique hn a5 b5

theorem Spec.Prescribed.mem {fl idx} {vs : List RV} {r : RV} (h : Prescribed fl idx vs r) : r ∈ vs := by
  cases h with
  | dev _ h _ _ => exact h
  | current _ h _ => exact h.1
  | newestSelectable _ _ _ h => exact h.1
  | newestStable _ _ _ h => exact h.1
  | fallback _ _ _ _ h => exact h.1

theorem selectFrom_eq_some_iff {fl idx} {vs s : List RV} (hn : VerNodup vs) (hp : s.Perm vs) (hs : Sorted s) {r : RV} :
    selectFrom fl idx s = some r ↔ Prescribed fl idx vs r := by
  have spec : ∀ {x}, selectFrom fl idx s = some x → Prescribed fl idx vs x := fun h =>
    prescribed_congr (fun _ => hp.mem_iff) (selectFrom_prescribed_sorted hs (hn.perm hp.symm) h)
  refine ⟨spec, fun h => ?_⟩
  cases hsel : selectFrom fl idx s with
  | none =>
    rw [selectFrom_eq_none_iff.mp hsel] at hp
    exact absurd (hp.mem_iff.mpr h.mem) List.not_mem_nil
  | some x => rw [Spec.Prescribed.unique hn (spec hsel) h]

theorem selectVersion_prescribed (fl : Flags) {r : Res} (hn : VerNodup r.versions) :
    match (r.selectVersion fl).selected with
    | none => (r.selectVersion fl).versions = []
    | some v => ∃ rv ∈ (r.selectVersion fl).versions, rv.ver = v ∧
        Prescribed fl (r.selectVersion fl).index (r.selectVersion fl).versions rv := by
  simp only [Res.selectVersion]
  cases h : selectFrom fl r.index (sortDesc r.versions) with
  | none => exact selectFrom_eq_none_iff.mp h
  | some rv =>
    have hP := (selectFrom_eq_some_iff (verNodup_sortDesc hn) (List.Perm.refl _) (sortDesc_sorted _)).mp h
    exact ⟨rv, hP.mem, rfl, hP⟩

theorem two_le_keepOf (keep : Int) : 2 ≤ keepOf keep := by
  unfold keepOf
  split <;> omega

theorem keepOf_of_ge {keep : Int} (h : keep ≥ 2) : keepOf keep = keep.toNat := if_neg (Int.not_lt.mpr h)

theorem seen_cons {sk : Bool} {hit : RV → Bool} {rv : RV} {rest : List RV} {j : Nat}
    (h : (sk || hit rv) = true ∨ ∃ x ∈ rest.take j, hit x = true) :
    sk = true ∨ ∃ x ∈ (rv :: rest).take (j + 1), hit x = true := by
  rw [List.take_succ_cons]
  rcases h with h | ⟨x, hx, hh⟩
  · exact (Bool.or_eq_true _ _ ▸ h).imp_right fun h => ⟨rv, List.mem_cons_self, h⟩
  · exact Or.inr ⟨x, List.mem_cons_of_mem _ hx, hh⟩

/-- `sk…`: seen before the list starts -/
theorem boundaryIdx_spec (act sel : Option Ver) :
    ∀ (l : List RV) (skA skS skT : Bool) (k i : Nat),
      boundaryIdx act sel skA skS skT k l = some i →
      ∃ j, i = k + j ∧ j ≤ l.length ∧
        (act = none ∨ skA = true ∨ ∃ rv ∈ l.take j, (act == some rv.ver) = true) ∧
        (sel = none ∨ skS = true ∨ ∃ rv ∈ l.take j, (sel == some rv.ver) = true) ∧
        (skT = true ∨ ∃ rv ∈ l.take j, (!rv.pre) = true)
  | [], _, _, _, _, _, h => by simp [boundaryIdx] at h
  | rv :: rest, skA, skS, skT, k, i, h => by
    unfold boundaryIdx at h
    split at h
    · obtain ⟨j, hi, hj, hA, hS, hT⟩ := boundaryIdx_spec act sel rest _ _ _ _ _ h
      exact ⟨j + 1, by omega, Nat.succ_le_succ hj, hA.imp_right seen_cons, hS.imp_right seen_cons, seen_cons hT⟩
    · rename_i hc
      cases h
      rw [Bool.not_eq_true, Bool.or_eq_false_iff, Bool.or_eq_false_iff] at hc
      obtain ⟨⟨hA, hS⟩, hT⟩ := hc
      refine ⟨0, rfl, Nat.zero_le _, ?_, ?_, Or.inl (by simpa using hT)⟩
      · revert hA; cases act <;> cases skA <;> simp
      · revert hS; cases sel <;> cases skS <;> simp
/-- What `Purge` does: nothing but (possibly) re-sorting, or cutting the sorted list behind the boundary. -/
theorem purge_shape (r : Res) (keep : Int) :
    (∃ l', l'.Perm r.versions ∧ r.purge keep = { r with versions := l' }) ∨
    (∃ i, boundaryIdx r.active r.selected false false false 0 (sortDesc r.versions) = some i ∧
      i + keepOf keep < (sortDesc r.versions).length ∧
      r.purge keep = { r with
        versions := (sortDesc r.versions).take (i + keepOf keep),
        disk := r.disk.filter (fun fk =>
          !(((sortDesc r.versions).drop (i + keepOf keep)).filter (·.avail)).any (fun rv => rv.ver == fk.1)) }) := by
  unfold Res.purge
  split
  · exact Or.inl ⟨r.versions, List.Perm.refl _, rfl⟩
  · simp only []
    split
    · exact Or.inl ⟨_, sortDesc_perm _, rfl⟩
    · rename_i i hi
      split
      · exact Or.inl ⟨_, sortDesc_perm _, rfl⟩
      · rename_i hb
        exact Or.inr ⟨i, hi, by simp at hb; omega, rfl⟩

theorem mem_purge_disk {disk : List FileKey} {gone : List RV} {fk : FileKey} :
    fk ∈ disk.filter (fun fk => !(gone.filter (·.avail)).any (fun rv => rv.ver == fk.1)) ↔
      fk ∈ disk ∧ ∀ rv ∈ gone, rv.avail = true → rv.ver ≠ fk.1 := by
  simp only [List.mem_filter, Bool.not_eq_true', List.any_eq_false, beq_iff_eq, and_imp]

theorem purge_disk_of_kept {s : List RV} (hn : VerNodup s) {n : Nat} {rv : RV} (hrv : rv ∈ s.take n) {disk : List FileKey}
    {k : Nat} (hk : (rv.ver, k) ∈ disk) :
    (rv.ver, k) ∈ disk.filter (fun fk => !((s.drop n).filter (·.avail)).any (fun g => g.ver == fk.1)) :=
  mem_purge_disk.mpr ⟨hk, fun _ hg _ hgv => pairwise_cut hn n hrv hg hgv.symm⟩

/-- every required version that is listed sits before the boundary found by the search -/
theorem required_before_boundary {r : Res} (hn : VerNodup r.versions) {i : Nat}
    (hi : boundaryIdx r.active r.selected false false false 0 (sortDesc r.versions) = some i)
    {v : Ver} (hreq : Required r v) {e : RV} (he : e ∈ sortDesc r.versions) (hev : e.ver = v) :
    e ∈ (sortDesc r.versions).take i := by
  obtain ⟨j, hij, _, hA, hS, hT⟩ := boundaryIdx_spec _ _ _ _ _ _ _ _ hi
  have hij : i = j := by omega
  subst hij
  have hns := verNodup_sortDesc hn
  -- the search starts with nothing seen: the middle alternative of `boundaryIdx_spec` is `false = true`
  have key : ∀ {o : Option Ver}, o = some v → (o = none ∨ false = true ∨ ∃ x ∈ (sortDesc r.versions).take i,
      (o == some x.ver) = true) → e ∈ (sortDesc r.versions).take i := by
    rintro _ rfl (h | h | ⟨x, hx, hxv⟩)
    · cases h
    · cases h
    · have : x = e := hns.eq_of_ver (List.mem_of_mem_take hx) he ((Option.some.inj (beq_iff_eq.mp hxv)).symm.trans hev.symm)
      rwa [← this]
  rcases hreq with h | h | ⟨rv, hnew, hrv⟩
  · exact key h hA
  · exact key h hS
  · rcases hT with h | ⟨t, ht, htp⟩
    · cases h
    · -- e is the newest stable entry; t is a stable entry before the boundary
      have htp : t.pre = false := by simpa using htp
      have hrve : rv = e := hns.eq_of_ver (mem_sortDesc.mpr hnew.1) he (hrv.trans hev.symm)
      subst hrve
      rcases List.mem_append.mp (by rw [List.take_append_drop]; exact he :
          rv ∈ (sortDesc r.versions).take i ++ (sortDesc r.versions).drop i) with h | h
      · exact h
      · have h1 := pairwise_cut (sortDesc_sorted r.versions) i ht h
        have h2 := hnew.2.2 t (mem_sortDesc.mp (List.mem_of_mem_take ht)) htp
        exact absurd (Ver.lt_total _ _ h1 h2) (pairwise_cut hns i ht h)

theorem mem_take_mono {l : List RV} {x : RV} {i : Nat} (k : Nat) (h : x ∈ l.take i) : x ∈ l.take (i + k) :=
  List.take_subset_take_left l (Nat.le_add_right i k) h

theorem validCount_perm {l l' : List RV} (p : l.Perm l') : validCount l = validCount l' := by
  unfold validCount
  exact (p.filter _).length_eq

theorem validCount_cons (x : RV) (xs : List RV) :
    validCount (x :: xs) = validCount xs + if (!(x.ver == devVer) && !x.bl) = true then 1 else 0 := by
  simp only [validCount, ← List.countP_eq_length_filter, List.countP_cons]

theorem validCount_updateFirst_bl (p : RV → Bool) :
    ∀ l : List RV, validCount l ≤ validCount (updateFirst p (fun rv => { rv with bl := true }) l) + 1
  | [] => Nat.le_succ _
  | x :: xs => by
    unfold updateFirst
    split
    · rw [validCount_cons, validCount_cons]
      split <;> omega
    · rw [validCount_cons, validCount_cons]
      have := validCount_updateFirst_bl p xs
      omega
/-- number of versions that are not blacklisted (dev versions included) -/
def nonBl (vs : List RV) : Nat := (vs.filter (fun rv => !rv.bl)).length

theorem validCount_le_nonBl (l : List RV) : validCount l ≤ nonBl l := by
  unfold validCount nonBl
  rw [← List.filter_filter]
  exact List.length_filter_le _ _

theorem updateFirst_map_ver {p : RV → Bool} {f : RV → RV} (hf : ∀ x, (f x).ver = x.ver) :
    ∀ l : List RV, (updateFirst p f l).map (·.ver) = l.map (·.ver)
  | [] => rfl
  | x :: xs => by
    unfold updateFirst
    split
    · simp [hf]
    · simp [updateFirst_map_ver hf xs]

theorem mem_updateFirst {p : RV → Bool} {f : RV → RV} {x : RV} :
    ∀ {l : List RV}, x ∈ updateFirst p f l → x ∈ l ∨ ∃ y ∈ l, p y = true ∧ x = f y
  | [], h => by simp [updateFirst] at h
  | a :: as, h => by
    unfold updateFirst at h
    split at h
    · rename_i hp
      rcases List.mem_cons.mp h with rfl | h
      · exact Or.inr ⟨a, by simp, hp, rfl⟩
      · exact Or.inl (by simp [h])
    · rcases List.mem_cons.mp h with rfl | h
      · exact Or.inl (by simp)
      · rcases mem_updateFirst h with h | ⟨y, hy, hpy, hxy⟩
        · exact Or.inl (by simp [h])
        · exact Or.inr ⟨y, by simp [hy], hpy, hxy⟩

theorem updateFirst_mem_of_any {p : RV → Bool} {f : RV → RV} :
    ∀ {l : List RV}, l.any p = true → ∃ y ∈ l, p y = true ∧ f y ∈ updateFirst p f l
  | a :: t, h => by
    unfold updateFirst
    split
    · rename_i ha
      exact ⟨a, List.mem_cons_self, ha, List.mem_cons_self⟩
    · rename_i ha
      rw [List.any_cons, Bool.or_eq_true] at h
      obtain ⟨y, hy, hpy, hm⟩ := updateFirst_mem_of_any (h.resolve_left ha)
      exact ⟨y, List.mem_cons_of_mem _ hy, hpy, List.mem_cons_of_mem _ hm⟩

theorem mem_updateFirst_of_mem {p : RV → Bool} {f : RV → RV} {l : List RV} {y : RV}
    (hy : y ∈ l) (hf : ∀ x, (f x).ver = x.ver) : ∃ x ∈ updateFirst p f l, x.ver = y.ver := by
  have hm := updateFirst_map_ver (p := p) hf l
  have : y.ver ∈ (updateFirst p f l).map (·.ver) := by rw [hm]; exact List.mem_map.mpr ⟨y, hy, rfl⟩
  obtain ⟨e, he, hev⟩ := List.mem_map.mp this
  exact ⟨e, he, hev⟩

theorem mem_diskAdd {k x : FileKey} {d : List FileKey} : x ∈ diskAdd k d ↔ x = k ∨ x ∈ d := by
  unfold diskAdd
  split
  · rename_i h
    have : k ∈ d := by simpa using h
    constructor
    · exact Or.inr
    · rintro (rfl | h) <;> assumption
  · simp [or_comm]

/-- with version numbers a key, "the first entry numbered `v`" is "every entry numbered `v`" -/
theorem updateFirst_eq_map {v : Ver} {f : RV → RV} : ∀ {l : List RV}, VerNodup l →
    updateFirst (fun rv => rv.ver == v) f l = l.map (fun rv => if rv.ver == v then f rv else rv)
  | [], _ => rfl
  | a :: t, hn => by
    have ⟨ha, ht⟩ := List.pairwise_cons.mp hn
    simp only [updateFirst, List.map_cons]
    split
    · rename_i hav
      have : ∀ b ∈ t, (if b.ver == v then f b else b) = b := fun b hb =>
        if_neg fun hb' => ha b hb ((beq_iff_eq.mp hav).trans (beq_iff_eq.mp hb').symm)
      rw [List.map_congr_left this, List.map_id']
    · rw [updateFirst_eq_map ht]

def markBl (version : Str) (vs : List RV) : List RV :=
  updateFirst (fun rv => rv.ver.str == version) (fun rv => { rv with bl := true }) vs

theorem markBl_map_ver (version : Str) (vs : List RV) : (markBl version vs).map (·.ver) = vs.map (·.ver) :=
  updateFirst_map_ver (f := fun rv => { rv with bl := true }) (fun _ => rfl) vs

theorem blacklist_shape (fl : Flags) (r : Res) (version : Str) :
    (r.blacklist fl version = (r, some .last) ∧ validCount r.versions ≤ 1) ∨
    (r.blacklist fl version = (r, some .notFound) ∧ 1 < validCount r.versions) ∨
    (r.blacklist fl version = (Res.selectVersion fl { r with versions := markBl version r.versions }, none) ∧
      1 < validCount r.versions ∧ r.versions.any (fun rv => rv.ver.str == version) = true) := by
  unfold Res.blacklist
  split
  · exact .inl ⟨rfl, ‹_›⟩
  · split
    · exact .inr (.inr ⟨rfl, Nat.lt_of_not_le ‹_›, ‹_›⟩)
    · exact .inr (.inl ⟨rfl, Nat.lt_of_not_le ‹_›⟩)

def resetCur : Bool → RV → RV
  | true => fun rv => { rv with cur := false }
  | false => id

/-- what `AddVersion` does to one listed entry when the version string parses to `pv` -/
def entry (pv : Option Ver) (avail cur pre : Bool) (rv : RV) : RV :=
  match pv with
  | some v =>
    if (resetCur cur rv).ver == v then
      { resetCur cur rv with
        avail := (resetCur cur rv).avail || avail, cur := (resetCur cur rv).cur || cur,
        pre := (resetCur cur rv).pre || pre || !v.pre.isEmpty }
    else resetCur cur rv
  | none => resetCur cur rv

def newEntry (pv : Option Ver) (vs : List RV) : List RV :=
  match pv with
  | some v => if vs.any (fun rv => rv.ver == v) then [] else [{ ver := v }]
  | none => []

theorem resetCur_ver (c : Bool) (rv : RV) : (resetCur c rv).ver = rv.ver := by cases c <;> rfl

theorem resetCur_avail (c : Bool) (rv : RV) : (resetCur c rv).avail = rv.avail := by cases c <;> rfl

theorem resetCur_cur (c : Bool) (rv : RV) : (resetCur c rv).cur = (rv.cur && !c) := by cases c <;> simp [resetCur]

theorem entry_ver {pv avail cur pre} (rv : RV) : (entry pv avail cur pre rv).ver = rv.ver := by
  cases pv with
  | none => exact resetCur_ver cur rv
  | some v => by_cases h : rv.ver = v <;> simp [entry, resetCur_ver, h]

theorem entry_avail {pv avail cur pre} (rv : RV) :
    (entry pv avail cur pre rv).avail = (rv.avail || (avail && some rv.ver == pv)) := by
  cases pv with
  | none => simp [entry, resetCur_avail]
  | some v => by_cases h : rv.ver = v <;> simp [entry, resetCur_ver, resetCur_avail, h]

theorem entry_cur {pv avail cur pre} (rv : RV) :
    (entry pv avail cur pre rv).cur = if cur then some rv.ver == pv else rv.cur := by
  cases pv with
  | none => cases cur <;> simp [entry, resetCur_cur]
  | some v => by_cases h : rv.ver = v <;> cases cur <;> simp [entry, resetCur_ver, resetCur_cur, h]

theorem verNodup_newEntry {vs : List RV} (hn : VerNodup vs) (pv : Option Ver) : VerNodup (vs ++ newEntry pv vs) := by
  unfold newEntry
  split
  · split
    · rwa [List.append_nil]
    · rename_i v hany
      refine List.pairwise_append.mpr ⟨hn, List.pairwise_singleton _ _, fun a ha b hb hav => hany ?_⟩
      rw [List.mem_singleton.mp hb] at hav
      exact List.any_eq_true.mpr ⟨a, ha, beq_iff_eq.mpr hav⟩
  · rwa [List.append_nil]

theorem addVersion_versions {r : Res} (hn : VerNodup r.versions) (raw : Str) (avail cur pre : Bool) (idx : Option Bool) :
    (r.addVersion raw avail cur pre idx).1.versions =
      (r.versions ++ newEntry (parseVer raw) r.versions).map (entry (parseVer raw) avail cur pre) := by
  have hreset : (if cur then r.versions.map (fun rv => { rv with cur := false }) else r.versions) = r.versions.map (resetCur cur) := by
    cases cur <;> simp [resetCur]
  unfold Res.addVersion
  simp only [hreset]
  cases parseVer raw with
  | none => simp [newEntry, entry]
  | some v =>
    have hany : (r.versions.map (resetCur cur)).any (fun rv => rv.ver == v) = r.versions.any (fun rv => rv.ver == v) := by
      simp only [List.any_map, Function.comp_def, resetCur_ver]
    have hvs2 : (if (r.versions.map (resetCur cur)).any (fun rv => rv.ver == v) then r.versions.map (resetCur cur)
        else r.versions.map (resetCur cur) ++ [{ ver := v }]) = (r.versions ++ newEntry (some v) r.versions).map (resetCur cur) := by
      rw [hany]
      by_cases h : r.versions.any (fun rv => rv.ver == v) = true
      · simp only [newEntry, h, if_true, List.append_nil]
      · have : resetCur cur { ver := v } = { ver := v } := by cases cur <;> rfl
        simp only [newEntry, h, Bool.false_eq_true, if_false, List.map_append, List.map_cons, List.map_nil, this]
    have hn2 := (verNodup_newEntry hn (some v)).map (resetCur_ver cur)
    simp only [hvs2, updateFirst_eq_map hn2, List.map_map]
    rfl

theorem mem_newEntry {pv : Option Ver} {vs : List RV} {y : RV} (h : y ∈ newEntry pv vs) :
    y = { ver := y.ver } ∧ pv = some y.ver ∧ ∀ z ∈ vs, z.ver ≠ y.ver := by
  unfold newEntry at h
  split at h
  · split at h
    · cases h
    · rename_i v hany
      cases List.mem_singleton.mp h
      exact ⟨rfl, rfl, fun z hz hzv => hany (List.any_eq_true.mpr ⟨z, hz, beq_iff_eq.mpr hzv⟩)⟩
  · cases h

theorem exists_mem_newEntry (v : Ver) (vs : List RV) : ∃ rv ∈ vs ++ newEntry (some v) vs, rv.ver = v := by
  simp only [newEntry]
  split
  · rename_i hany
    obtain ⟨rv, hrv, hv⟩ := List.any_eq_true.mp hany
    exact ⟨rv, List.mem_append_left _ hrv, beq_iff_eq.mp hv⟩
  · exact ⟨_, List.mem_append_right _ (List.mem_singleton.mpr rfl), rfl⟩

theorem addVersion_frame (r : Res) (raw : Str) (avail cur pre : Bool) (idx : Option Bool) :
    (r.addVersion raw avail cur pre idx).1.active = r.active ∧ (r.addVersion raw avail cur pre idx).1.selected = r.selected ∧
    (∀ fk ∈ r.disk, fk ∈ (r.addVersion raw avail cur pre idx).1.disk) ∧
    (avail = true → ∀ v, parseVer raw = some v → (v, 0) ∈ (r.addVersion raw avail cur pre idx).1.disk) := by
  unfold Res.addVersion
  cases parseVer raw with
  | none => exact ⟨rfl, rfl, fun _ h => h, fun _ _ h => nomatch h⟩
  | some v =>
    refine ⟨rfl, rfl, fun fk h => ?_, fun ha w hw => ?_⟩
    · dsimp only; split
      · exact mem_diskAdd.mpr (Or.inr h)
      · exact h
    · cases hw
      simp only [ha, if_true]
      exact mem_diskAdd.mpr (Or.inl rfl)

/-! ### Invariant of all histories -/

/-- version numbers are a key of the list; the selected and the active version are listed; every version
    listed as available has its file on disk -/
def ResInv (r : Res) : Prop :=
  VerNodup r.versions ∧
  (∀ v, r.selected = some v → ∃ rv ∈ r.versions, rv.ver = v) ∧
  (∀ v, r.active = some v → ∃ rv ∈ r.versions, rv.ver = v) ∧
  ListingSound r

theorem selectVersion_inv {fl : Flags} {r : Res} (h : ResInv r) : ResInv (r.selectVersion fl) := by
  obtain ⟨hn, _, hA, hL⟩ := h
  refine ⟨verNodup_sortDesc hn, ?_, ?_, ?_⟩
  · intro v hv
    simp only [Res.selectVersion, Option.map_eq_some_iff] at hv
    obtain ⟨rv, hrv, rfl⟩ := hv
    exact ⟨rv, mem_sortDesc.mpr ((selectFrom_eq_some_iff hn (sortDesc_perm _) (sortDesc_sorted _)).mp hrv).mem, rfl⟩
  · intro v hv
    obtain ⟨rv, hrv, hrvv⟩ := hA v hv
    exact ⟨rv, mem_sortDesc.mpr hrv, hrvv⟩
  · intro rv hrv ha
    exact hL rv (mem_sortDesc.mp hrv) ha

theorem addVersion_inv {r : Res} {raw : Str} {avail cur pre : Bool} {idx : Option Bool} (h : ResInv r) :
    ResInv (r.addVersion raw avail cur pre idx).1 := by
  obtain ⟨hn, hS, hA, hL⟩ := h
  obtain ⟨eA, eS, hD, hD'⟩ := addVersion_frame r raw avail cur pre idx
  have listed : ∀ w, (∃ rv ∈ r.versions, rv.ver = w) → ∃ rv ∈ (r.addVersion raw avail cur pre idx).1.versions, rv.ver = w := by
    rw [addVersion_versions hn]
    rintro w ⟨rv, hrv, rfl⟩
    exact ⟨_, List.mem_map_of_mem (List.mem_append_left _ hrv), entry_ver rv⟩
  refine ⟨?_, fun w hw => listed w (hS w (eS ▸ hw)), fun w hw => listed w (hA w (eA ▸ hw)), ?_⟩
  · rw [addVersion_versions hn]
    exact (verNodup_newEntry hn _).map entry_ver
  · intro x hx ha
    rw [addVersion_versions hn] at hx
    obtain ⟨y, hy, rfl⟩ := List.mem_map.mp hx
    rw [entry_ver]
    rw [entry_avail, Bool.or_eq_true, Bool.and_eq_true, beq_iff_eq] at ha
    rcases ha with hya | ⟨hav, hpv⟩
    · rcases List.mem_append.mp hy with hy | hy
      · exact hD _ (hL y hy hya)
      · rw [(mem_newEntry hy).1] at hya; cases hya
    · exact hD' hav _ hpv.symm

theorem blacklist_inv {fl : Flags} {r : Res} {version : Str} (h : ResInv r) : ResInv (r.blacklist fl version).1 := by
  rcases blacklist_shape fl r version with ⟨e, _⟩ | ⟨e, _⟩ | ⟨e, _⟩ <;> rw [e]
  · exact h
  · exact h
  · apply selectVersion_inv
    obtain ⟨hn, hS, hA, hL⟩ := h
    have listed : ∀ w, (∃ rv ∈ r.versions, rv.ver = w) → ∃ rv ∈ markBl version r.versions, rv.ver = w := by
      rintro w ⟨rv, hrv, rfl⟩
      exact mem_updateFirst_of_mem hrv fun _ => rfl
    refine ⟨verNodup_of_map_eq (markBl_map_ver _ _) hn, fun w hw => listed w (hS w hw),
      fun w hw => listed w (hA w hw), fun e he ha => ?_⟩
    rcases mem_updateFirst he with h | ⟨y, hy, _, rfl⟩
    · exact hL e h ha
    · exact hL y hy ha

theorem purge_inv {r : Res} {keep : Int} (h : ResInv r) : ResInv (r.purge keep) := by
  obtain ⟨hn, hS, hA, hL⟩ := h
  rcases purge_shape r keep with ⟨l', hp, he⟩ | ⟨i, hi, hlt, he⟩
  · rw [he]
    refine ⟨hn.perm hp.symm, ?_, ?_, ?_⟩
    · intro v hv; obtain ⟨rv, hrv, hrvv⟩ := hS v hv; exact ⟨rv, hp.mem_iff.mpr hrv, hrvv⟩
    · intro v hv; obtain ⟨rv, hrv, hrvv⟩ := hA v hv; exact ⟨rv, hp.mem_iff.mpr hrv, hrvv⟩
    · intro rv hrv ha; exact hL rv (hp.mem_iff.mp hrv) ha
  · rw [he]
    have hns := verNodup_sortDesc hn
    refine ⟨?_, ?_, ?_, ?_⟩
    · exact List.Pairwise.sublist (List.take_sublist _ _) hns
    · intro v hv
      obtain ⟨rv, hrv, hrvv⟩ := hS v hv
      exact ⟨rv, mem_take_mono _ (required_before_boundary hn hi (Or.inr (Or.inl hv)) (mem_sortDesc.mpr hrv) hrvv), hrvv⟩
    · intro v hv
      obtain ⟨rv, hrv, hrvv⟩ := hA v hv
      exact ⟨rv, mem_take_mono _ (required_before_boundary hn hi (Or.inl hv) (mem_sortDesc.mpr hrv) hrvv), hrvv⟩
    · intro rv hrv ha
      exact purge_disk_of_kept hns hrv (hL rv (mem_sortDesc.mp (List.mem_of_mem_take hrv)) ha)

/-- `r1`: `r` or, if nothing was selected, its re-selection; the first alternative is the nil dereference of the Go code -/
theorem getFile_shape (fl : Flags) (id : Str) (r : Res) :
    ∃ r1, r1 = (if r.selected.isNone then r.selectVersion fl else r) ∧
      ((r.getFile fl id = (r1, .nilSelected) ∧ ∀ v, r1.selected = some v → ∀ rv ∈ r1.versions, rv.ver ≠ v) ∨
       ∃ v rv, r1.selected = some v ∧ rv ∈ r1.versions ∧ rv.ver = v ∧
        ((rv.avail = true ∧ r.getFile fl id = ({ r1 with active := some v }, .file v (getVersionedPath id v.str))) ∨
         (rv.avail = false ∧ fl.online = false ∧ r.getFile fl id = (r1, .errNotLocal)) ∨
         (rv.avail = false ∧ fl.online = true ∧ r.getFile fl id =
            ({ r1 with active := some v, disk := diskAdd (v, 0) r1.disk }, .file v (getVersionedPath id v.str))))) := by
  refine ⟨_, rfl, ?_⟩
  unfold Res.getFile
  generalize (if r.selected.isNone then r.selectVersion fl else r) = r1
  dsimp only
  split
  · rename_i hnone
    exact .inl ⟨rfl, fun v hv => by rw [hnone] at hv; cases hv⟩
  · rename_i v hv
    split
    · rename_i hf
      refine .inl ⟨rfl, fun w hw rv hrv e => ?_⟩
      cases hv.symm.trans hw
      simpa [e] using List.find?_eq_none.mp hf rv hrv
    · rename_i rv hrv
      refine .inr ⟨v, rv, hv, List.mem_of_find?_eq_some hrv, by simpa using List.find?_some hrv, ?_⟩
      cases ha : rv.avail with
      | true => exact .inl ⟨rfl, rfl⟩
      | false =>
        cases hon : fl.online with
        | false => exact .inr (.inl ⟨rfl, rfl, rfl⟩)
        | true => exact .inr (.inr ⟨rfl, rfl, rfl⟩)

theorem getFile_inv {fl : Flags} {id : Str} {r : Res} (h : ResInv r) : ResInv (r.getFile fl id).1 := by
  obtain ⟨r1, e1, hsh⟩ := getFile_shape fl id r
  obtain ⟨hn, hS, hA, hL⟩ : ResInv r1 := by
    rw [e1]; split
    · exact selectVersion_inv h
    · exact h
  rcases hsh with ⟨e, _⟩ | ⟨v, rv, _, hm, hrv, ⟨_, e⟩ | ⟨_, _, e⟩ | ⟨_, _, e⟩⟩ <;> rw [e]
  · exact ⟨hn, hS, hA, hL⟩
  · exact ⟨hn, hS, fun w hw => ⟨rv, hm, hrv.trans (Option.some.inj hw)⟩, hL⟩
  · exact ⟨hn, hS, hA, hL⟩
  · exact ⟨hn, hS, fun w hw => ⟨rv, hm, hrv.trans (Option.some.inj hw)⟩,
      fun e he ha => mem_diskAdd.mpr (Or.inr (hL e he ha))⟩

theorem St.get_mem {s : St} {id : Str} {r : Res} (h : s.get id = some r) : ∃ p ∈ s.res, p.2 = r := by
  unfold St.get at h
  obtain ⟨p, hp, rfl⟩ := Option.map_eq_some_iff.mp h
  exact ⟨p, List.mem_of_find?_eq_some hp, rfl⟩

/-- a property of single resources that every API call preserves -/
structure Preserved (P : Res → Prop) : Prop where
  empty : P {}
  add : ∀ (r : Res) raw avail cur pre idx, P r → P (r.addVersion raw avail cur pre idx).1
  select : ∀ fl (r : Res), P r → P (r.selectVersion fl)
  blacklist : ∀ fl (r : Res) v, P r → P (r.blacklist fl v).1
  purge : ∀ (r : Res) keep, P r → P (r.purge keep)
  getFile : ∀ fl id (r : Res), P r → P (r.getFile fl id).1
  disk : ∀ (r : Res) k, P r → P { r with disk := diskAdd k r.disk }

def StAll (P : Res → Prop) (s : St) : Prop := ∀ p ∈ s.res, P p.2

theorem St.mem_set {s : St} {id : Str} {r : Res} {p : Str × Res} (hp : p ∈ (s.set id r).res) :
    p = (id, r) ∨ p ∈ s.res ∧ p.1 ≠ id := by
  unfold St.set at hp
  split at hp
  · obtain ⟨q, hq, rfl⟩ := List.mem_map.mp hp
    split
    · exact Or.inl rfl
    · rename_i hne; exact Or.inr ⟨hq, fun e => hne (beq_iff_eq.mpr e)⟩
  · rename_i hany
    rcases List.mem_append.mp hp with h | h
    · exact Or.inr ⟨h, fun e => hany (List.any_eq_true.mpr ⟨p, h, beq_iff_eq.mpr e⟩)⟩
    · exact Or.inl (List.mem_singleton.mp h)

theorem St.set_all {P : Res → Prop} {s : St} {id : Str} {r : Res} (hs : StAll P s) (hr : P r) : StAll P (s.set id r) :=
  fun p hp => (St.mem_set hp).elim (fun e => e ▸ hr) fun h => hs p h.1

theorem St.mapRes_all {P : Res → Prop} {s : St} {f : Res → Res} (hs : StAll P s) (hf : ∀ r, P r → P (f r)) :
    StAll P (s.mapRes f) := by
  intro p hp
  obtain ⟨q, hq, rfl⟩ := List.mem_map.mp hp
  exact hf _ (hs q hq)

theorem St.get_all {P : Res → Prop} (hP : Preserved P) {s : St} {id : Str} (hs : StAll P s) : P ((s.get id).getD {}) := by
  cases h : s.get id with
  | none => exact hP.empty
  | some r => obtain ⟨p, hp, rfl⟩ := St.get_mem h; exact hs p hp

theorem St.addResource_all {P : Res → Prop} (hP : Preserved P) {s : St} {id ver : Str} {avail cur pre : Bool}
    {idx : Option Bool} (hs : StAll P s) : StAll P (s.addResource id ver avail cur pre idx).1 := by
  simp only [St.addResource]
  exact St.set_all hs (hP.add _ _ _ _ _ _ (St.get_all hP hs))

theorem step_blacklist (s : St) (id ver : Str) : (step s (.blacklist id ver)).1 =
    match s.get id with
    | none => s
    | some r => s.set id (r.blacklist s.fl ver).1 := by
  simp only [step]
  cases s.get id with
  | none => rfl
  | some r => dsimp only; split <;> simp only [*]

theorem step_all {P : Res → Prop} (hP : Preserved P) {s : St} (op : Op) (hs : StAll P s) : StAll P (step s op).1 := by
  have set : ∀ {id r r'}, s.get id = some r → (P r → P r') → StAll P (s.set id r') := fun hr hg => by
    obtain ⟨p, hp, rfl⟩ := St.get_mem hr
    exact St.set_all hs (hg (hs p hp))
  cases op with
  | add id ver avail cur pre idx => exact St.addResource_all hP hs
  | addMany items avail cur pre idx =>
    clear set
    simp only [step]
    induction items generalizing s with
    | nil => exact hs
    | cons it rest ih => exact ih (St.addResource_all hP hs)
  | addVersion id ver avail cur pre =>
    simp only [step]
    split
    · exact hs
    · exact set ‹_› (hP.add _ _ _ _ _ _)
  | touch id ver kind =>
    simp only [step]
    split
    · split
      · exact set ‹_› (hP.disk _ _)
      · exact hs
    · exact hs
  | select => exact St.mapRes_all hs (hP.select _)
  | getFile id =>
    simp only [step]
    split
    · exact hs
    · exact set ‹_› (hP.getFile _ _ _)
  | blacklist id ver =>
    rw [step_blacklist]
    split
    · exact hs
    · exact set ‹_› (hP.blacklist _ _ _)
  | purge keep => exact St.mapRes_all hs (hP.purge · keep)
  | getVersion id =>
    simp only [step]
    split <;> exact hs
  | _ => exact hs

theorem run_all {P : Res → Prop} (hP : Preserved P) (ops : List Op) : ∀ s, StAll P s → StAll P (run s ops) := by
  induction ops with
  | nil => intro s hs; exact hs
  | cons op ops ih => intro s hs; exact ih _ (step_all hP op hs)

theorem stAll_init (P : Res → Prop) : StAll P {} := by intro p hp; simp at hp

theorem resInv_preserved : Preserved ResInv where
  empty := ⟨List.Pairwise.nil, fun _ h => (nomatch h), fun _ h => (nomatch h), fun _ h => (nomatch h)⟩
  add := fun _ _ _ _ _ _ h => addVersion_inv h
  select := fun _ _ h => selectVersion_inv h
  blacklist := fun _ _ _ h => blacklist_inv h
  purge := fun _ _ h => purge_inv h
  getFile := fun _ _ _ h => getFile_inv h
  disk := fun _ _ ⟨hn, hS, hA, hL⟩ => ⟨hn, hS, hA, fun e he ha => mem_diskAdd.mpr (Or.inr (hL e he ha))⟩

instance (l : List RV) : Decidable (VerNodup l) := by unfold VerNodup; infer_instance
instance (id : Str) : Decidable (ValidIdentifier id) := by unfold ValidIdentifier; infer_instance

/-! ### Concrete data for the non-vacuity examples of PBProofs/C19.lean -/
namespace Ex

def s (x : String) : Str := x.toList.map Char.toNat
def v (a b c : Nat) (p : String := "") : Ver := ⟨a, b, c, s p⟩

/-- the resource of `TestVersionSelection` -/
def testVersions : List RV := [
  { ver := v 1 2 2, avail := true }, { ver := v 1 2 3, avail := true },
  { ver := v 1 2 4 "beta", avail := true, pre := true }, { ver := v 1 2 4 "staging", avail := true, pre := true },
  { ver := v 1 2 5 }, { ver := v 1 2 6 "beta", pre := true }, { ver := v 0 0 0, avail := true }]
def testRes : Res := { versions := testVersions, index := some true }

/-- only pre-releases, the newest one blacklisted -/
def preOnly : List RV := [
  { ver := v 1 1 3 "rc", avail := true, pre := true }, { ver := v 1 2 0 "rc", avail := true, pre := true, bl := true }]

/-- six versions, all on disk, newest selected and active (DESIGN §7 #25) -/
def six : Res :=
  let vs : List RV := [5, 4, 3, 2, 1, 0].map (fun m => { ver := v 1 m 0, avail := true })
  { versions := vs, active := some (v 1 5 0), selected := some (v 1 5 0), disk := vs.map (fun rv => (rv.ver, 0)) }

/-- three old versions selected/active, then three newer ones added behind them (not re-selected yet) -/
def unsortedTail : Res :=
  let vs : List RV := [(1, 2), (1, 1), (1, 0), (2, 0), (2, 1), (2, 2)].map (fun m => { ver := v m.1 m.2 0, avail := true })
  { versions := vs, active := some (v 1 2 0), selected := some (v 1 2 0), disk := vs.map (fun rv => (rv.ver, 0)) }

def history : List Op := [
  .setFlags true false false,
  .add (s "app.exe") (s "1.0.0") true false false none,
  .add (s "app.exe") (s "1.1.0") true false false none,
  .add (s "app.exe") (s "v1.2") true false false none,
  .add (s "app.exe") (s "1.3.0-beta") true false false none,
  .add (s "app.exe") (s "1.2.0") false true false (some true),
  .add (s "app.exe") (s "0") true false false none,
  .add (s "app.exe") (s "0.9.0") true false false none,
  .select, .getFile (s "app.exe"), .purge 2]

end Ex

end PB.Updater
