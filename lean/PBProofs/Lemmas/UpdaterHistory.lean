import PBProofs.Lemmas.Updater
/-
C19, history level: "the current release" of a resource read off the history of announcements
(`Spec.currentRelease`, `Spec.lastAnnounced`) against the `CurrentRelease` flags of the model.
-/
namespace PB.Updater
open PB.Updater.Spec

/-! ### Registry look-up after an update -/

/-- the replacement keeps every identifier, so `find?` commutes with it -/
theorem St.get_set (s : St) (id' id : Str) (r : Res) :
    (s.set id' r).get id = if id' = id then some r else s.get id := by
  have hf : ∀ p : Str × Res, (if p.1 == id' then (id', r) else p).1 = p.1 := fun p => by
    split
    · rename_i h; exact (beq_iff_eq.mp h).symm
    · rfl
  unfold St.set St.get
  split
  · rename_i hany
    simp only [List.find?_map, Function.comp_def, hf, Option.map_map]
    cases hq : s.res.find? (fun p => p.1 == id) with
    | none =>
      have : id' ≠ id := by
        rintro rfl
        obtain ⟨q, hq1, hq2⟩ := List.any_eq_true.mp hany
        exact absurd hq2 (by simpa using List.find?_eq_none.mp hq q hq1)
      simp [this]
    | some q =>
      have hq1 : q.1 = id := by simpa using List.find?_some hq
      by_cases hid : id' = id
      · simp [hid, hq1]
      · have : ¬ q.1 = id' := fun e => hid (e.symm.trans hq1)
        simp [hid, this]
  · rename_i hany
    have hn : ∀ p ∈ s.res, ¬ p.1 = id' := fun p hp e => hany (List.any_eq_true.mpr ⟨p, hp, beq_iff_eq.mpr e⟩)
    by_cases hid : id' = id
    · subst hid
      have : s.res.find? (fun p => p.1 == id') = none := List.find?_eq_none.mpr fun p hp => by simpa using hn p hp
      simp [List.find?_append, this]
    · simp [List.find?_append, hid]
theorem St.get_mapRes (s : St) (f : Res → Res) (id : Str) : (s.mapRes f).get id = (s.get id).map f := by
  simp only [St.mapRes, St.get, List.find?_map, Function.comp_def, Option.map_map]

/-- identifiers are a key of the registry (the Go map) -/
def IdsKey (s : St) : Prop := ∀ p ∈ s.res, s.get p.1 = some p.2

theorem St.set_ids {s : St} {id : Str} {r : Res} (h : IdsKey s) : IdsKey (s.set id r) := by
  intro p hp
  rw [St.get_set]
  rcases St.mem_set hp with rfl | ⟨hp, hne⟩
  · exact if_pos rfl
  · rw [if_neg (Ne.symm hne)]; exact h p hp

theorem St.mapRes_ids {s : St} {f : Res → Res} (h : IdsKey s) : IdsKey (s.mapRes f) := by
  intro p hp
  obtain ⟨q, hq, rfl⟩ := List.mem_map.mp hp
  rw [St.get_mapRes, h q hq]
  rfl

theorem isSome_get_set (s : St) (id id' : Str) (r : Res) :
    ((s.set id' r).get id).isSome = ((s.get id).isSome || id' == id) := by
  rw [St.get_set]
  by_cases hid : id' = id <;> simp [hid]

theorem isSome_get_set_of_get {s : St} {id id' : Str} {r r' : Res} (hr : s.get id' = some r) :
    ((s.set id' r').get id).isSome = (s.get id).isSome := by
  rw [isSome_get_set]
  by_cases hid : id' = id
  · subst hid; simp [hr]
  · have : (id' == id) = false := by simpa using hid
    simp [this]

theorem step_keys (id : Str) (s : St) (c : Option Ver) (o : Op) :
    (IdsKey s → IdsKey (step s o).1) ∧ ((step s o).1.get id).isSome = (announcedArgs id (s.get id).isSome c o).1 := by
  have same : (IdsKey s → IdsKey s) ∧ (s.get id).isSome = (s.get id).isSome := ⟨fun h => h, rfl⟩
  have set : ∀ {id' r r'}, s.get id' = some r →
      (IdsKey s → IdsKey (s.set id' r')) ∧ ((s.set id' r').get id).isSome = (s.get id).isSome :=
    fun hr => ⟨St.set_ids, isSome_get_set_of_get hr⟩
  have map : ∀ f, (IdsKey s → IdsKey (s.mapRes f)) ∧ ((s.mapRes f).get id).isSome = (s.get id).isSome :=
    fun f => ⟨St.mapRes_ids, by rw [St.get_mapRes, Option.isSome_map]⟩
  cases o with
  | add id' ver avail cur pre idx => exact ⟨St.set_ids, isSome_get_set ..⟩
  | addMany items avail cur pre idx =>
    clear same set map
    simp only [step, announcedArgs]
    induction items generalizing s with
    | nil => simp
    | cons it rest ih =>
      obtain ⟨h1, h2⟩ := ih (s.addResource it.1 it.2 avail cur pre idx).1
      refine ⟨fun h => h1 (St.set_ids h), ?_⟩
      rw [List.foldl_cons, h2, List.any_cons, ← Bool.or_assoc]
      exact congrArg (· || _) (isSome_get_set ..)
  | addVersion id' ver avail cur pre =>
    simp only [step, announcedArgs]
    split
    · exact same
    · exact set ‹_›
  | touch id' ver kind =>
    simp only [step, announcedArgs]
    split
    · split
      · exact set ‹_›
      · exact same
    · exact same
  | select => exact map _
  | getFile id' =>
    simp only [step, announcedArgs]
    split
    · exact same
    · exact set ‹_›
  | blacklist id' ver =>
    rw [step_blacklist]
    split
    · exact same
    · exact set ‹_›
  | purge keep => exact map _
  | getVersion id' =>
    simp only [step, announcedArgs]
    split <;> exact same
  | _ => exact same

theorem run_ids (ops : List Op) : ∀ s, IdsKey s → IdsKey (run s ops) := by
  induction ops with
  | nil => intro s hs; exact hs
  | cons op ops ih => intro s hs; exact ih _ ((step_keys [] s none op).1 hs)

theorem idsKey_init : IdsKey {} := fun _ h => nomatch h

/-! ### The flags say what the history announced -/

/-- The `CurrentRelease` flags of `r` agree with the current release `c` given by the history:
    an entry is flagged iff it is the announced version; the announced version is listed. -/
def CurInvR (c : Option Ver) (r : Res) : Prop :=
  (∀ rv ∈ r.versions, (rv.cur = true ↔ c = some rv.ver)) ∧ (∀ v, c = some v → ∃ rv ∈ r.versions, rv.ver = v)

theorem curInvR_empty : CurInvR none {} := by
  constructor
  · intro rv h; simp at h
  · intro v h; cases h

/-- entries of `r'` come from `r` with number and flag, or are new and unflagged; no number is lost -/
theorem curInvR_sim {c : Option Ver} {r r' : Res}
    (h1 : ∀ x ∈ r'.versions, (∃ y ∈ r.versions, y.ver = x.ver ∧ y.cur = x.cur) ∨
      (x.cur = false ∧ ∀ y ∈ r.versions, y.ver ≠ x.ver))
    (h2 : ∀ y ∈ r.versions, ∃ x ∈ r'.versions, x.ver = y.ver)
    (h : CurInvR c r) : CurInvR c r' := by
  constructor
  · intro x hx
    rcases h1 x hx with ⟨y, hy, hv, hc⟩ | ⟨hc, hnew⟩
    · rw [← hv, ← hc]; exact h.1 y hy
    · constructor
      · intro hx'; rw [hc] at hx'; cases hx'
      · intro hcx
        obtain ⟨y, hy, hyv⟩ := h.2 _ hcx
        exact absurd hyv (hnew y hy)
  · intro v hv
    obtain ⟨y, hy, hyv⟩ := h.2 v hv
    obtain ⟨x, hx, hxv⟩ := h2 y hy
    exact ⟨x, hx, hxv.trans hyv⟩

theorem selectVersion_curInvR {fl : Flags} {c : Option Ver} {r : Res} (h : CurInvR c r) : CurInvR c (r.selectVersion fl) :=
  curInvR_sim (fun x hx => Or.inl ⟨x, mem_sortDesc.mp hx, rfl, rfl⟩) (fun y hy => ⟨y, mem_sortDesc.mpr hy, rfl⟩) h

theorem blacklist_curInvR {fl : Flags} {c : Option Ver} {r : Res} {version : Str} (h : CurInvR c r) :
    CurInvR c (r.blacklist fl version).1 := by
  rcases blacklist_shape fl r version with ⟨e, _⟩ | ⟨e, _⟩ | ⟨e, _⟩ <;> rw [e]
  · exact h
  · exact h
  · apply selectVersion_curInvR
    refine curInvR_sim (fun x hx => ?_) (fun y hy => mem_updateFirst_of_mem hy fun _ => rfl) h
    rcases mem_updateFirst hx with hx | ⟨y, hy, _, rfl⟩
    · exact Or.inl ⟨x, hx, rfl, rfl⟩
    · exact Or.inl ⟨y, hy, rfl, rfl⟩

theorem getFile_curInvR {fl : Flags} {id : Str} {c : Option Ver} {r : Res} (h : CurInvR c r) :
    CurInvR c (r.getFile fl id).1 := by
  obtain ⟨r1, e1, hsh⟩ := getFile_shape fl id r
  have h1 : CurInvR c r1 := by
    rw [e1]; split
    · exact selectVersion_curInvR h
    · exact h
  rcases hsh with ⟨e, _⟩ | ⟨_, _, _, _, _, ⟨_, e⟩ | ⟨_, _, e⟩ | ⟨_, _, e⟩⟩ <;> rw [e] <;> exact h1

theorem purge_curInvR {keep : Int} {c : Option Ver} {r : Res} : CurInvR c r →
    CurInvR (match c with
      | some v => if (r.purge keep).versions.any (fun rv => rv.ver == v) then some v else none
      | none => none) (r.purge keep) := by
  intro h
  have hsub : ∀ x ∈ (r.purge keep).versions, x ∈ r.versions := by
    rcases purge_shape r keep with ⟨l', hp, he⟩ | ⟨i, _, _, he⟩
    · rw [he]; exact fun x hx => hp.mem_iff.mp hx
    · rw [he]; exact fun x hx => mem_sortDesc.mp (List.mem_of_mem_take hx)
  cases c with
  | none =>
    exact ⟨fun x hx => h.1 x (hsub x hx), fun v hv => nomatch hv⟩
  | some v =>
    simp only []
    split
    · rename_i hany
      refine ⟨fun x hx => h.1 x (hsub x hx), ?_⟩
      intro w hw
      cases hw
      obtain ⟨x, hx, hxv⟩ := List.any_eq_true.mp hany
      exact ⟨x, hx, by simpa using hxv⟩
    · rename_i hany
      refine ⟨fun x hx => ?_, fun w hw => by cases hw⟩
      constructor
      · intro hc
        have := (h.1 x (hsub x hx)).mp hc
        cases this
        exact absurd (List.any_eq_true.mpr ⟨x, hx, by simp⟩) hany
      · intro hc; cases hc

theorem addVersion_curInvR {r : Res} {raw : Str} {avail cur pre : Bool} {idx : Option Bool} {c : Option Ver}
    (hn : VerNodup r.versions) (h : CurInvR c r) :
    CurInvR (if cur then parseVer raw else c) (r.addVersion raw avail cur pre idx).1 := by
  rw [CurInvR, addVersion_versions hn]
  constructor
  · intro x hx
    obtain ⟨y, hy, rfl⟩ := List.mem_map.mp hx
    rw [entry_ver, entry_cur]
    cases cur
    · rcases List.mem_append.mp hy with hy | hy
      · exact h.1 y hy
      · -- a new entry: not flagged, and its number was not listed
        obtain ⟨e, -, hnew⟩ := mem_newEntry hy
        refine ⟨fun hc => (by rw [e] at hc; cases hc), fun hc => ?_⟩
        obtain ⟨z, hz, hzv⟩ := h.2 _ hc
        exact absurd hzv (hnew z hz)
    · simp only [if_true, beq_iff_eq]
      exact eq_comm
  · intro w hw
    cases cur
    · obtain ⟨rv, hrv, hv⟩ := h.2 w hw
      exact ⟨_, List.mem_map_of_mem (List.mem_append_left _ hrv), (entry_ver rv).trans hv⟩
    · rw [if_pos rfl] at hw
      rw [hw]
      obtain ⟨rv, hrv, hv⟩ := exists_mem_newEntry w r.versions
      exact ⟨_, List.mem_map_of_mem hrv, (entry_ver rv).trans hv⟩

/-! ### The flags agree with the history in every reachable state -/

def CurInv (id : Str) (s : St) (c : Option Ver) : Prop := CurInvR c ((s.get id).getD {})

theorem curInv_set_same {id : Str} {s : St} {c : Option Ver} {r : Res} (h : CurInvR c r) : CurInv id (s.set id r) c := by
  rw [CurInv, St.get_set, if_pos rfl]; exact h

theorem curInv_set_other {id id' : Str} {s : St} {c : Option Ver} {r : Res} (hne : id' ≠ id) (h : CurInv id s c) :
    CurInv id (s.set id' r) c := by
  rw [CurInv, St.get_set, if_neg hne]; exact h

/-- a call that replaces the resource `id'` (found by `get`) by one with flags and numbers agreeing with `c` -/
theorem curInv_set_of_get {id id' : Str} {s : St} {c : Option Ver} {r r' : Res} (hr : s.get id' = some r)
    (h : CurInv id s c) (hr' : CurInvR c r → CurInvR c r') : CurInv id (s.set id' r') c := by
  by_cases hid : id' = id
  · subst hid
    rw [CurInv, hr] at h
    exact curInv_set_same (hr' h)
  · exact curInv_set_other hid h

/-- `f {} = {}`: a resource not in the registry stays the empty one -/
theorem curInv_mapRes {id : Str} {s : St} {c' : Option Ver} (f : Res → Res) (hf : f {} = {})
    (h : CurInvR c' (f ((s.get id).getD {}))) : CurInv id (s.mapRes f) c' := by
  rw [CurInv, St.get_mapRes]
  cases hg : s.get id with
  | none => rw [hg] at h; exact hf ▸ h
  | some r => rw [hg] at h; exact h

theorem addResource_curInv {id : Str} {s : St} {c : Option Ver} (id' ver : Str) (avail cur pre : Bool) (idx : Option Bool)
    (hi : StAll ResInv s) (h : CurInv id s c) :
    CurInv id (s.addResource id' ver avail cur pre idx).1 (if cur && id' == id then parseVer ver else c) := by
  simp only [St.addResource]
  by_cases hid : id' = id
  · subst hid
    simpa using curInv_set_same (addVersion_curInvR (St.get_all resInv_preserved hi (id := id')).1 h)
  · simpa [hid] using curInv_set_other hid h

theorem addMany_curInv {id : Str} (avail cur pre : Bool) (idx : Option Bool) :
    ∀ (items : List (Str × Str)) (s : St) (c : Option Ver), StAll ResInv s → CurInv id s c →
      CurInv id (items.foldl (fun s it => (s.addResource it.1 it.2 avail cur pre idx).1) s)
        (if cur then announcedIn id c items else c)
  | [], s, c, _, h => by cases cur <;> exact h
  | it :: rest, s, c, hi, h => by
    have := addMany_curInv avail cur pre idx rest _ _ (St.addResource_all resInv_preserved hi)
      (addResource_curInv it.1 it.2 avail cur pre idx hi h)
    cases cur
    · exact this
    · simpa [announcedIn] using this

theorem step_curInv {id : Str} {s : St} {c : Option Ver} (o : Op) (hi : StAll ResInv s) (h : CurInv id s c) :
    CurInv id (step s o).1 (announceStep id s c o) := by
  cases o with
  | add id' ver avail cur pre idx =>
    have := addResource_curInv id' ver avail cur pre idx hi h
    cases cur <;> simpa [step, announceStep] using this
  | addMany items avail cur pre idx =>
    have := addMany_curInv avail cur pre idx items s c hi h
    cases cur <;> simpa [step, announceStep] using this
  | addVersion id' ver avail cur pre =>
    by_cases hid : id' = id
    · subst hid
      simp only [step]
      cases hg : s.get id' with
      | none => cases cur <;> simpa [announceStep, hg] using h
      | some r =>
        have hn := St.get_all resInv_preserved hi (id := id')
        rw [CurInv, hg] at h
        rw [hg] at hn
        have := curInv_set_same (s := s) (id := id') (addVersion_curInvR (raw := ver) (avail := avail) (cur := cur)
          (pre := pre) (idx := r.index) hn.1 h)
        cases cur <;> simpa [announceStep, hg] using this
    · have e : announceStep id s c (.addVersion id' ver avail cur pre) = c := by cases cur <;> simp [announceStep, hid]
      rw [e]
      simp only [step]
      split
      · exact h
      · exact curInv_set_other hid h
  | touch id' ver kind =>
    simp only [step]
    split
    · rename_i hr _
      split
      · exact curInv_set_of_get hr h fun h => h
      · exact h
    · exact h
  | select => exact curInv_mapRes _ rfl (selectVersion_curInvR h)
  | getFile id' =>
    simp only [step]
    split
    · exact h
    · rename_i hr
      exact curInv_set_of_get hr h getFile_curInvR
  | blacklist id' ver =>
    rw [step_blacklist]
    split
    · exact h
    · exact curInv_set_of_get ‹_› h blacklist_curInvR
  | purge keep => exact curInv_mapRes _ rfl (purge_curInvR h)
  | getVersion id' =>
    simp only [step]
    split <;> exact h
  | _ => exact h

theorem runCur_fst (id : Str) : ∀ (ops : List Op) (s : St) (c : Option Ver), (runCur id s c ops).1 = run s ops
  | [], _, _ => rfl
  | o :: ops, s, c => by simp only [runCur, run, List.foldl_cons]; exact runCur_fst id ops _ _

theorem runCur_curInv (id : Str) : ∀ (ops : List Op) (s : St) (c : Option Ver), StAll ResInv s → CurInv id s c →
    CurInv id (runCur id s c ops).1 (runCur id s c ops).2
  | [], _, _, _, h => h
  | o :: ops, s, c, hi, h => by
    simp only [runCur]
    exact runCur_curInv id ops _ _ (step_all resInv_preserved o hi) (step_curInv o hi h)

theorem run_curInvR {ops : List Op} {p : Str × Res} (hp : p ∈ (run {} ops).res) : CurInvR (currentRelease p.1 ops) p.2 := by
  have := runCur_curInv p.1 ops {} none (stAll_init _) curInvR_empty
  rwa [runCur_fst, CurInv, run_ids ops {} idsKey_init p hp] at this

/-! ### The current release is the version announced last (unless a purge dropped it) -/

/-- `F`: the history may forget (it has a `Purge`); without `F` the relation is equality -/
theorem announcedIn_rel (id : Str) {F : Prop} : ∀ (items : List (Str × Str)) (c c' : Option Ver), (F ∧ c = none ∨ c = c') →
    F ∧ announcedIn id c items = none ∨ announcedIn id c items = announcedIn id c' items
  | [], _, _, h => h
  | it :: rest, c, c', h => by
    simp only [announcedIn]
    apply announcedIn_rel id rest
    split
    · exact Or.inr rfl
    · exact h

/-- one call: the current release stays "forgotten, or the version announced last" -/
theorem announceStep_rel (id : Str) (s : St) (o : Op) (c c' : Option Ver) {F : Prop} (hF : ∀ k, o = .purge k → F)
    (h : F ∧ c = none ∨ c = c') :
    F ∧ announceStep id s c o = none ∨ announceStep id s c o = (announcedArgs id (s.get id).isSome c' o).2 := by
  cases o with
  | add id' ver avail cur pre idx =>
    cases cur
    · exact h
    · simp only [announceStep, announcedArgs, Bool.true_and]
      split
      · exact Or.inr rfl
      · exact h
  | addMany items avail cur pre idx =>
    cases cur
    · exact h
    · exact announcedIn_rel id items c c' h
  | addVersion id' ver avail cur pre =>
    cases cur
    · exact h
    · simp only [announceStep, announcedArgs, Bool.true_and]
      split
      · exact Or.inr rfl
      · exact h
  | purge keep =>
    simp only [announceStep, announcedArgs]
    cases c with
    | none => exact Or.inl ⟨hF keep rfl, rfl⟩
    | some v =>
      dsimp only
      split
      · exact h
      · exact Or.inl ⟨hF keep rfl, rfl⟩
  | _ => exact h

theorem runCur_lastAnnounced (id : Str) {F : Prop} : ∀ (ops : List Op) (s : St) (c c' : Option Ver),
    (∀ o ∈ ops, ∀ k, o = .purge k → F) → (F ∧ c = none ∨ c = c') →
    F ∧ (runCur id s c ops).2 = none ∨ (runCur id s c ops).2 = lastAnnouncedFrom id (s.get id).isSome c' ops
  | [], _, _, _, _, h => h
  | o :: ops, s, c, c', hF, h => by
    simp only [runCur, lastAnnouncedFrom]
    rw [← (step_keys id s c' o).2]
    exact runCur_lastAnnounced id ops _ _ _ (fun o' ho' => hF o' (List.mem_cons_of_mem _ ho'))
      (announceStep_rel id s o c c' (hF o List.mem_cons_self) h)

/-! ### The documented order against the flags and against the history -/

theorem newest_cur_iff {cur : Option Ver} {vs : List RV} (hc : ∀ rv ∈ vs, (rv.cur = true ↔ cur = some rv.ver)) (r : RV) :
    Newest (fun rv => rv.cur = true) vs r ↔ r ∈ vs ∧ cur = some r.ver := by
  refine ⟨fun h => ⟨h.1, (hc r h.1).mp h.2.1⟩, fun ⟨hm, hr⟩ => ⟨hm, (hc r hm).mpr hr, fun w hw hwc => ?_⟩⟩
  rw [Option.some.inj (hr.symm.trans ((hc w hw).mp hwc))]
  exact Ver.lt_irrefl _

/-- When the flags say what the history announced, the documented order read against the flags and read against the
    history prescribe the same versions. -/
theorem prescribed_iff_H {cur : Option Ver} {fl : Flags} {idx : Option Bool} {vs : List RV}
    (hc : ∀ rv ∈ vs, (rv.cur = true ↔ cur = some rv.ver)) (r : RV) :
    Prescribed fl idx vs r ↔ PrescribedH cur fl idx vs r := by
  have hk : CurOk fl idx vs ↔ CurOkH cur fl idx vs := by
    simp only [CurOk, CurOkH, newest_cur_iff hc, and_assoc]
  constructor
  · intro h
    cases h with
    | dev h1 h2 h3 h4 => exact .dev h1 h2 h3 h4
    | current h1 h2 h3 => exact .current h1 h2.1 ((newest_cur_iff hc r).mp h2).2 h3
    | newestSelectable h1 h2 h3 h4 => exact .newestSelectable h1 (mt hk.mpr h2) h3 h4
    | newestStable h1 h2 h3 h4 => exact .newestStable h1 (mt hk.mpr h2) h3 h4
    | fallback h1 h2 h3 h4 h5 => exact .fallback h1 (mt hk.mpr h2) h3 h4 h5
  · intro h
    cases h with
    | dev h1 h2 h3 h4 => exact .dev h1 h2 h3 h4
    | current h1 h2 h3 h4 => exact .current h1 ((newest_cur_iff hc r).mpr ⟨h2, h3⟩) h4
    | newestSelectable h1 h2 h3 h4 => exact .newestSelectable h1 (mt hk.mp h2) h3 h4
    | newestStable h1 h2 h3 h4 => exact .newestStable h1 (mt hk.mp h2) h3 h4
    | fallback h1 h2 h3 h4 h5 => exact .fallback h1 (mt hk.mp h2) h3 h4 h5

/-! ### Concrete data for the non-vacuity examples of PBProofs/C19.lean -/
namespace Ex

/-- 1.1.0, 1.2.0, 1.3.0 on disk; the current release is 1.2.0, then 1.3.0, then 1.2.0 again -/
def rollback : List Op := [
  .add (s "app.exe") (s "1.1.0") true false false none,
  .add (s "app.exe") (s "1.2.0") true false false none,
  .add (s "app.exe") (s "1.3.0") true false false none,
  .add (s "app.exe") (s "1.2.0") false true false (some true),
  .select,
  .getFile (s "app.exe"),
  .add (s "app.exe") (s "1.3.0") false true false (some true),
  .select,
  .add (s "app.exe") (s "1.2.0") false true false (some true)]

/-- the announced current release 1.0.0 is not on disk and the registry is offline: 1.5.0 is selected and the purge
    drops 1.0.0 from the list -/
def purgedCurrent : List Op := [
  .add (s "app.exe") (s "1.5.0") true false false none,
  .add (s "app.exe") (s "1.4.0") true false false none,
  .add (s "app.exe") (s "1.3.0") true false false none,
  .add (s "app.exe") (s "1.2.0") true false false none,
  .add (s "app.exe") (s "1.0.0") false true false (some true),
  .select,
  .getFile (s "app.exe"),
  .purge 2]

/-- two flagged entries — not reachable in the model (`reachable_one_current_release`) -/
def twoFlags : List RV := [
  { ver := v 1 3 0, avail := true, cur := true }, { ver := v 1 2 0, avail := true, cur := true },
  { ver := v 1 1 0, avail := true }]

end Ex

end PB.Updater
