import PB.Model.Paths
/-
Lexical path algebra for C18.  One normal form carries it: a cleaned absolute path is `/` followed by proper names
joined with `/` (`CleanAbs`), and the names are its resolution; on it a string prefix `r ++ "/"` is a prefix of the
resolution (`resolve_strict_of_hasPrefix`).
-/
namespace PB.Paths
open PB

theorem B_ofList (cs : List Char) : B (String.ofList cs) = cs.map (fun c => UInt8.ofNat c.toNat) := by
  simp [B, String.toList_ofList]

/-- `decide` after every literal `B "…"` has been rewritten to its byte list by `B_ofList`: otherwise `decide` has to
    evaluate `String.toList` on a literal, i.e. run the UTF-8 decoder.  `-index`: a literal matches `String.ofList _`
    only up to unification. -/
macro "decide_paths" : tactic => `(tactic| (simp -index only [B_ofList]; decide))

/-! ### splitSep / joinSep -/

theorem splitSep_ne_nil (p : Path) : splitSep p ≠ [] := by
  induction p with
  | nil => simp [splitSep]
  | cons c cs ih =>
    unfold splitSep
    split
    · simp
    · split <;> simp

theorem splitSep_append_sep (a b : Path) : splitSep (a ++ 47 :: b) = splitSep a ++ splitSep b := by
  induction a with
  | nil => simp [splitSep]
  | cons c cs ih =>
    by_cases hc : c = 47
    · simp [splitSep, hc, ih]
    · simp only [List.cons_append, splitSep, hc, if_false, ih]
      cases h : splitSep cs with
      | nil => exact absurd h (splitSep_ne_nil cs)
      | cons s ss => simp

/-- Segments never contain the separator. -/
theorem not_mem_of_mem_splitSep {p s : Path} (h : s ∈ splitSep p) : (47 : UInt8) ∉ s := by
  induction p generalizing s with
  | nil => simp [splitSep] at h; simp [h]
  | cons c cs ih =>
    by_cases hc : c = 47
    · simp [splitSep, hc] at h
      rcases h with h | h
      · simp [h]
      · exact ih h
    · simp only [splitSep, hc, if_false] at h
      cases hs : splitSep cs with
      | nil => exact absurd hs (splitSep_ne_nil cs)
      | cons t ts =>
        rw [hs] at h
        simp at h
        rcases h with h | h
        · subst h
          have := ih (s := t) (by simp [hs])
          simp [this, Ne.symm hc]
        · exact ih (by simp [hs, h])

theorem splitSep_of_not_mem {s : Path} (h : (47 : UInt8) ∉ s) : splitSep s = [s] := by
  induction s with
  | nil => simp [splitSep]
  | cons c cs ih =>
    have hc : c ≠ 47 := by intro e; simp [e] at h
    have hcs : (47 : UInt8) ∉ cs := by intro e; simp [e] at h
    simp [splitSep, hc, ih hcs]

theorem splitSep_joinSep {ss : List Path} (hne : ss ≠ []) (h : ∀ s ∈ ss, (47 : UInt8) ∉ s) :
    splitSep (joinSep ss) = ss := by
  induction ss with
  | nil => exact absurd rfl hne
  | cons s rest ih =>
    cases rest with
    | nil => simpa [joinSep] using splitSep_of_not_mem (h s (by simp))
    | cons t ts =>
      simp only [joinSep]
      rw [splitSep_append_sep, splitSep_of_not_mem (h s (by simp))]
      rw [ih (by simp) (fun x hx => h x (by simp [hx]))]
      simp

theorem joinSep_append {as : List Path} (hne : as ≠ []) (b : Path) (bs : List Path) :
    joinSep (as ++ b :: bs) = joinSep as ++ 47 :: joinSep (b :: bs) := by
  induction as with
  | nil => exact absurd rfl hne
  | cons a rest ih =>
    cases rest with
    | nil => simp [joinSep]
    | cons c cs =>
      have := ih (by simp)
      simp only [List.cons_append] at this ⊢
      simp [joinSep, this]

theorem joinSep_ne_nil {ns : List Path} (hne : ns ≠ []) (h : ∀ x ∈ ns, Normal x) : joinSep ns ≠ [] := by
  cases ns with
  | nil => exact absurd rfl hne
  | cons a rest =>
    have := (h a (by simp)).1
    cases rest <;> simp [joinSep, this]

/-! ### Normal segments and lexical resolution -/

theorem normal_not_mem {s : Path} (h : Normal s) : (47 : UInt8) ∉ s := h.2.2.2

theorem stepSeg_normal {st : List Path} {s : Path} (h : Normal s) : stepSeg st s = st ++ [s] := by
  simp [stepSeg, h.1, h.2.1, h.2.2.1]

theorem stepSeg_nil (st : List Path) : stepSeg st [] = st := by simp [stepSeg]

theorem stepSeg_dot (st : List Path) : stepSeg st dot = st := by simp [stepSeg]

/-- Non-empty segment (as a Boolean filter). -/
def nonE (s : Path) : Bool := !s.isEmpty

@[simp] theorem nonE_nil : nonE [] = false := rfl

theorem foldl_stepSeg_normal {L : List Path} (h : ∀ s ∈ L, Normal s) (st : List Path) :
    L.foldl stepSeg st = st ++ L := by
  induction L generalizing st with
  | nil => simp
  | cons s rest ih =>
    rw [List.foldl_cons, stepSeg_normal (h s (by simp)), ih (fun x hx => h x (by simp [hx]))]
    simp

/-- Every entry on the resolution stack is a normal name. -/
theorem stepSeg_allNormal {st : List Path} {s : Path} (hst : ∀ x ∈ st, Normal x) (hs : (47 : UInt8) ∉ s) :
    ∀ x ∈ stepSeg st s, Normal x := by
  intro x hx
  unfold stepSeg at hx
  by_cases hskip : s = [] ∨ s = dot
  · rw [if_pos hskip] at hx; exact hst x hx
  · rw [if_neg hskip] at hx
    by_cases hup : s = dotdot
    · rw [if_pos hup] at hx; exact hst x (List.dropLast_subset _ hx)
    · rw [if_neg hup] at hx
      rcases List.mem_append.mp hx with hx | hx
      · exact hst x hx
      · cases List.mem_singleton.mp hx
        exact ⟨fun e => hskip (Or.inl e), fun e => hskip (Or.inr e), hup, hs⟩

theorem foldl_stepSeg_allNormal {L : List Path} (hL : ∀ s ∈ L, (47 : UInt8) ∉ s) {st : List Path}
    (hst : ∀ x ∈ st, Normal x) : ∀ x ∈ L.foldl stepSeg st, Normal x := by
  induction L generalizing st with
  | nil => simpa using hst
  | cons s rest ih =>
    simp only [List.foldl_cons]
    exact ih (fun x hx => hL x (by simp [hx])) (stepSeg_allNormal hst (hL s (by simp)))

theorem resolveFrom_allNormal {st : List Path} (hst : ∀ x ∈ st, Normal x) (p : Path) :
    ∀ x ∈ resolveFrom st p, Normal x :=
  foldl_stepSeg_allNormal (fun _ hs => not_mem_of_mem_splitSep hs) hst

theorem resolve_allNormal (p : Path) : ∀ x ∈ resolve p, Normal x :=
  resolveFrom_allNormal (by simp) p

theorem resolveFrom_append_sep (st : List Path) (a b : Path) :
    resolveFrom st (a ++ 47 :: b) = resolveFrom (resolveFrom st a) b := by
  simp [resolveFrom, splitSep_append_sep, List.foldl_append]

theorem resolve_append_sep (a b : Path) : resolve (a ++ 47 :: b) = resolveFrom (resolve a) b :=
  resolveFrom_append_sep [] a b

theorem resolve_append_slash (r : Path) : resolve (r ++ [47]) = resolve r := by
  have := resolve_append_sep r []
  simpa [resolveFrom, splitSep, stepSeg_nil] using this

theorem resolve_cons_sep (p : Path) : resolve (47 :: p) = resolve p := by
  simp [resolve, resolveFrom, splitSep, stepSeg_nil]

theorem resolveFrom_of_not_mem {s : Path} (h : (47 : UInt8) ∉ s) (st : List Path) :
    resolveFrom st s = stepSeg st s := by
  simp [resolveFrom, splitSep_of_not_mem h]

theorem resolveFrom_joinSep {ns : List Path} (h : ∀ x ∈ ns, Normal x) (st : List Path) :
    resolveFrom st (joinSep ns) = st ++ ns := by
  by_cases hne : ns = []
  · subst hne; simp [joinSep, resolveFrom, splitSep, stepSeg_nil]
  · rw [resolveFrom, splitSep_joinSep hne (fun x hx => normal_not_mem (h x hx)), foldl_stepSeg_normal h]

/-! ### `filepath.Clean` on absolute paths is lexical resolution -/

theorem cleanStep_true_eq {st : List Path} (hst : ∀ x ∈ st, x ≠ dotdot) (s : Path) :
    cleanStep true st s = stepSeg st s := by
  unfold cleanStep stepSeg
  by_cases h1 : s = [] ∨ s = dot
  · rw [if_pos h1, if_pos h1]
  · rw [if_neg h1, if_neg h1]
    by_cases h2 : s = dotdot
    · rw [if_pos h2, if_pos h2]
      by_cases he : st = []
      · rw [if_pos he, he]; rfl
      · rw [if_neg he, if_neg (fun h => hst _ (List.mem_of_getLast? h) rfl)]
    · rw [if_neg h2, if_neg h2]

theorem foldl_cleanStep_true_eq (L : List Path) (hL : ∀ s ∈ L, (47 : UInt8) ∉ s) {st : List Path}
    (hst : ∀ x ∈ st, Normal x) : L.foldl (cleanStep true) st = L.foldl stepSeg st := by
  induction L generalizing st with
  | nil => rfl
  | cons s rest ih =>
    simp only [List.foldl_cons]
    rw [cleanStep_true_eq (fun x hx => (hst x hx).2.2.1)]
    exact ih (fun x hx => hL x (by simp [hx])) (stepSeg_allNormal hst (hL s (by simp)))

theorem cleanSegs_true (p : Path) : cleanSegs true p = resolve p :=
  foldl_cleanStep_true_eq _ (fun _ hs => not_mem_of_mem_splitSep hs) (by simp)

theorem isAbs_iff {p : Path} : isAbs p = true ↔ ∃ t, p = 47 :: t := by
  cases p with
  | nil => simp [isAbs]
  | cons c cs => simp [isAbs]

theorem clean_abs {p : Path} (h : isAbs p = true) : clean p = 47 :: joinSep (resolve p) := by
  obtain ⟨t, rfl⟩ := isAbs_iff.mp h
  simp [clean, isAbs, cleanSegs_true]

theorem resolve_cleanAbs {ns : List Path} (h : ∀ x ∈ ns, Normal x) : resolve (47 :: joinSep ns) = ns := by
  rw [resolve_cons_sep, resolve, resolveFrom_joinSep h]
  rfl

/-- `Clean` does not change where an absolute path leads. -/
theorem resolve_clean {p : Path} (h : isAbs p = true) : resolve (clean p) = resolve p := by
  rw [clean_abs h, resolve_cleanAbs (resolve_allNormal p)]

theorem isAbs_clean {p : Path} (h : isAbs p = true) : isAbs (clean p) = true := by
  rw [clean_abs h]; rfl

theorem clean_clean {p : Path} (h : isAbs p = true) : clean (clean p) = clean p := by
  rw [clean_abs (isAbs_clean h), resolve_clean h, clean_abs h]

/-- `/` followed by proper names joined with `/`; the names are the path's resolution (`resolve_cleanAbs`). -/
def CleanAbs (q : Path) : Prop := ∃ ns, (∀ x ∈ ns, Normal x) ∧ q = 47 :: joinSep ns

theorem cleanAbs_clean {p : Path} (h : isAbs p = true) : CleanAbs (clean p) :=
  ⟨resolve p, resolve_allNormal p, clean_abs h⟩

theorem cleanAbs_of_clean_eq {q : Path} (hq : isAbs q = true) (hc : clean q = q) : CleanAbs q :=
  hc ▸ cleanAbs_clean hq

theorem CleanAbs.abs {q : Path} (h : CleanAbs q) : isAbs q = true := by
  obtain ⟨_, _, rfl⟩ := h; rfl

theorem CleanAbs.eq {q : Path} (h : CleanAbs q) : q = 47 :: joinSep (resolve q) := by
  obtain ⟨ns, hn, rfl⟩ := h
  rw [resolve_cleanAbs hn]

/-- From a string prefix to containment; `r` itself need not be cleaned. -/
theorem resolve_strict_of_hasPrefix {q r : Path} (hq : CleanAbs q) (hr : r ≠ [])
    (hp : hasPrefix q (r ++ [47]) = true) : ∃ x xs, resolve q = resolve r ++ x :: xs := by
  obtain ⟨ns, hn, rfl⟩ := hq
  obtain ⟨rest, hrest⟩ : r ++ [47] <+: 47 :: joinSep ns := by simpa [hasPrefix] using hp
  -- `r` begins with the leading separator, so `joinSep ns = r' ++ "/" ++ rest`: segments of `r'`, then of `rest`
  obtain ⟨c, r', rfl⟩ := List.exists_cons_of_ne_nil hr
  simp only [List.cons_append, List.append_assoc, List.nil_append, List.cons.injEq] at hrest
  obtain ⟨rfl, hj⟩ := hrest
  have hne : ns ≠ [] := by rintro rfl; simp [joinSep] at hj
  have hs : splitSep r' ++ splitSep rest = ns := by
    rw [← splitSep_append_sep, hj, splitSep_joinSep hne (fun x hx => normal_not_mem (hn x hx))]
  have hr' : resolve (47 :: r') = splitSep r' := by
    rw [resolve_cons_sep, resolve, resolveFrom,
      foldl_stepSeg_normal (fun s hs' => hn s (hs ▸ List.mem_append_left _ hs'))]
    rfl
  obtain ⟨x, xs, hx⟩ := List.exists_cons_of_ne_nil (splitSep_ne_nil rest)
  exact ⟨x, xs, by rw [resolve_cleanAbs hn, hr', ← hx, hs]⟩

theorem resolve_prefix_of_hasPrefix {q r : Path} (hq : CleanAbs q) (hp : hasPrefix q (r ++ [47]) = true) :
    resolve r <+: resolve q := by
  by_cases hr : r = []
  · subst hr; exact List.nil_prefix
  · obtain ⟨x, xs, h⟩ := resolve_strict_of_hasPrefix hq hr hp
    exact ⟨x :: xs, h.symm⟩

theorem CleanAbs.inside {q r : Path} (hq : CleanAbs q) (hp : hasPrefix q (r ++ [47]) = true) : Inside r q :=
  ⟨hq.abs, resolve_prefix_of_hasPrefix hq hp⟩

theorem CleanAbs.strictlyInside {q r : Path} (hq : CleanAbs q) (hr : r ≠ []) (hp : hasPrefix q (r ++ [47]) = true) :
    StrictlyInside r q :=
  ⟨hq.abs, resolve_strict_of_hasPrefix hq hr hp⟩

theorem inside_refl {root : Path} (h : isAbs root = true) : Inside root root := ⟨h, List.prefix_refl _⟩

/-! ### `filepath.Join` below an absolute directory -/

theorem isAbs_append {a : Path} (h : isAbs a = true) (b : Path) : isAbs (a ++ b) = true := by
  obtain ⟨t, rfl⟩ := isAbs_iff.mp h; rfl

theorem ne_nil_of_isAbs {a : Path} (h : isAbs a = true) : a ≠ [] := by
  obtain ⟨t, rfl⟩ := isAbs_iff.mp h; simp

theorem join2_abs {a : Path} (h : isAbs a = true) (b : Path) : join2 a b = clean (a ++ 47 :: b) := by
  simp [join2, ne_nil_of_isAbs h]

theorem cleanAbs_join2 {a : Path} (h : isAbs a = true) (b : Path) : CleanAbs (join2 a b) := by
  rw [join2_abs h]; exact cleanAbs_clean (isAbs_append h _)

/-- `Join(a, b)` leads to where the operating system gets by resolving `b` from directory `a`. -/
theorem resolve_join2 {a : Path} (h : isAbs a = true) (b : Path) :
    resolve (join2 a b) = resolveFrom (resolve a) b := by
  rw [join2_abs h, resolve_clean (isAbs_append h _), resolve_append_sep]

theorem cleanAbs_absOf {cwd : Path} (hc : isAbs cwd = true) (p : Path) : CleanAbs (absOf cwd p) := by
  unfold absOf
  by_cases ha : isAbs p = true
  · rw [if_pos ha]; exact cleanAbs_clean ha
  · rw [if_neg ha]; exact cleanAbs_join2 hc p

theorem resolve_absOf {cwd : Path} (hc : isAbs cwd = true) (p : Path) :
    resolve (absOf cwd p) = if isAbs p = true then resolve p else resolveFrom (resolve cwd) p := by
  unfold absOf
  by_cases ha : isAbs p = true
  · rw [if_pos ha, if_pos ha]; exact resolve_clean ha
  · rw [if_neg ha, if_neg ha]; exact resolve_join2 hc p

/-- Segments that never pop the resolution stack: empty, `.`, or a normal name. -/
def Harmless (s : Path) : Prop := s = [] ∨ s = dot ∨ Normal s

theorem stepSeg_harmless {st : List Path} {s : Path} (h : Harmless s) : st <+: stepSeg st s := by
  rcases h with h | h | h
  · subst h; rw [stepSeg_nil]; exact List.prefix_refl _
  · subst h; rw [stepSeg_dot]; exact List.prefix_refl _
  · rw [stepSeg_normal h]; exact List.prefix_append _ _

theorem harmless_not_mem {s : Path} (h : Harmless s) : (47 : UInt8) ∉ s := by
  rcases h with h | h | h
  · subst h; simp
  · subst h; decide
  · exact normal_not_mem h

theorem inside_join2 {root cur s : Path} (h : Inside root cur) (hs : Harmless s) : Inside root (join2 cur s) := by
  refine ⟨(cleanAbs_join2 h.1 s).abs, ?_⟩
  rw [resolve_join2 h.1, resolveFrom_of_not_mem (harmless_not_mem hs)]
  exact h.2.trans (stepSeg_harmless hs)

/-! ### The scope check does not over-reject: names that stay strictly inside pass it -/

theorem join2_below {base key : Path} (hb : CleanAbs base) (hroot : base ≠ [47]) {x : Path} {xs : List Path}
    (hin : resolveFrom (resolve base) key = resolve base ++ x :: xs) :
    join2 base key = base ++ 47 :: joinSep (x :: xs) := by
  have hne : resolve base ≠ [] := by
    intro e; have := hb.eq; rw [e] at this; exact hroot this
  rw [join2_abs hb.abs, clean_abs (isAbs_append hb.abs _), resolve_append_sep, hin, joinSep_append hne,
    ← List.cons_append, ← hb.eq]

theorem hasPrefix_join2_of_strict {base key : Path} (hb : isAbs base = true) (hc : clean base = base)
    (hroot : base ≠ [47]) {x : Path} {xs : List Path}
    (hin : resolveFrom (resolve base) key = resolve base ++ x :: xs) :
    hasPrefix (join2 base key) (base ++ [47]) = true := by
  rw [join2_below (cleanAbs_of_clean_eq hb hc) hroot hin]
  simp [hasPrefix]

/-! ### `filepath.Dir` of a clean absolute path -/

theorem throughLastSep_append (A l : Path) (hl : (47 : UInt8) ∉ l) : throughLastSep (A ++ 47 :: l) = A ++ [47] := by
  have h : ∀ x ∈ l.reverse, decide (x ≠ (47 : UInt8)) = true := by
    intro x hx
    simpa using fun e : x = 47 => hl (e ▸ List.mem_reverse.mp hx)
  unfold throughLastSep
  rw [List.reverse_append, List.reverse_cons, List.append_assoc, List.dropWhile_append_of_pos h]
  simp

theorem dirOf_cleanAbs {ns : List Path} (h : ∀ x ∈ ns, Normal x) :
    dirOf (47 :: joinSep ns) = 47 :: joinSep ns.dropLast := by
  rcases List.eq_nil_or_concat ns with rfl | ⟨init, l, rfl⟩
  · rfl
  · rw [List.concat_eq_append] at h ⊢
    have hinit : ∀ x ∈ init, Normal x := fun x hx => h x (by simp [hx])
    -- the path is `X ++ "/" ++ l`, with `X` empty or the cleaned path of `init`
    obtain ⟨X, hX, hres, habs⟩ : ∃ X, 47 :: joinSep (init ++ [l]) = X ++ 47 :: l ∧ resolve X = init ∧
        isAbs (X ++ [47]) = true := by
      by_cases hi : init = []
      · subst hi; exact ⟨[], rfl, rfl, rfl⟩
      · exact ⟨47 :: joinSep init, by simp [joinSep_append hi, joinSep], resolve_cleanAbs hinit, rfl⟩
    rw [dirOf, hX, throughLastSep_append _ _ (normal_not_mem (h l (by simp))), clean_abs habs, resolve_append_slash,
      hres, List.dropLast_concat]

theorem cleanAbs_dirOf {q : Path} (hq : CleanAbs q) : CleanAbs (dirOf q) := by
  obtain ⟨ns, hn, rfl⟩ := hq
  exact ⟨ns.dropLast, fun y hy => hn y (List.dropLast_subset _ hy), dirOf_cleanAbs hn⟩

theorem inside_dirOf {q r : Path} (hq : CleanAbs q) (hr : r ≠ []) (hp : hasPrefix q (r ++ [47]) = true) :
    Inside r (dirOf q) := by
  obtain ⟨x, xs, hx⟩ := resolve_strict_of_hasPrefix hq hr hp
  refine ⟨(cleanAbs_dirOf hq).abs, ?_⟩
  obtain ⟨ns, hn, rfl⟩ := hq
  rw [resolve_cleanAbs hn] at hx
  rw [dirOf_cleanAbs hn, resolve_cleanAbs (fun y hy => hn y (List.dropLast_subset _ hy)), hx,
    List.dropLast_append_of_ne_nil (by simp)]
  exact List.prefix_append _ _

/-! ### `Clean` of a relative path stays relative -/

theorem mem_cleanStep {r : Bool} {st : List Path} {s x : Path} (h : x ∈ cleanStep r st s) :
    x ∈ st ∨ x = dotdot ∨ (x = s ∧ s ≠ []) := by
  unfold cleanStep at h
  by_cases h1 : s = [] ∨ s = dot
  · rw [if_pos h1] at h; exact Or.inl h
  · rw [if_neg h1] at h
    by_cases h2 : s = dotdot
    · rw [if_pos h2] at h
      by_cases he : st = []
      · rw [if_pos he] at h
        cases r
        · exact Or.inr (Or.inl (List.mem_singleton.mp h))
        · cases h
      · rw [if_neg he] at h
        by_cases hl : st.getLast? = some dotdot
        · rw [if_pos hl] at h
          rcases List.mem_append.mp h with h | h
          · exact Or.inl h
          · exact Or.inr (Or.inl (List.mem_singleton.mp h))
        · rw [if_neg hl] at h
          exact Or.inl (List.dropLast_subset _ h)
    · rw [if_neg h2] at h
      rcases List.mem_append.mp h with h | h
      · exact Or.inl h
      · exact Or.inr (Or.inr ⟨List.mem_singleton.mp h, fun e => h1 (Or.inl e)⟩)

theorem foldl_cleanStep_elems (r : Bool) (L : List Path) (hL : ∀ s ∈ L, (47 : UInt8) ∉ s) {st : List Path}
    (hst : ∀ x ∈ st, x ≠ [] ∧ (47 : UInt8) ∉ x) :
    ∀ x ∈ L.foldl (cleanStep r) st, x ≠ [] ∧ (47 : UInt8) ∉ x := by
  induction L generalizing st with
  | nil => simpa using hst
  | cons s rest ih =>
    refine ih (fun x hx => hL x (by simp [hx])) (fun x hx => ?_)
    rcases mem_cleanStep hx with hx | rfl | ⟨rfl, hne⟩
    · exact hst x hx
    · decide
    · exact ⟨hne, hL x (by simp)⟩

theorem isAbs_joinSep_false {ss : List Path} (h : ∀ x ∈ ss, x ≠ [] ∧ (47 : UInt8) ∉ x) : isAbs (joinSep ss) = false := by
  cases ss with
  | nil => rfl
  | cons a rest =>
    obtain ⟨hne, hno⟩ := h a (by simp)
    cases a with
    | nil => exact absurd rfl hne
    | cons c cs =>
      have hc : c ≠ 47 := by intro e; simp [e] at hno
      cases rest <;> simp [joinSep, isAbs, hc]

theorem isAbs_clean_false {p : Path} (h : isAbs p = false) : isAbs (clean p) = false := by
  unfold clean
  split
  · rfl
  · simp only [h, Bool.false_eq_true, if_false]
    split
    · rfl
    · exact isAbs_joinSep_false
        (foldl_cleanStep_elems false _ (fun _ hs => not_mem_of_mem_splitSep hs) (by simp))

theorem isAbs_of_clean {p : Path} (h : isAbs (clean p) = true) : isAbs p = true := by
  cases hp : isAbs p with
  | true => rfl
  | false => rw [isAbs_clean_false hp] at h; cases h

/-! ### `filepath.Rel` from a directory to a path below it -/

theorem relElems_cleanAbs {ns : List Path} (h : ∀ x ∈ ns, Normal x) : relElems (47 :: joinSep ns) = ns := by
  unfold relElems
  by_cases hne : ns = []
  · subst hne; simp [joinSep]
  · simp only [joinSep_ne_nil hne h, if_false]
    exact splitSep_joinSep hne (fun x hx => normal_not_mem (h x hx))

theorem stripCommon_prefix (rs t : List Path) : stripCommon rs (rs ++ t) = ([], t) := by
  induction rs with
  | nil => cases t <;> simp [stripCommon]
  | cons r rest ih => simp [stripCommon, ih]

/-- `Rel` to a cleaned path inside `root`: no `..`, and it denotes the path again from `root`. -/
theorem relOf_below {root q : Path} (hr : isAbs root = true) (hq : CleanAbs q) (hin : resolve root <+: resolve q) :
    ∃ rel, relOf root q = some rel ∧ (∀ s ∈ splitSep rel, Harmless s) ∧
      resolveFrom (resolve root) rel = resolve q := by
  obtain ⟨ns, hn, rfl⟩ := hq
  rw [resolve_cleanAbs hn] at hin ⊢
  obtain ⟨t, rfl⟩ := hin
  have hclean : clean (47 :: joinSep (resolve root ++ t)) = 47 :: joinSep (resolve root ++ t) := by
    rw [clean_abs rfl, resolve_cleanAbs hn]
  have hnd : (47 :: joinSep (resolve root)) ≠ dot := by simp [dot]
  unfold relOf
  rw [hclean, clean_abs hr]
  dsimp only
  rw [if_neg hnd, relElems_cleanAbs (resolve_allNormal root), relElems_cleanAbs hn, stripCommon_prefix]
  by_cases ht : t = []
  · subst ht
    rw [List.append_nil, if_pos rfl]
    exact ⟨dot, rfl, fun s hs => Or.inr (Or.inl (List.mem_singleton.mp hs)), rfl⟩
  · have htn : ∀ x ∈ t, Normal x := fun x hx => hn x (List.mem_append_right _ hx)
    have hne : (47 :: joinSep (resolve root ++ t)) ≠ 47 :: joinSep (resolve root) := by
      intro e
      have := congrArg resolve e
      rw [resolve_cleanAbs hn, resolve_cleanAbs (resolve_allNormal root)] at this
      exact ht (List.append_cancel_left (this.trans (List.append_nil _).symm))
    refine ⟨joinSep t, by rw [if_neg hne]; simp [isAbs], ?_, resolveFrom_joinSep htn _⟩
    rw [splitSep_joinSep ht (fun x hx => normal_not_mem (htn x hx))]
    exact fun s hs => Or.inr (Or.inr (htn s hs))

/-! ### The directories `DirStructure.ensure` touches -/

/-- `slashedPath` of `EnsureAbsPath`: the root with exactly one separator appended unless it already ends in one.
    Either way it is `r' ++ "/"` for an `r'` that resolves to the root directory. -/
theorem slashed_root {root : Path} (hr : isAbs root = true) :
    ∃ r', (if hasSuffix root [47] = true then root else root ++ [47]) = r' ++ [47] ∧
      resolve r' = resolve root ∧ isAbs (r' ++ [47]) = true := by
  by_cases hs : hasSuffix root [47] = true
  · have : [47] <:+ root := by simpa [hasSuffix] using hs
    obtain ⟨r', hr'⟩ := this
    exact ⟨r', by simp [hs, hr'], by rw [← hr', resolve_append_slash], by rw [hr']; exact hr⟩
  · exact ⟨root, by simp [hs], rfl, isAbs_append hr _⟩

/-- What `EnsureAbsPath` knows after its scope check passed: `Rel` succeeds and has only harmless elements. -/
theorem scope_pass_rel {root dirPath : Path} (hr : isAbs root = true)
    (hpre : hasPrefix (clean dirPath) (if hasSuffix root [47] = true then root else root ++ [47]) = true) :
    ∃ rel, relOf root (clean dirPath) = some rel ∧ ∀ s ∈ splitSep rel, Harmless s := by
  obtain ⟨r', hsl, hres, h47⟩ := slashed_root hr
  rw [hsl] at hpre
  have habs : isAbs (clean dirPath) = true := by
    obtain ⟨rest, hrest⟩ : (r' ++ [47]) <+: clean dirPath := by simpa [hasPrefix] using hpre
    rw [← hrest]; exact isAbs_append h47 _
  have hq := cleanAbs_clean (isAbs_of_clean habs)
  obtain ⟨rel, h1, h2, _⟩ := relOf_below hr hq (hres ▸ resolve_prefix_of_hasPrefix hq hpre)
  exact ⟨rel, h1, h2⟩

theorem ensureAbsPath_escape {root dirPath : Path} (hr : isAbs root = true) (hd : isAbs dirPath = true)
    (hesc : ¬ resolve root <+: resolve dirPath) : ensureAbsPath root dirPath = .error .outside := by
  obtain ⟨r', hsl, hres, _⟩ := slashed_root hr
  rw [← resolve_clean hd] at hesc
  have hne : clean dirPath ≠ root := fun heq => hesc (heq ▸ List.prefix_refl _)
  have hnp : hasPrefix (clean dirPath) (r' ++ [47]) = false :=
    Bool.eq_false_iff.mpr fun hp => hesc (hres ▸ resolve_prefix_of_hasPrefix (cleanAbs_clean hd) hp)
  simp [ensureAbsPath, hsl, hne, hnp]

theorem ensureChain_inside {root : Path} {L : List Path} (hL : ∀ s ∈ L, Harmless s) {cur : Path}
    (hc : Inside root cur) : ∀ d ∈ ensureChain cur L, Inside root d := by
  induction L generalizing cur with
  | nil => simp [ensureChain]
  | cons s rest ih =>
    have hnxt := inside_join2 hc (hL s (by simp))
    intro d hd
    rcases List.mem_cons.mp hd with rfl | hd
    · exact hnxt
    · exact ih (fun x hx => hL x (by simp [hx])) hnxt d hd

theorem ensureAbsPath_contained {root dirPath : Path} {dirs : List Path} (hr : isAbs root = true)
    (h : ensureAbsPath root dirPath = .ok dirs) : ∀ d ∈ dirs, Inside root d := by
  unfold ensureAbsPath at h
  dsimp only at h
  by_cases heq : clean dirPath = root
  · rw [if_pos heq] at h
    cases h
    simpa using inside_refl hr
  · rw [if_neg heq] at h
    cases hpre : hasPrefix (clean dirPath) (if hasSuffix root [47] = true then root else root ++ [47]) with
    | false => simp [hpre] at h
    | true =>
      obtain ⟨rel, hrel, hharm⟩ := scope_pass_rel hr hpre
      simp only [hpre, hrel] at h
      cases h
      intro d hd
      rcases List.mem_cons.mp hd with rfl | hd
      · exact inside_refl hr
      · exact ensureChain_inside hharm (inside_refl hr) d hd

/-! ### The tree of registered children of a `DirStructure` -/

/-- The invariant of the tree: node 0 is the only node without parent and has the root path; every other
    node hangs below an earlier node and its path is `Join(parent.Path, key)` — the name it is registered under. -/
def DWF (t : DTree) (root : Path) : Prop :=
  0 < t.length ∧ t.pathOf 0 = root ∧
  (∀ i n, t[i]? = some n → n.parent = none → i = 0) ∧
  (∀ i n, t[i]? = some n → ∀ p, n.parent = some p → p < i ∧ n.path = join2 (t.pathOf p) n.key)

theorem dwf_new (root : Path) (perm : Nat) : DWF (newDirStructure root perm) root := by
  refine ⟨by simp [newDirStructure], by simp [newDirStructure, DTree.pathOf], ?_, ?_⟩
  · intro i n h _
    cases i with
    | zero => rfl
    | succ j => simp [newDirStructure] at h
  · intro i n h p hp
    cases i with
    | zero => simp [newDirStructure] at h; subst h; simp at hp
    | succ j => simp [newDirStructure] at h

theorem findChildFrom_spec {h : Nat} {name : Path} {l : List DNode} {i c : Nat}
    (hf : findChildFrom h name i l = some c) :
    ∃ j n, c = i + j ∧ l[j]? = some n ∧ n.parent = some h ∧ n.key = name := by
  induction l generalizing i with
  | nil => simp [findChildFrom] at hf
  | cons a rest ih =>
    unfold findChildFrom at hf
    split at hf
    · rename_i hc
      cases hf
      exact ⟨0, a, by simp, by simp, hc.1, hc.2⟩
    · obtain ⟨j, n, hj, hn, hp, hk⟩ := ih hf
      exact ⟨j + 1, n, by omega, by simpa using hn, hp, hk⟩

theorem findChild_spec {t : DTree} {h c : Nat} {name : Path} (hf : findChild t h name = some c) :
    ∃ n, t[c]? = some n ∧ n.parent = some h ∧ n.key = name := by
  obtain ⟨j, n, hj, hn, hp, hk⟩ := findChildFrom_spec hf
  exact ⟨n, by simpa [hj] using hn, hp, hk⟩

theorem childDir_length_le (t : DTree) (h : Nat) (name : Path) (perm : Nat) : t.length ≤ (childDir t h name perm).1.length := by
  unfold childDir
  split <;> simp

theorem childDir_node {t : DTree} {h : Nat} {name : Path} {perm i : Nat} {n : DNode}
    (hn : (childDir t h name perm).1[i]? = some n) :
    (∃ m, t[i]? = some m ∧ m.parent = n.parent ∧ m.key = n.key ∧ m.path = n.path) ∨
      (i = t.length ∧ n.parent = some h ∧ n.key = name ∧ n.path = join2 (t.pathOf h) name) := by
  unfold childDir at hn
  split at hn
  · rw [List.getElem?_modify] at hn
    cases hti : t[i]? with
    | none => simp [hti] at hn
    | some m =>
      left
      simp only [hti, Option.map_eq_map, Option.map_some, Option.some.injEq] at hn
      subst hn
      exact ⟨m, rfl, by split <;> simp⟩
  · rw [List.getElem?_append] at hn
    split at hn
    · exact Or.inl ⟨n, hn, rfl, rfl, rfl⟩
    · right
      have hi : i = t.length := by
        have := (List.getElem?_eq_some_iff.mp hn).1
        simp at this; omega
      subst hi
      simp at hn
      subst hn
      simp

theorem childDir_pathOf {t : DTree} (h : Nat) (name : Path) (perm : Nat) {p : Nat} (hp : p < t.length) :
    (childDir t h name perm).1.pathOf p = t.pathOf p := by
  unfold childDir
  split
  · simp only [DTree.pathOf, List.getElem?_modify]
    cases t[p]? <;> simp
    split <;> rfl
  · simp [DTree.pathOf, List.getElem?_append_left hp]

/-- `ChildDir` keeps the invariant (for every name, every permission, every existing handle). -/
theorem dwf_childDir {t : DTree} {root : Path} (hw : DWF t root) {h : Nat} (hh : h < t.length) (name : Path) (perm : Nat) :
    DWF (childDir t h name perm).1 root := by
  obtain ⟨hlen, hroot, hnone, hpar⟩ := hw
  refine ⟨Nat.lt_of_lt_of_le hlen (childDir_length_le t h name perm), by rw [childDir_pathOf h name perm hlen, hroot],
    ?_, ?_⟩
  · intro i n hn hp
    rcases childDir_node hn with ⟨m, hm, h1, _, _⟩ | ⟨_, h1, _, _⟩
    · exact hnone i m hm (h1 ▸ hp)
    · rw [hp] at h1; cases h1
  · intro i n hn p hp
    rcases childDir_node hn with ⟨m, hm, h1, h2, h3⟩ | ⟨rfl, h1, h2, h3⟩
    · obtain ⟨hlt, hpath⟩ := hpar i m hm p (h1 ▸ hp)
      have hi := (List.getElem?_eq_some_iff.mp hm).1
      exact ⟨hlt, by rw [childDir_pathOf h name perm (by omega), ← h2, ← h3, hpath]⟩
    · rw [hp] at h1; cases h1
      exact ⟨hh, by rw [childDir_pathOf h name perm hh, h2, h3]⟩

theorem dwf_dcall {t : DTree} {root : Path} (hw : DWF t root) (c : DCall) : DWF (dcall t c).1 root := by
  cases c with
  | childDir h name perm =>
    simp only [dcall]
    by_cases hh : h < t.length
    · rw [if_pos hh]; exact dwf_childDir hw hh name perm
    · rw [if_neg hh]; exact hw
  | _ => exact hw

theorem dwf_treeAfter {t : DTree} {root : Path} (hw : DWF t root) (calls : List DCall) : DWF (treeAfter t calls) root := by
  induction calls generalizing t with
  | nil => exact hw
  | cons c cs ih => exact ih (dwf_dcall hw c)

/-- "always start at the top" ends at node 0. -/
theorem topOf_eq_zero {t : DTree} {root : Path} (hw : DWF t root) : ∀ (f h : Nat), h < f → h < t.length → topOf t f h = 0 := by
  intro f
  induction f with
  | zero => intro h hf; omega
  | succ f ih =>
    intro h hf hl
    unfold topOf
    have hget : t[h]? = some t[h] := List.getElem?_eq_getElem hl
    rw [hget]
    dsimp only
    cases hp : t[h].parent with
    | none => exact hw.2.2.1 h _ hget hp
    | some p =>
      dsimp only
      have := (hw.2.2.2 h _ hget p hp).1
      exact ih p (by omega) (by omega)

theorem ensureChainP_fst (perm : Nat) (cur : Path) (L : List Path) :
    (ensureChainP perm cur L).map (·.1) = ensureChain cur L := by
  induction L generalizing cur with
  | nil => rfl
  | cons d ds ih => simp [ensureChainP, ensureChain, ih]

/-- Registered children decide permissions only. -/
theorem ensureFrom_fst {t : DTree} {root : Path} (hw : DWF t root) (L : List Path) :
    ∀ h, (ensureFrom t h L).map (·.1) = t.pathOf h :: ensureChain (t.pathOf h) L := by
  induction L with
  | nil => intro h; rfl
  | cons s rest ih =>
    intro h
    unfold ensureFrom
    cases hf : findChild t h s with
    | none => simp [ensureChainP_fst]
    | some c =>
      obtain ⟨n, hn, hp, hk⟩ := findChild_spec hf
      have hpath : t.pathOf c = join2 (t.pathOf h) s := by
        have := (hw.2.2.2 c n hn h hp).2
        simp [DTree.pathOf, hn, this, hk]
      simp [ih c, hpath, ensureChain]

theorem ensureAbsPathT_fst {t : DTree} {root : Path} (hw : DWF t root) {h : Nat} (hh : h < t.length) (dirPath : Path) :
    Except.map (List.map (·.1)) (ensureAbsPathT t h dirPath) = ensureAbsPath root dirPath := by
  unfold ensureAbsPathT ensureAbsPath
  rw [topOf_eq_zero hw _ h hh hh]
  dsimp only
  rw [hw.2.1]
  by_cases heq : clean dirPath = root
  · simp [heq, Except.map, ensureFrom_fst hw, hw.2.1, ensureChain]
  · cases hasPrefix (clean dirPath) (if hasSuffix root [47] = true then root else root ++ [47])
    · simp [heq, Except.map]
    · cases relOf root (clean dirPath) <;> simp [heq, Except.map, ensureFrom_fst hw, hw.2.1]

/-- `EnsureAbsPath` on any node of a well-formed tree: everything it touches is inside the root. -/
theorem ensureAbsPathT_contained {t : DTree} {root : Path} (hw : DWF t root) (hr : isAbs root = true) {h : Nat}
    (hh : h < t.length) (dirPath : Path) (dirs : List (Path × Nat)) (hok : ensureAbsPathT t h dirPath = .ok dirs) :
    ∀ d ∈ dirs, Inside root d.1 := by
  have h := ensureAbsPathT_fst hw hh dirPath
  rw [hok] at h
  exact fun d hd => ensureAbsPath_contained hr h.symm d.1 (List.mem_map_of_mem hd)

theorem dcall_snd (t : DTree) (c : DCall) :
    (dcall t c).2 = .ok [] ∨ ∃ h p, h < t.length ∧ (dcall t c).2 = ensureAbsPathT t h p := by
  cases c with
  | childDir h name perm => exact Or.inl (by simp only [dcall]; split <;> rfl)
  | ensure h | ensureAbs h _ | ensureRel h _ | ensureRelDir h _ =>
    by_cases hh : h < t.length
    · exact Or.inr ⟨h, _, hh, if_pos hh⟩
    · exact Or.inl (if_neg hh)

theorem buildFilePath_ok {base key dst : Path} {chk : Bool} (h : buildFilePath base key chk = .ok dst) :
    dst = join2 base key ∧ (hasPrefix dst (base ++ [47]) = true ∨ chk = false ∧ dst = base) ∧
      (chk = true → dst = base ++ 47 :: key) := by
  unfold buildFilePath at h
  split at h
  · cases h
  · dsimp only at h
    split at h
    · cases h
    · rename_i hsc
      split at h
      · cases h
      · rename_i hcl
        cases h
        refine ⟨rfl, ?_, fun hc => by simpa [hc] using hcl⟩
        cases hp : hasPrefix (join2 base key) (base ++ [47]) with
        | true => exact Or.inl rfl
        | false => exact Or.inr (by simpa [hp] using hsc)

theorem unpackDst_eq (tmp name : Path) :
    unpackDst tmp name =
      if hasPrefix (join2 tmp name) (tmp ++ [47]) = true then .ok (join2 tmp name) else .error .insecure := by
  unfold unpackDst
  dsimp only
  cases hasPrefix (join2 tmp name) (tmp ++ [47]) <;> rfl

theorem unpackDst_ok {tmp name dst : Path} (h : unpackDst tmp name = .ok dst) :
    dst = join2 tmp name ∧ hasPrefix dst (tmp ++ [47]) = true := by
  rw [unpackDst_eq] at h
  by_cases hp : hasPrefix (join2 tmp name) (tmp ++ [47]) = true
  · rw [if_pos hp] at h; cases h; exact ⟨rfl, hp⟩
  · rw [if_neg hp] at h; cases h

theorem queryWalkRoot_some {base pre wr : Path} {stat : Path → StatKind}
    (h : queryWalkRoot base pre stat = .ok (some wr)) :
    ∃ wp, buildFilePath base pre false = .ok wp ∧ (wr = wp ∨ wr = dirOf wp ∧ wp ≠ base) := by
  unfold queryWalkRoot at h
  cases hbf : buildFilePath base pre false with
  | error e => rw [hbf] at h; cases h
  | ok wp =>
    refine ⟨wp, rfl, ?_⟩
    rw [hbf] at h
    dsimp only at h
    split at h
    · cases h
    · rename_i hguard
      cases hst : stat wp with
      | dir =>
        rw [hst] at h
        dsimp only at h
        split at h
        · cases h; exact Or.inl rfl
        · rename_i hc
          cases h
          exact Or.inr ⟨rfl, fun e => hc (Or.inr (Or.inr e))⟩
      | file => rw [hst] at h; cases h; exact Or.inr ⟨rfl, fun e => hguard ⟨e, Or.inr hst⟩⟩
      | absent => rw [hst] at h; cases h; exact Or.inr ⟨rfl, fun e => hguard ⟨e, Or.inl hst⟩⟩
      | other => rw [hst] at h; cases h

/-! ### The walk of `fstree.Query` on a file-system tree -/

/-- What is to be shown about a (partial) walk: every access is inside the base path, and every delivered key
    is the name, relative to the base path, of a file that was read — resolving the key from the base
    directory leads to that file. -/
def WalkGood (base : Path) (r : WalkRes) : Prop :=
  (∀ a ∈ r.acc, Inside base a.path) ∧
  (∀ k ∈ r.keys, ∃ p, Access.read p ∈ r.acc ∧ relOf base p = some k ∧ resolveFrom (resolve base) k = resolve p)

theorem walkGood_andThen {base : Path} {a b : WalkRes} (ha : WalkGood base a) (hb : WalkGood base b) :
    WalkGood base (a.andThen b) := by
  unfold WalkRes.andThen
  split
  · exact ha
  · refine ⟨fun x hx => (List.mem_append.mp hx).elim (ha.1 x) (hb.1 x), fun k hk => ?_⟩
    rcases List.mem_append.mp hk with hk | hk
    · obtain ⟨p, h1, h23⟩ := ha.2 k hk
      exact ⟨p, List.mem_append_left _ h1, h23⟩
    · obtain ⟨p, h1, h23⟩ := hb.2 k hk
      exact ⟨p, List.mem_append_right _ h1, h23⟩

theorem walkGood_accOnly {base p : Path} (hp : Inside base p) {l : List Access} {st : Bool} (h : ∀ a ∈ l, a.path = p) :
    WalkGood base { acc := l, keys := [], stop := st } :=
  ⟨fun a ha => h a ha ▸ hp, by intro k hk; simp at hk⟩

/-- The callback on a file that lies inside the base path. -/
theorem visitFile_good {base : Path} (hb : isAbs base = true) (pre p : Path) (ok : Bool) (hp : Inside base p)
    (hcl : CleanAbs p) : WalkGood base (visitFile base pre p ok) := by
  have hacc : ∀ a ∈ [Access.stat p, Access.read p], a.path = p := by simp [Access.path]
  unfold visitFile
  cases hasPrefix p base
  · exact walkGood_accOnly hp (by simp [Access.path])
  · cases hrel : relOf base p with
    | none => exact walkGood_accOnly hp hacc
    | some key =>
      dsimp only
      cases queryMatchesKey pre key
      · exact walkGood_accOnly hp hacc
      · cases ok
        · exact walkGood_accOnly hp hacc
        · refine ⟨fun a ha => hacc a ha ▸ hp, fun k hk => ?_⟩
          cases List.mem_singleton.mp hk
          -- `Rel` denotes the cleaned path below the base path it was computed from
          obtain ⟨rel, h1, _, h2⟩ := relOf_below hb hcl hp.2
          rw [hrel] at h1
          cases h1
          exact ⟨p, by simp, hrel, h2⟩

/-- `filepath.walk` below a directory inside the base path stays inside the base path. -/
theorem walkEnts_good {base : Path} (hb : isAbs base = true) (pre : Path) (e : Ents) :
    e.NamesNormal → ∀ dirPath, Inside base dirPath → WalkGood base (walkEnts base pre dirPath e) := by
  induction e with
  | nil => intro _ _ hd; exact walkGood_accOnly hd (by simp)
  | file name ok rest ih =>
    intro hn dirPath hd
    unfold walkEnts
    exact walkGood_andThen
      (visitFile_good hb pre _ ok (inside_join2 hd (Or.inr (Or.inr hn.1))) (cleanAbs_join2 hd.1 name))
      (ih hn.2 dirPath hd)
  | dir name sub rest ihs ihr =>
    intro hn dirPath hd
    unfold walkEnts
    have hp := inside_join2 hd (Or.inr (Or.inr hn.1))
    have hhere : WalkGood base { acc := [.stat (join2 dirPath name), .list (join2 dirPath name)] } :=
      walkGood_accOnly hp (by simp [Access.path])
    dsimp only
    refine walkGood_andThen ?_ (ihr hn.2.2 dirPath hd)
    split
    · exact walkGood_andThen hhere (ihs hn.2.1 _ hp)
    · exact hhere

theorem get_namesNormal {e : Ents} (h : e.NamesNormal) {name : Path} {sub : Ents} (hg : e.get name = some (.inr sub)) :
    sub.NamesNormal := by
  induction e with
  | nil => simp [Ents.get] at hg
  | file n ok rest ih =>
    unfold Ents.get at hg
    split at hg
    · cases hg
    · exact ih h.2 hg
  | dir n s rest _ ihr =>
    unfold Ents.get at hg
    split at hg
    · cases hg; exact h.2.1
    · exact ihr h.2.2 hg

theorem lookupSegs_namesNormal {segs : List Path} : ∀ {fs e : Ents}, fs.NamesNormal → lookupSegs fs segs = .dir e → e.NamesNormal := by
  induction segs with
  | nil => intro fs e h hl; simp [lookupSegs] at hl; subst hl; exact h
  | cons s ss ih =>
    intro fs e h hl
    unfold lookupSegs at hl
    cases hg : fs.get s with
    | none => rw [hg] at hl; cases hl
    | some v =>
      rw [hg] at hl
      cases v with
      | inl ok => dsimp only at hl; split at hl <;> cases hl
      | inr sub => exact ih (get_namesNormal h hg) hl

/-- `filepath.Walk` from a walk root inside the base path. -/
theorem walkTop_good {base : Path} (hb : isAbs base = true) (pre : Path) {fs : Ents} (hfs : fs.NamesNormal)
    {wr : Path} (hw : Inside base wr) (hcl : CleanAbs wr) : WalkGood base (walkTop fs base pre wr) := by
  have hhere : WalkGood base { acc := [.stat wr, .list wr] } := walkGood_accOnly hw (by simp [Access.path])
  unfold walkTop
  cases hl : fsLookup fs wr with
  | absent => exact walkGood_accOnly hw (by simp [Access.path])
  | notdir => exact walkGood_accOnly hw (by simp [Access.path])
  | file ok => exact visitFile_good hb pre wr ok hw hcl
  | dir e =>
    dsimp only
    split
    · exact walkGood_andThen hhere (walkEnts_good hb pre e (lookupSegs_namesNormal hfs hl) wr hw)
    · exact hhere

end PB.Paths
