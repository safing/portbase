import PBProofs.Lemmas.Tasks
/-
Slot accounting for every execution, whoever started it: an execution started through `runWithLocking` (by the queue
handler or directly by the schedule handler) that has not returned, whose task was not cancelled and whose watcher
did not give up after the execution-wait limit still has its slot watcher, i.e. it is still counted in `queueCnt`.
-/
namespace PB.Tasks
attribute [local simp] setNow setQh setSh setTask

/-- `Watched` without the restriction to executions started by the queue handler. -/
def InvSlot (s : St) : Prop :=
  ∀ u : Nat, 0 < (s.tasks u).sp + (s.tasks u).fn → (s.tasks u).ctxDone = false → (s.tasks u).tmo = false →
    ∃ w, w ∈ s.watchers ∧ w.t = u ∧ w.gen = (s.tasks u).gen

theorem invSlot_iff {s : St} : InvSlot s ↔ ∀ u, Watched false s u := by simp [InvSlot, Watched]

theorem reachable_invSlot {s : St} (h : Reachable s) : InvSlot s := by
  rw [invSlot_iff]
  induction h with
  | init => intro u; simp [Watched, init]
  | step now a hr hs ih =>
    exact watched_stepAt (inv_setNow (step_some hs).1 (reachable_inv hr)).run (s := setNow _ now) ih (step_some hs).2

/-- If the queue handler waits in `s` and is past its wait in `s'`, the slot count of `s'` is zero. -/
def WaitEnd (s s' : St) : Prop := ∀ _u : Nat, s.qh = .waiting → s'.qh = .ready → s'.wg = 0

/-- The queue handler's wait ends only by a step after which the slot count is zero. -/
theorem waitEnd_stepAt {s s' : St} {a : Act} (h : stepAt s a = some s') : WaitEnd s s' := by
  obtain ⟨t, hs⟩ := stepAt_step h
  intro _ hw hr
  cases hs with
  -- a waiting handler becomes ready only under `s.wg - 1 = 0`, which is the new count
  | slotFree => simpa [hw] using hr
  | qhWait _ hq | popP _ _ hq | popQ _ _ hq | popNone _ hq | runQ _ _ hq | spawnQ _ hq => rw [hq] at hw; cases hw
  | runS _ _ _ ho => cases ho <;> exact QH.noConfusion (hw.symm.trans hr)
  -- the other branches leave the handler waiting
  | _ => exact QH.noConfusion (hw.symm.trans hr)

theorem waitEnd_step {s s' : St} {now : Nat} {a : Act} (h : step s now a = some s') (hq : s.qh = .waiting)
    (hr : s'.qh = .ready) : s'.wg = 0 :=
  waitEnd_stepAt (step_some h).2 0 (by simpa [setNow] using hq) hr

end PB.Tasks
