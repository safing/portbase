import PB.Model.Container
import PB.Spec.ByteQueue
import PBProofs.Lemmas.Varint
import PBProofs.Lemmas.Base64
/- Refinement lemmas: container (compartments + offset) ⟶ byte queue. -/
namespace PB.Container
open PB PB.Varint

/-- Abstraction function: the bytes held, in order. -/
def abs (c : C) : Bytes := (c.comps.drop c.offset).flatten

theorem bytes_eq_abs (c : C) : c.bytes = abs c := rfl

/-- Representation invariant: the offset is within the compartment list and all consumed slots are empty
    (needed because `checkOffset` moves the offset *backwards*). -/
def Inv (c : C) : Prop := c.offset ≤ c.comps.length ∧ ∀ b ∈ c.comps.take c.offset, b = []

theorem inv_new (ds : List Bytes) : Inv (new ds) := by simp [Inv, new]
theorem abs_new (ds : List Bytes) : abs (new ds) = ds.flatten := by simp [abs, new]

/-- The state `Replace` and `UnmarshalJSON` leave behind. -/
theorem single_spec (d : Bytes) : Inv ⟨[d], 0⟩ ∧ abs ⟨[d], 0⟩ = d :=
  ⟨inv_new [d], (abs_new [d]).trans (List.append_nil d)⟩

theorem flatten_eq_nil_of_all_nil : ∀ (l : List Bytes), (∀ b ∈ l, b = []) → l.flatten = [] := by
  intro l h
  induction l with
  | nil => rfl
  | cons a l ih =>
    simp only [List.flatten_cons]
    rw [h a (by simp), ih (fun b hb => h b (by simp [hb]))]; rfl

theorem length_eq (c : C) : length c = (abs c).length := by
  simp [length, abs, List.length_flatten]

theorem holdsData_eq (c : C) : holdsData c = decide ((abs c).length > 0) := by
  unfold holdsData abs
  generalize c.comps.drop c.offset = l
  induction l with
  | nil => simp
  | cons b l ih =>
    rw [List.any_cons, ih, List.flatten_cons, List.length_append, ← Bool.decide_or]
    exact decide_eq_decide.mpr (by omega)

theorem gather_eq : ∀ (bs : List Bytes) (cap : Nat), gather cap bs = bs.flatten.take cap := by
  intro bs
  induction bs with
  | nil => intro cap; simp [gather]
  | cons b rest ih =>
    intro cap
    simp only [gather, List.flatten_cons]
    by_cases h : cap ≤ b.length
    · simp [h, List.take_append_of_le_length h]
    · simp only [h, if_false, ih]
      rw [List.take_append]
      have : List.take cap b = b := List.take_of_length_le (by omega)
      rw [this]

theorem peek_eq (c : C) (n : Int) : peek c n = PB.ByteQueue.peek (abs c) n := by
  unfold peek PB.ByteQueue.peek
  by_cases hn : n ≤ 0
  · simp [hn]
  · simp only [hn, if_false]
    have hlen := length_eq c
    unfold abs at *
    generalize c.comps.drop c.offset = rest at *
    cases rest with
    | nil => simp [gather]
    | cons first rest =>
      by_cases hf : first.length ≥ n.toNat
      · simp [hf, List.take_append_of_le_length hf]
      · simp only [hf, if_false, gather_eq, hlen]
        exact List.take_eq_take_min.symm

/-- What the `skip` loop does to the live suffix. -/
theorem skipRest_spec : ∀ (bs : List Bytes) (n : Nat),
    (skipRest n bs).2 ≤ (skipRest n bs).1.length ∧
    (∀ b ∈ (skipRest n bs).1.take (skipRest n bs).2, b = []) ∧
    ((skipRest n bs).1.drop (skipRest n bs).2).flatten = bs.flatten.drop n := by
  intro bs
  induction bs with
  | nil => intro n; simp [skipRest]
  | cons b rest ih =>
    intro n
    simp only [skipRest]
    by_cases h : b.length ≤ n
    · by_cases h0 : n - b.length = 0
      · have : n = b.length := by omega
        subst this
        simp [h0]
      · simp only [h, h0, if_true, if_false]
        obtain ⟨h1, h2, h3⟩ := ih (n - b.length)
        refine ⟨by simp; omega, ?_, ?_⟩
        · intro x hx
          simp only [List.take_succ_cons, List.mem_cons] at hx
          rcases hx with rfl | hx
          · rfl
          · exact h2 x hx
        · simp only [List.drop_succ_cons, h3, List.flatten_cons]
          rw [List.drop_append]
          have : List.drop n b = [] := List.drop_of_length_le h
          simp [this]
    · simp only [h, if_false]
      have hlt : n < b.length := by omega
      simp [List.drop_append_of_le_length (Nat.le_of_lt hlt)]

theorem checkOffset_inv (c : C) (h : Inv c) : Inv (checkOffset c) ∧ abs (checkOffset c) = abs c := by
  unfold checkOffset
  by_cases hc : c.offset ≥ c.comps.length
  · simp only [hc, if_true]
    obtain ⟨h1, h2⟩ := h
    have hall : ∀ b ∈ c.comps, b = [] := by
      intro b hb
      apply h2
      rw [List.take_of_length_le (by omega)]; exact hb
    constructor
    · refine ⟨by simp; omega, ?_⟩
      intro b hb
      exact hall b (List.mem_of_mem_take hb)
    · simp only [abs]
      rw [flatten_eq_nil_of_all_nil _ (fun b hb => hall b (List.mem_of_mem_drop hb)),
          flatten_eq_nil_of_all_nil _ (fun b hb => hall b (List.mem_of_mem_drop hb))]
  · simp [hc, h]

/-- After the loop of `skip` / `WriteToSlice`: the live suffix becomes `r` with `k` consumed (empty) slots, then `checkOffset`. -/
theorem suffix_update (c : C) (h : Inv c) (r : List Bytes) (k : Nat) (hk : k ≤ r.length)
    (hnil : ∀ b ∈ r.take k, b = []) :
    Inv (checkOffset ⟨c.comps.take c.offset ++ r, c.offset + k⟩) ∧
    abs (checkOffset ⟨c.comps.take c.offset ++ r, c.offset + k⟩) = (r.drop k).flatten := by
  have key : Inv ⟨c.comps.take c.offset ++ r, c.offset + k⟩ ∧
      abs ⟨c.comps.take c.offset ++ r, c.offset + k⟩ = (r.drop k).flatten := by
    obtain ⟨h1, h2⟩ := h
    have hl := List.length_take_of_le h1
    generalize c.comps.take c.offset = A at h2 hl ⊢
    rw [← hl]
    refine ⟨⟨by simp; omega, fun b hb => ?_⟩, congrArg List.flatten (List.drop_length_add_append k)⟩
    rw [List.take_length_add_append] at hb
    rcases List.mem_append.mp hb with hb | hb
    · exact h2 b hb
    · exact hnil b hb
  obtain ⟨hi, ha⟩ := checkOffset_inv _ key.1
  exact ⟨hi, ha.trans key.2⟩

theorem skip_spec (c : C) (h : Inv c) (n : Nat) : Inv (skip c n) ∧ abs (skip c n) = (abs c).drop n := by
  unfold skip
  obtain ⟨h1, h2, h3⟩ := skipRest_spec (c.comps.drop c.offset) n
  obtain ⟨hi, ha⟩ := suffix_update c h _ _ h1 h2
  exact ⟨hi, ha.trans h3⟩

theorem append_spec (c : C) (h : Inv c) (d : Bytes) :
    Inv (append c d) ∧ abs (append c d) = abs c ++ d := by
  obtain ⟨h1, h2⟩ := h
  constructor
  · refine ⟨by simp [append]; omega, ?_⟩
    intro b hb
    simp only [append] at hb
    rw [List.take_append_of_le_length h1] at hb
    exact h2 b hb
  · simp only [abs, append]
    rw [List.drop_append_of_le_length h1]; simp

theorem appendContainer_spec (c d : C) (h : Inv c) (hd : Inv d) :
    Inv (appendContainer c d) ∧ abs (appendContainer c d) = abs c ++ abs d := by
  obtain ⟨h1, h2⟩ := h
  obtain ⟨d1, d2⟩ := hd
  constructor
  · refine ⟨by simp [appendContainer]; omega, ?_⟩
    intro b hb
    simp only [appendContainer] at hb
    rw [List.take_append_of_le_length h1] at hb
    exact h2 b hb
  · simp only [abs, appendContainer]
    rw [List.drop_append_of_le_length h1, List.flatten_append]
    congr 1
    have : d.comps = d.comps.take d.offset ++ d.comps.drop d.offset := (List.take_append_drop _ _).symm
    conv => lhs; rw [this, List.flatten_append, flatten_eq_nil_of_all_nil _ d2]
    rfl

theorem renew_spec (c : C) : Inv (renew c) ∧ abs (renew c) = abs c ∧ 1 ≤ (renew c).offset := by
  refine ⟨⟨by simp [renew], ?_⟩, ?_, by simp [renew]⟩
  · intro b hb
    simp [renew] at hb
    exact hb
  · simp [abs, renew]

theorem prepend_spec (c : C) (h : Inv c) (d : Bytes) :
    Inv (prepend c d) ∧ abs (prepend c d) = d ++ abs c := by
  have key : ∀ c' : C, Inv c' → 1 ≤ c'.offset →
      Inv ⟨c'.comps.set (c'.offset - 1) d, c'.offset - 1⟩ ∧
      abs ⟨c'.comps.set (c'.offset - 1) d, c'.offset - 1⟩ = d ++ abs c' := by
    intro c' ⟨h1, h2⟩ ho
    have hlt : c'.offset - 1 < c'.comps.length := by omega
    constructor
    · refine ⟨by simp; omega, ?_⟩
      intro b hb
      simp only at hb
      rw [List.take_set_of_le (Nat.le_refl _)] at hb
      exact h2 b (List.take_subset_take_left _ (by omega) hb)
    · simp only [abs]
      rw [List.set_eq_take_append_cons_drop]
      simp only [hlt, if_true]
      have hl : (List.take (c'.offset - 1) c'.comps).length = c'.offset - 1 := by simp; omega
      rw [List.drop_append_of_le_length (by omega), List.drop_of_length_le (by omega)]
      have : c'.offset - 1 + 1 = c'.offset := by omega
      simp [this]
  unfold prepend
  by_cases ho : c.offset < 1
  · simp only [ho, if_true]
    obtain ⟨ri, ra, ro⟩ := renew_spec c
    obtain ⟨k1, k2⟩ := key (renew c) ri ro
    exact ⟨k1, by rw [k2, ra]⟩
  · simp only [ho, if_false]
    exact key c h (by omega)

theorem get_eq (c : C) (n : Int) :
    get c n = if n ≤ 0 then (skip c 0, .ok [])
      else if n.toNat > (abs c).length then (c, .error .notEnough)
      else (skip c n.toNat, .ok ((abs c).take n.toNat)) := by
  unfold get
  rw [peek_eq]
  unfold PB.ByteQueue.peek
  by_cases hn : n ≤ 0
  · simp [hn]
  · by_cases hbig : n.toNat > (abs c).length
    · have : ((min n.toNat (abs c).length : Nat) : Int) < n := by omega
      simp [hn, hbig, this]
    · have hm : min n.toNat (abs c).length = n.toNat := by omega
      simp [hn, hbig, hm]; omega

theorem getMax_eq (c : C) (n : Int) :
    getMax c n = if n ≤ 0 then (skip c 0, []) else (skip c (min n.toNat (abs c).length), (abs c).take n.toNat) := by
  unfold getMax
  rw [peek_eq]
  unfold PB.ByteQueue.peek
  by_cases hn : n ≤ 0 <;> simp [hn]

theorem getMax_spec (c : C) (h : Inv c) (n : Int) :
    Inv (getMax c n).1 ∧ abs (getMax c n).1 = (PB.ByteQueue.getMax (abs c) n).1 ∧
    (getMax c n).2 = (PB.ByteQueue.getMax (abs c) n).2 := by
  rw [getMax_eq]
  unfold PB.ByteQueue.getMax
  by_cases hn : n ≤ 0
  · obtain ⟨a, b⟩ := skip_spec c h 0
    simp [hn, a, b]
  · obtain ⟨a, b⟩ := skip_spec c h (min n.toNat (abs c).length)
    simp only [hn, if_false]
    refine ⟨a, ?_, trivial⟩
    rw [b]
    by_cases hbig : n.toNat ≤ (abs c).length
    · have hm : min n.toNat (abs c).length = n.toNat := by omega
      rw [hm]
    · have hm : min n.toNat (abs c).length = (abs c).length := by omega
      rw [hm, List.drop_of_length_le (Nat.le_refl _), List.drop_of_length_le (by omega)]

theorem getAll_spec (c : C) (h : Inv c) :
    Inv (getAll c).1 ∧ abs (getAll c).1 = [] ∧ (getAll c).2 = abs c := by
  have e : getAll c = (skip c (abs c).length, abs c) := by
    unfold getAll
    rw [peek_eq, length_eq]
    unfold PB.ByteQueue.peek
    by_cases hz : (abs c).length = 0
    · have : abs c = [] := List.eq_nil_of_length_eq_zero hz
      simp [this]
    · have hne : abs c ≠ [] := fun hh => hz (by rw [hh]; rfl)
      simp [hne]
  rw [e]
  obtain ⟨a, b⟩ := skip_spec c h (abs c).length
  exact ⟨a, by rw [b]; simp, rfl⟩

theorem pcLoop_spec : ∀ (bs : List Bytes) (n : Nat),
    (pcLoop n bs).1.flatten = bs.flatten.take n ∧ (pcLoop n bs).2 = n - bs.flatten.length := by
  intro bs
  induction bs with
  | nil => intro n; simp [pcLoop]
  | cons b rest ih =>
    intro n
    simp only [pcLoop]
    by_cases h : n ≥ b.length
    · simp only [h, if_true, List.flatten_cons]
      obtain ⟨i1, i2⟩ := ih (n - b.length)
      refine ⟨?_, by rw [i2]; simp; omega⟩
      rw [i1, List.take_append, List.take_of_length_le h]
    · simp only [h, if_false, List.flatten_cons]
      obtain ⟨i1, i2⟩ := ih 0
      refine ⟨?_, by rw [i2]; simp; omega⟩
      rw [i1, List.take_append_of_le_length (by omega)]; simp

theorem peekContainer_some (c : C) (n : Int) (h0 : 0 ≤ n) (hle : n.toNat ≤ (abs c).length) :
    ∃ nc, peekContainer c n = some nc ∧ abs nc = (abs c).take n.toNat := by
  unfold peekContainer
  have hneg : ¬ n < 0 := by omega
  by_cases hz : n = 0
  · subst hz; exact ⟨⟨[], 0⟩, by simp, by simp [abs]⟩
  · obtain ⟨p1, p2⟩ := pcLoop_spec (c.comps.drop c.offset) n.toNat
    have hr : ¬ (pcLoop n.toNat (c.comps.drop c.offset)).2 > 0 := by rw [p2]; unfold abs at hle; omega
    refine ⟨⟨(pcLoop n.toNat (c.comps.drop c.offset)).1, 0⟩, by simp [hneg, hz, hr], ?_⟩
    simp only [abs, List.drop_zero]
    exact p1

theorem peekContainer_none (c : C) (n : Int) (h : ¬ (0 ≤ n ∧ n.toNat ≤ (abs c).length)) :
    peekContainer c n = none := by
  unfold peekContainer
  by_cases hneg : n < 0
  · simp [hneg]
  · have hz : ¬ n = 0 := by intro hz; subst hz; simp at h
    obtain ⟨p1, p2⟩ := pcLoop_spec (c.comps.drop c.offset) n.toNat
    have hr : (pcLoop n.toNat (c.comps.drop c.offset)).2 > 0 := by rw [p2]; unfold abs at h; omega
    simp [hneg, hz, hr]

theorem getAsContainer_ok (c : C) (n : Int) (h0 : 0 ≤ n) (hle : n.toNat ≤ (abs c).length) :
    ∃ nc, getAsContainer c n = (skip c n.toNat, .ok nc) ∧ abs nc = (abs c).take n.toNat := by
  obtain ⟨nc, e, a⟩ := peekContainer_some c n h0 hle
  exact ⟨nc, by simp [getAsContainer, e], a⟩

theorem getAsContainer_err (c : C) (n : Int) (h : ¬ (0 ≤ n ∧ n.toNat ≤ (abs c).length)) :
    getAsContainer c n = (c, .error .notEnough) := by
  simp [getAsContainer, peekContainer_none c n h]

/-- The loop of `WriteToSlice`. -/
theorem wtsLoop_spec : ∀ (bs : List Bytes) (cap : Nat),
    (wtsLoop cap bs).2.1 ≤ (wtsLoop cap bs).1.length ∧ (∀ b ∈ (wtsLoop cap bs).1.take (wtsLoop cap bs).2.1, b = []) ∧
    ((wtsLoop cap bs).1.drop (wtsLoop cap bs).2.1).flatten = bs.flatten.drop cap ∧
    (wtsLoop cap bs).2.2.1 = bs.flatten.take cap ∧
    (wtsLoop cap bs).2.2.2 = decide (bs.flatten.length ≤ cap) := by
  intro bs
  induction bs with
  | nil => intro cap; simp [wtsLoop]
  | cons b rest ih =>
    intro cap
    simp only [wtsLoop]
    by_cases h : cap < b.length
    · simp only [h, if_true, List.flatten_cons]
      refine ⟨by simp, by simp, ?_, ?_, ?_⟩
      · simp [List.drop_append_of_le_length (Nat.le_of_lt h)]
      · rw [List.take_append_of_le_length (Nat.le_of_lt h)]
      · simp; omega
    · simp only [h, if_false, List.flatten_cons]
      obtain ⟨i1, i2, i3, i4, i5⟩ := ih (cap - b.length)
      have hb : b.length ≤ cap := by omega
      refine ⟨by simp; omega, ?_, ?_, ?_, ?_⟩
      · intro x hx
        simp only [List.take_succ_cons, List.mem_cons] at hx
        rcases hx with rfl | hx
        · rfl
        · exact i2 x hx
      · simp only [List.drop_succ_cons]
        rw [i3, List.drop_append, List.drop_of_length_le hb]; simp
      · rw [i4, List.take_append, List.take_of_length_le hb]
      · rw [i5]; simp; omega

theorem writeToSlice_spec (c : C) (h : Inv c) (cap : Nat) :
    Inv (writeToSlice c cap).1 ∧ abs (writeToSlice c cap).1 = (PB.ByteQueue.writeToSlice (abs c) cap).1 ∧
    (writeToSlice c cap).2 = (PB.ByteQueue.writeToSlice (abs c) cap).2 := by
  unfold writeToSlice PB.ByteQueue.writeToSlice
  obtain ⟨w1, w2, w3, w4, w5⟩ := wtsLoop_spec (c.comps.drop c.offset) cap
  obtain ⟨hi, ha⟩ := suffix_update c h _ _ w1 w2
  exact ⟨hi, ha.trans w3, Prod.ext w4 w5⟩

theorem compileData_spec (c : C) (h : Inv c) :
    Inv (compileData c).1 ∧ abs (compileData c).1 = abs c ∧ (compileData c).2 = abs c := by
  unfold compileData
  by_cases hl : c.comps.length = 1
  · have hl' : ¬ c.comps.length ≠ 1 := by omega
    rw [if_neg hl']
    refine ⟨h, rfl, ?_⟩
    obtain ⟨h1, h2⟩ := h
    match hc : c.comps, hl with
    | [x], _ =>
      simp only [abs, hc, List.headD_cons]
      rw [hc] at h1 h2
      by_cases ho : c.offset = 0
      · simp [ho]
      · have : c.offset = 1 := by simp at h1; omega
        rw [this] at h2 ⊢
        simp at h2
        simp [h2]
  · have hl' : c.comps.length ≠ 1 := hl
    rw [if_pos hl']
    exact ⟨by simp [Inv], by simp [abs], rfl⟩

theorem getNextN_spec (unpack : Bytes → Except PB.Varint.Err (Nat × Nat)) (k : Int) (c : C) (h : Inv c) :
    Inv (getNextN unpack k c).1 ∧ abs (getNextN unpack k c).1 = (PB.ByteQueue.getNextN unpack k (abs c)).1 ∧
    (match (getNextN unpack k c).2 with | .ok v => Except.ok v | .error (.varint e) => .error e | .error _ => .error .nodata)
      = (PB.ByteQueue.getNextN unpack k (abs c)).2 := by
  unfold getNextN PB.ByteQueue.getNextN
  rw [peek_eq]
  cases unpack (PB.ByteQueue.peek (abs c) k) with
  | error e => exact ⟨h, rfl, rfl⟩
  | ok p =>
    obtain ⟨num, n⟩ := p
    obtain ⟨a, b⟩ := skip_spec c h n
    exact ⟨a, b, rfl⟩

open PB.ByteQueue (Op Out)

/-- Observable pair of a concrete step: abstract queue and output. -/
def R (r : C × Out) : PB.ByteQueue.Q × Out := (abs r.1, r.2)

theorem refines_mk {c' : C} {o o' : Out} {q : PB.ByteQueue.Q} (hi : Inv c') (ha : abs c' = q) (ho : o = o') :
    Inv (c', o).1 ∧ R (c', o) = (q, o') := ⟨hi, by rw [R, ha, ho]⟩

theorem get_step (c : C) (h : Inv c) (n : Int) :
    Inv (outBytes (get c n)).1 ∧ R (outBytes (get c n)) = PB.ByteQueue.outGet (PB.ByteQueue.get (abs c) n) := by
  rw [get_eq]
  unfold PB.ByteQueue.get
  by_cases hn : n ≤ 0
  · obtain ⟨a, b⟩ := skip_spec c h 0
    rw [if_pos hn, if_pos hn]
    exact refines_mk a b rfl
  · rw [if_neg hn, if_neg hn]
    by_cases hbig : n.toNat > (abs c).length
    · rw [if_pos hbig, if_pos hbig]
      exact refines_mk h rfl rfl
    · obtain ⟨a, b⟩ := skip_spec c h n.toNat
      rw [if_neg hbig, if_neg hbig]
      exact refines_mk a b rfl

theorem getAsContainer_step (c : C) (h : Inv c) (n : Int) :
    Inv (outCont (getAsContainer c n)).1 ∧ R (outCont (getAsContainer c n)) =
      if 0 ≤ n ∧ n.toNat ≤ (abs c).length then ((abs c).drop n.toNat, .bytes ((abs c).take n.toNat))
      else (abs c, .err "notenough") := by
  by_cases hc : 0 ≤ n ∧ n.toNat ≤ (abs c).length
  · obtain ⟨nc, e, a⟩ := getAsContainer_ok c n hc.1 hc.2
    obtain ⟨si, sa⟩ := skip_spec c h n.toNat
    rw [e, if_pos hc]
    exact refines_mk si sa (by rw [bytes_eq_abs, a])
  · rw [getAsContainer_err c n hc, if_neg hc]
    exact refines_mk h rfl rfl

theorem peekContainer_step (c : C) (h : Inv c) (n : Int) :
    Inv (step c (.peekContainer n)).1 ∧ R (step c (.peekContainer n)) = PB.ByteQueue.step (abs c) (.peekContainer n) := by
  by_cases hc : 0 ≤ n ∧ n.toNat ≤ (abs c).length
  · obtain ⟨nc, e, a⟩ := peekContainer_some c n hc.1 hc.2
    simp only [step, e, PB.ByteQueue.step, if_pos hc]
    exact refines_mk h rfl (by rw [bytes_eq_abs, a])
  · simp only [step, peekContainer_none c n hc, PB.ByteQueue.step, if_neg hc]
    exact refines_mk h rfl rfl

theorem getNextN_step (unpack : Bytes → Except PB.Varint.Err (Nat × Nat)) (k : Int) (c : C) (h : Inv c) :
    Inv (outNum (getNextN unpack k c)).1 ∧ R (outNum (getNextN unpack k c)) = PB.ByteQueue.outNum (PB.ByteQueue.getNextN unpack k (abs c)) := by
  unfold getNextN PB.ByteQueue.getNextN
  rw [peek_eq]
  cases unpack (PB.ByteQueue.peek (abs c) k) with
  | error e => exact refines_mk h rfl rfl
  | ok p =>
    obtain ⟨a, b⟩ := skip_spec c h p.2
    exact refines_mk a b rfl

/-- The statement repeats the common body of `getNextBlock` (`get`, `outBytes`) and `getNextBlockAsContainer`
    (`getAsContainer`, `outCont`), so that both unfold to it. -/
theorem getNextBlock_frame {X : Type} (out : C × Except Err X → C × Out)
    (hout : ∀ c' e, out (c', .error e) = (c', .err e.str)) (rd : C → Int → C × Except Err X)
    (hrd : ∀ c', Inv c' → ∀ sz : Nat, sz ≤ (abs c').length →
      Inv (out (rd c' sz)).1 ∧ R (out (rd c' sz)) = ((abs c').drop sz, .bytes ((abs c').take sz)))
    (c : C) (h : Inv c) :
    let r := out (match getNextN64 c with
      | (c', .error e) => (c', .error e)
      | (c', .ok sz) => if sz > length c' then (c', .error .notEnough) else rd c' (sz : Int))
    Inv r.1 ∧ R r = PB.ByteQueue.outBlock (PB.ByteQueue.getNextBlock (abs c)) := by
  unfold getNextN64 getNextN PB.ByteQueue.getNextBlock PB.ByteQueue.getNextN
  rw [peek_eq]
  cases unpack64 (PB.ByteQueue.peek (abs c) 10) with
  | error e =>
    simp only [hout]
    exact refines_mk h rfl rfl
  | ok p =>
    obtain ⟨si, sa⟩ := skip_spec c h p.2
    simp only [length_eq, sa]
    by_cases hb : p.1 > ((abs c).drop p.2).length
    · rw [if_pos hb, if_pos hb, hout]
      exact refines_mk si sa rfl
    · rw [if_neg hb, if_neg hb]
      have := hrd _ si p.1 (by rw [sa]; omega)
      rwa [sa] at this

theorem get_natCast (q : PB.ByteQueue.Q) (sz : Nat) (h : sz ≤ q.length) :
    PB.ByteQueue.outGet (PB.ByteQueue.get q sz) = (q.drop sz, .bytes (q.take sz)) := by
  unfold PB.ByteQueue.get
  by_cases hz : (sz : Int) ≤ 0
  · obtain rfl : sz = 0 := by omega
    rw [if_pos hz]
    rfl
  · rw [if_neg hz, if_neg (by omega)]
    rfl

theorem wtaLoop_spec : ∀ (bs : List Bytes) (budget : Nat),
    wtaLoop budget bs = (bs.flatten.take budget, decide (bs.flatten.length ≤ budget)) := by
  intro bs
  induction bs with
  | nil => intro budget; simp [wtaLoop]
  | cons b rest ih =>
    intro budget
    simp only [wtaLoop, List.flatten_cons, List.length_append]
    generalize hL : rest.flatten.length = L at *
    by_cases h : budget < b.length
    · have h2 : ¬ (b.length + L ≤ budget) := by omega
      rw [if_pos h, List.take_append_of_le_length (Nat.le_of_lt h), decide_eq_false h2]
    · have h3 : b.length ≤ budget := by omega
      rw [if_neg h, ih, List.take_append, List.take_of_length_le h3]
      rw [show decide (L ≤ budget - b.length) = decide (b.length + L ≤ budget) from decide_eq_decide.mpr (by omega)]

theorem appendContainerAsBlock_spec (c d : C) (h : Inv c) (hd : Inv d) :
    Inv (appendContainerAsBlock c d) ∧
    abs (appendContainerAsBlock c d) = abs c ++ pack64 (abs d).length ++ abs d := by
  obtain ⟨a, b⟩ := append_spec c h (pack64 (length d))
  obtain ⟨a', b'⟩ := appendContainer_spec _ d a hd
  refine ⟨a', ?_⟩
  show abs (appendContainer (append c (pack64 (length d))) d) = _
  rw [b', b, length_eq]

theorem step_refines (c : C) (h : Inv c) (op : Op) :
    Inv (step c op).1 ∧ R (step c op) = PB.ByteQueue.step (abs c) op := by
  cases op with
  | append d => obtain ⟨a, b⟩ := append_spec c h d; exact refines_mk a b rfl
  | prepend d => obtain ⟨a, b⟩ := prepend_spec c h d; exact refines_mk a b rfl
  | appendNumber n => obtain ⟨a, b⟩ := append_spec c h (pack64 n); exact refines_mk a b rfl
  | prependNumber n => obtain ⟨a, b⟩ := prepend_spec c h (pack64 n); exact refines_mk a b rfl
  | appendInt i => obtain ⟨a, b⟩ := append_spec c h (pack64 (ofInt64 i)); exact refines_mk a b rfl
  | prependInt i => obtain ⟨a, b⟩ := prepend_spec c h (pack64 (ofInt64 i)); exact refines_mk a b rfl
  | appendAsBlock d =>
    obtain ⟨a, b⟩ := append_spec c h (pack64 d.length)
    obtain ⟨a', b'⟩ := append_spec _ a d
    exact refines_mk a' (b'.trans (by rw [b])) rfl
  | prependAsBlock d =>
    obtain ⟨a, b⟩ := prepend_spec c h d
    obtain ⟨a', b'⟩ := prepend_spec _ a (pack64 d.length)
    exact refines_mk a' (b'.trans (by rw [b])) rfl
  | appendContainer ds =>
    obtain ⟨a, b⟩ := appendContainer_spec c (new ds) h (inv_new ds)
    exact refines_mk a (by rw [b, abs_new]) rfl
  | appendContainerAsBlock ds =>
    obtain ⟨a, b⟩ := appendContainerAsBlock_spec c (new ds) h (inv_new ds)
    exact refines_mk a (by rw [b, abs_new]) rfl
  | prependLength =>
    obtain ⟨a, b⟩ := prepend_spec c h (pack64 (length c))
    exact refines_mk a (b.trans (by rw [length_eq])) rfl
  | replace d => exact refines_mk (single_spec d).1 (single_spec d).2 rfl
  | compileData => obtain ⟨a, b, o⟩ := compileData_spec c h; exact refines_mk a b (congrArg Out.bytes o)
  | get n => exact get_step c h n
  | getAll => obtain ⟨a, b, o⟩ := getAll_spec c h; exact refines_mk a b (congrArg Out.bytes o)
  | getAsContainer n => exact getAsContainer_step c h n
  | getMax n => obtain ⟨a, b, o⟩ := getMax_spec c h n; exact refines_mk a b (congrArg Out.bytes o)
  | writeToSlice cap =>
    obtain ⟨a, b, o⟩ := writeToSlice_spec c h cap
    exact refines_mk a b (by rw [o])
  | peek n => exact refines_mk h rfl (by rw [peek_eq])
  | peekContainer n => exact peekContainer_step c h n
  | getNextBlock =>
    refine getNextBlock_frame outBytes (fun _ _ => rfl) get (fun c' hc' sz hsz => ?_) c h
    have := get_step c' hc' sz
    rwa [get_natCast _ _ hsz] at this
  | getNextBlockAsContainer =>
    refine getNextBlock_frame outCont (fun _ _ => rfl) getAsContainer (fun c' hc' sz hsz => ?_) c h
    have := getAsContainer_step c' hc' sz
    rwa [if_pos ⟨Int.natCast_nonneg sz, hsz⟩] at this
  | getNextN8 => exact getNextN_step unpack8 2 c h
  | getNextN16 => exact getNextN_step unpack16 3 c h
  | getNextN32 => exact getNextN_step unpack32 5 c h
  | getNextN64 => exact getNextN_step unpack64 10 c h
  | holdsData => exact refines_mk h rfl (by rw [holdsData_eq])
  | length => exact refines_mk h rfl (by rw [length_eq])
  | marshalJSON =>
    obtain ⟨a, b, o⟩ := compileData_spec c h
    exact refines_mk a b (by rw [marshalJSON, o])
  | unmarshalJSON d =>
    cases d with
    | none => exact refines_mk h rfl rfl
    | some raw => exact refines_mk (single_spec raw).1 (single_spec raw).2 rfl
  | writeAllTo budget => exact refines_mk h rfl (by rw [writeAllTo, wtaLoop_spec]; rfl)

/-! ### Worlds of containers -/

open PB.ByteQueue (WOp)

/-- Every container of the world satisfies the representation invariant. -/
def WInv (w : List C) : Prop := ∀ c ∈ w, Inv c

theorem winv_set (w : List C) (i : Nat) (c : C) (h : WInv w) (hc : Inv c) : WInv (w.set i c) := by
  intro x hx
  rcases List.mem_or_eq_of_mem_set hx with h1 | h1
  · exact h x h1
  · subst h1; exact hc

theorem wstep_append (w : List C) (h : WInv w) (i j : Nat) (f : C → C → C) (g : Bytes → Bytes → Bytes)
    (hf : ∀ c d, Inv c → Inv d → Inv (f c d) ∧ abs (f c d) = g (abs c) (abs d)) :
    let r : List C × Out := match w[i]?, w[j]? with
      | some c, some d => (w.set i (f c d), .unit)
      | _, _ => (w, .err "noslot")
    let s : List Bytes × Out := match (w.map abs)[i]?, (w.map abs)[j]? with
      | some q, some p => ((w.map abs).set i (g q p), .unit)
      | _, _ => (w.map abs, .err "noslot")
    WInv r.1 ∧ r.1.map abs = s.1 ∧ r.2 = s.2 := by
  simp only [List.getElem?_map]
  cases hi : w[i]? with
  | none => exact ⟨h, rfl, rfl⟩
  | some c =>
    cases hj : w[j]? with
    | none => exact ⟨h, rfl, rfl⟩
    | some d =>
      obtain ⟨a, b⟩ := hf c d (h c (List.mem_of_getElem? hi)) (h d (List.mem_of_getElem? hj))
      exact ⟨winv_set w i _ h a, by rw [List.map_set, b]; rfl, rfl⟩

theorem wstep_refines (w : List C) (h : WInv w) (op : WOp) :
    WInv (wstep w op).1 ∧ (wstep w op).1.map abs = (PB.ByteQueue.wstep (w.map abs) op).1 ∧
    (wstep w op).2 = (PB.ByteQueue.wstep (w.map abs) op).2 := by
  cases op with
  | newc ds =>
    refine ⟨?_, by simp [wstep, PB.ByteQueue.wstep, abs_new], rfl⟩
    intro x hx
    simp only [wstep, List.mem_append, List.mem_singleton] at hx
    rcases hx with h1 | h1
    · exact h x h1
    · subst h1; exact inv_new ds
  | on i op =>
    simp only [wstep, PB.ByteQueue.wstep, List.getElem?_map]
    cases hi : w[i]? with
    | none => exact ⟨h, rfl, rfl⟩
    | some c =>
      have hc : Inv c := h c (List.mem_of_getElem? hi)
      obtain ⟨a, b⟩ := step_refines c hc op
      have b1 := congrArg Prod.fst b
      have b2 := congrArg Prod.snd b
      simp only [R] at b1 b2
      simp only [Option.map_some]
      exact ⟨winv_set w i _ h a, by rw [List.map_set, b1], b2⟩
  | appendFrom i j =>
    exact wstep_append w h i j _ _ fun c d hc hd => appendContainer_spec c d hc hd
  | appendFromAsBlock i j =>
    exact wstep_append w h i j _ _ fun c d hc hd => appendContainerAsBlock_spec c d hc hd

end PB.Container
