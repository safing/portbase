import PB.Model.Db
import PB.Spec.KVStore
import PB.Spec.PermissionLattice
import PBProofs.Lemmas.Db
import PBProofs.Lemmas.DbSim
/-
Helper lemmas for C03 (permissions).
-/
namespace PB.Db
open PB.KV PB.Perm

theorem not_permitted_not_all (o : Opts) (r : Rec) (h : r.md.permitted o.loc o.int = false) : o.all = false := by
  rw [← hasAccess_eq_permitted, Opts.hasAccess, Bool.or_eq_false_iff] at h; exact h.1

theorem kvget_ok {o : Opts} {m : Store} {k : String} {now : Int} {r : Rec} (h : KV.get o m k now = .ok r) :
    vis now (m.get k) = some r ∧ r.md.permitted o.loc o.int = true := by
  unfold KV.get at h
  cases hv : vis now (m.get k) with
  | none => rw [hv] at h; cases h
  | some x =>
    rw [hv] at h; simp only at h
    split at h <;> cases h
    exact ⟨rfl, (hasAccess_eq_permitted o r).symm.trans ‹_›⟩

theorem kvget_key {o : Opts} {m : Store} {k : String} {now : Int} {r : Rec} (h : KV.get o m k now = .ok r) : r.key = k :=
  Store.get_key (vis_some (kvget_ok h).1).1

/-- `getRecord` only hands out records the interface may see — whatever the cache holds. -/
theorem getRecord_permitted (cfg : Cfg) (o : Opts) (st : ISt) (k : String) (now : Int) (r : Rec)
    (h : (getRecord cfg o st k now).1 = .ok r) : r.md.permitted o.loc o.int = true := by
  unfold getRecord at h
  generalize checkCache cfg o st k now = cc at h
  obtain ⟨c1, st1⟩ := cc
  cases c1 with
  | some rc =>
    simp only at h
    split at h
    · cases h; rename_i ha; rw [← hasAccess_eq_permitted]; exact ha
    · cases h
  | none =>
    simp only at h
    cases hg : ctlGet st1.store k now with
    | error e => rw [hg] at h; cases h
    | ok x =>
      rw [hg] at h; simp only at h
      split at h
      · cases h
      · cases h; rename_i ha; rw [← hasAccess_eq_permitted]; simpa using ha

theorem kvput_cases (b : Backend) (o : Opts) (m : Store) (x : Rec) (now : Int) (isNew : Bool) :
    KV.put b o m x now isNew = (m, .err .denied) ∨
    KV.put b o m x now isNew =
      (KV.store b m { x with md := o.apply (if isNew then x.md.reset else x.md) now }, .ok) := by
  unfold KV.put
  cases KV.blocked o m x.key now
  · exact Or.inr rfl
  · exact Or.inl rfl

theorem kvput_blocked (b : Backend) (o : Opts) (m : Store) (x : Rec) (now : Int) (isNew : Bool) (r : Rec)
    (hv : vis now (m.get x.key) = some r) (hp : r.md.permitted o.loc o.int = false) :
    KV.put b o m x now isNew = (m, .err .denied) := by
  unfold KV.put KV.blocked; simp [hv, hp, not_permitted_not_all o r hp]

/-! Operations other than `get` and `query` never hand out records. -/

theorem ifPut_noRecs (cfg : Cfg) (o : Opts) (st : ISt) (x : Rec) (now : Int) (isNew : Bool) :
    outRecs (ifPut cfg o st x now isNew).2 = [] := by
  unfold ifPut
  generalize (if (!o.all) = true then _ else _ : Option Err × ISt) = pre
  obtain ⟨_ | e, st1⟩ := pre
  · simp only
    generalize updateCache cfg o st1 _ true _ = uc
    obtain ⟨s1, _ | _⟩ := uc <;> rfl
  · rfl

theorem ifModify_noRecs (cfg : Cfg) (o : Opts) (st : ISt) (k : String) (now : Int) (f : Meta → Meta) :
    outRecs (ifModify cfg o st k now f).2 = [] := by
  unfold ifModify
  generalize getRecord cfg o st k now = gr
  obtain ⟨res, st1⟩ := gr
  cases res <;> rfl

theorem ifInsert_noRecs (cfg : Cfg) (o : Opts) (st : ISt) (k a : String) (p : Prim) (now : Int) :
    outRecs (ifInsert cfg o st k a p now).2 = [] := by
  unfold ifInsert
  generalize getRecord cfg o st k now = gr
  obtain ⟨res, st1⟩ := gr
  cases res with
  | error e => rfl
  | ok r => simp only; cases setField r.form r.fields a p <;> rfl

theorem ifExists_noRecs (cfg : Cfg) (o : Opts) (st : ISt) (k : String) (now : Int) :
    outRecs (ifExists cfg o st k now).2 = [] := by
  unfold ifExists
  generalize getRecord cfg o st k now = gr
  obtain ⟨res, st1⟩ := gr
  cases res with
  | error e => cases e <;> rfl
  | ok r => rfl

theorem ifPutMany_noRecs (cfg : Cfg) (o : Opts) (st : ISt) (rs : List Rec) (now : Int) :
    outRecs (ifPutMany cfg o st rs now).2 = [] := by
  unfold ifPutMany; (repeat' split) <;> rfl

theorem ifPurge_noRecs (cfg : Cfg) (o : Opts) (st : ISt) (q : Query) (now : Int) :
    outRecs (ifPurge cfg o st q now).2 = [] := by
  unfold ifPurge; (repeat' split) <;> rfl

theorem ifFlush_noRecs (cfg : Cfg) (o : Opts) (st : ISt) (now : Int) :
    outRecs (ifFlush cfg o st now).2 = [] := by
  unfold ifFlush; (repeat' split) <;> rfl

/-- Indistinguishable stores show, under every key, the same thing or two records the interface may not see. -/
theorem lowEq_cases {loc int : Bool} {now : Int} {m m' : Store} (h : lowEq loc int now m m') (k : String) :
    vis now (m.get k) = vis now (m'.get k) ∨
    ∃ r r', vis now (m.get k) = some r ∧ vis now (m'.get k) = some r' ∧
      r.md.permitted loc int = false ∧ r'.md.permitted loc int = false := by
  have hk := h k
  cases hv : vis now (m.get k) with
  | none =>
    cases hv' : vis now (m'.get k) with
    | none => exact Or.inl rfl
    | some r' => rw [hv, hv'] at hk; cases hk
  | some r =>
    cases hv' : vis now (m'.get k) with
    | none => rw [hv, hv'] at hk; cases hk
    | some r' =>
      rw [hv, hv'] at hk
      simp only at hk
      cases hp : r.md.permitted loc int with
      | true => exact Or.inl (congrArg some (hk (Or.inl hp)))
      | false =>
        cases hp' : r'.md.permitted loc int with
        | true => exact Or.inl (congrArg some (hk (Or.inr hp')))
        | false => exact Or.inr ⟨r, r', rfl, rfl, hp, hp'⟩

theorem kvget_lowEq {o : Opts} {now : Int} {m m' : Store} (h : lowEq o.loc o.int now m m') (k : String) :
    KV.get o m k now = KV.get o m' k now := by
  unfold KV.get
  rcases lowEq_cases h k with e | ⟨r, r', e, e', hp, hp'⟩
  · rw [e]
  · simp [e, e', hasAccess_eq_permitted, hp, hp']

theorem blocked_lowEq {o : Opts} {now : Int} {m m' : Store} (h : lowEq o.loc o.int now m m') (k : String) :
    KV.blocked o m k now = KV.blocked o m' k now := by
  unfold KV.blocked
  rcases lowEq_cases h k with e | ⟨r, r', e, e', hp, hp'⟩
  · rw [e]
  · simp only [e, e', hp, hp']

theorem filter_perm_of_lowEq {loc int : Bool} {now : Int} {m m' : Store} (hn : m.NodupKeys) (hn' : m'.NodupKeys)
    (h : lowEq loc int now m m') (p : Rec → Bool)
    (hp : ∀ a, p a = true → a.md.valid now = true ∧ a.md.permitted loc int = true) :
    (m.filter p).Perm (m'.filter p) := by
  refine filter_perm_of_vis hn hn' p (fun a ha => (hp a ha).1) fun a ha => ?_
  rcases lowEq_cases h a.key with e | ⟨r, r', e, e', hr, hr'⟩
  · rw [e]
  · rw [e, e']
    constructor <;> intro h1 <;> cases h1 <;> simp [(hp a ha).2] at hr hr'

theorem sameOut_of_eq {a b : Out} (e : a = b) : sameOut a b := by
  subst e
  cases a with
  | recs l => exact List.Perm.refl l
  | _ => rfl

theorem lowEq_refl_at {loc int : Bool} (y : Option Rec) :
    match y, y with
    | none, none => True
    | some r, some r' => (r.md.permitted loc int = true ∨ r'.md.permitted loc int = true) → r = r'
    | _, _ => False := by
  cases y with
  | none => trivial
  | some r => exact fun _ => rfl

theorem lowEq_cons {loc int : Bool} {t : Int} {a a' : Rec} {m m' : Store} (hk : a.key = a'.key)
    (ha : match vis t (some a), vis t (some a') with
      | none, none => True
      | some r, some r' => (r.md.permitted loc int = true ∨ r'.md.permitted loc int = true) → r = r'
      | _, _ => False)
    (h : lowEq loc int t m m') : lowEq loc int t (a :: m) (a' :: m') := by
  intro k
  rw [Store.get_cons, Store.get_cons, ← hk]
  by_cases hak : a.key = k
  · rw [if_pos hak, if_pos hak]; exact ha
  · rw [if_neg hak, if_neg hak]; exact h k

/-- Writing the same thing under one key in both stores. -/
theorem lowEq_same_write {loc int : Bool} {t : Int} {m m' m1 m1' : Store} (k0 : String) (x : Option Rec)
    (h : lowEq loc int t m m')
    (h1 : m1.get k0 = x) (h1' : m1'.get k0 = x)
    (h2 : ∀ k, k ≠ k0 → m1.get k = m.get k) (h2' : ∀ k, k ≠ k0 → m1'.get k = m'.get k) :
    lowEq loc int t m1 m1' := by
  intro k
  by_cases hk : k = k0
  · subst hk; rw [h1, h1']; exact lowEq_refl_at _
  · rw [h2 k hk, h2' k hk]; exact h k

theorem lowEq_store {loc int : Bool} {t : Int} {m m' : Store} (b : Backend) (r : Rec) (h : lowEq loc int t m m') :
    lowEq loc int t (KV.store b m r) (KV.store b m' r) := by
  apply lowEq_same_write r.key (if r.md.isDeleted then none else some (stored b r)) h <;>
    simp +contextual [kvstore_get]

theorem lowEq_storeAll {loc int : Bool} {t : Int} (b : Backend) (o : Opts) (now : Int) (rs : List Rec) :
    ∀ (m m' : Store), lowEq loc int t m m' → lowEq loc int t (KV.storeAll b o now m rs) (KV.storeAll b o now m' rs) := by
  induction rs with
  | nil => intro m m' h; exact h
  | cons r rest ih => intro m m' h; exact ih _ _ (lowEq_store b _ h)

theorem storeAll_nodup (b : Backend) (o : Opts) (now : Int) (rs : List Rec) :
    ∀ (m : Store), m.NodupKeys → (KV.storeAll b o now m rs).NodupKeys := by
  induction rs with
  | nil => intro m h; exact h
  | cons r rest ih => intro m h; exact ih _ (kvstore_nodup h _)

/-- Records the interface may see are the same on both sides, so dropping them keeps the stores indistinguishable. -/
theorem lowEq_filter {loc int : Bool} {t : Int} {m m' : Store} (hn : m.NodupKeys) (hn' : m'.NodupKeys)
    (h : lowEq loc int t m m') (p : Rec → Bool) (hp : ∀ r, p r = false → r.md.permitted loc int = true) :
    lowEq loc int t (m.filter p) (m'.filter p) := by
  intro k
  rw [Store.get_filter hn, Store.get_filter hn', vis_bind_filter, vis_bind_filter]
  rcases lowEq_cases h k with e | ⟨r, r', e, e', hr, hr'⟩
  · rw [e]; exact lowEq_refl_at _
  · have hpr : p r = true := by cases hpr : p r <;> simp_all
    have hpr' : p r' = true := by cases hpr' : p r' <;> simp_all
    simp [e, e', hpr, hpr', hr, hr']

theorem selects_permitted (q : Query) (l i : Bool) (now : Int) (a : Rec) (h : q.selects l i now a = true) :
    a.md.permitted l i = true := by
  simp only [Query.selects, Bool.and_eq_true] at h; exact h.1.2

theorem purges_permitted (q : Query) (l i : Bool) (now : Int) (a : Rec) (h : q.purges l i now a = true) :
    a.md.permitted l i = true := by
  simp only [Query.purges, Bool.and_eq_true] at h; exact h.1.1.2

/-- One reference step keeps two indistinguishable stores indistinguishable (from the time of the step on). -/
theorem lowEq_step (cfg : Cfg) (o : Opts) (now t0 : Int) (m m' : Store) (hn : m.NodupKeys) (hn' : m'.NodupKeys)
    (h : lowEqFrom o.loc o.int t0 m m') (ht : t0 ≤ now) (op : Op) :
    lowEqFrom o.loc o.int now (KV.step cfg o m op now).1 (KV.step cfg o m' op now).1 ∧
    (KV.step cfg o m op now).1.NodupKeys ∧ (KV.step cfg o m' op now).1.NodupKeys := by
  let Good (x x' : Store × Out) : Prop := lowEqFrom o.loc o.int now x.1 x'.1 ∧ x.1.NodupKeys ∧ x'.1.NodupKeys
  have hfrom : lowEqFrom o.loc o.int now m m' := fun t htt => h t (by omega)
  have hg := kvget_lowEq (h now ht)
  -- an operation either leaves both stores alone or stores the same record in both
  have keep : ∀ a a', Good (m, a) (m', a') := fun _ _ => ⟨hfrom, hn, hn'⟩
  have wr : ∀ x a a', Good (KV.store cfg.backend m x, a) (KV.store cfg.backend m' x, a') := fun x _ _ =>
    ⟨fun t htt => lowEq_store _ _ (hfrom t htt), kvstore_nodup hn _, kvstore_nodup hn' _⟩
  have hmod : ∀ k f, Good (KV.modify cfg.backend o m k now f) (KV.modify cfg.backend o m' k now f) := by
    intro k f
    unfold KV.modify
    rw [hg k]
    cases KV.get o m' k now with
    | error e => exact keep _ _
    | ok r => exact wr _ _ _
  have hput : ∀ x isNew, Good (KV.put cfg.backend o m x now isNew) (KV.put cfg.backend o m' x now isNew) := by
    intro x isNew
    unfold KV.put
    rw [blocked_lowEq (h now ht) x.key]
    cases KV.blocked o m' x.key now with
    | true => exact keep _ _
    | false => exact wr _ _ _
  show Good _ _
  cases op with simp only [KV.step]
  | get k | exists_ k | maintain _ _ | flush | clear | evict _ => exact keep _ _
  | put x | putNew x => exact hput x _
  | delete k | setAbs k _ | setRel k _ | mkSecret k | mkCrown k => exact hmod k _
  | insert k a p =>
    unfold KV.insert
    rw [hg k]
    cases KV.get o m' k now with
    | error e => exact keep _ _
    | ok r =>
      simp only
      cases setField r.form r.fields a p with
      | none => exact keep _ _
      | some fs => exact wr _ _ _
  | putMany rs =>
    cases o.all
    · exact keep _ _
    cases cfg.backend.hasBatch
    · exact keep _ _
    · exact ⟨fun t htt => lowEq_storeAll _ _ _ _ _ _ (hfrom t htt), storeAll_nodup _ _ _ _ _ hn, storeAll_nodup _ _ _ _ _ hn'⟩
  | query q => cases q.check <;> exact keep _ _
  | purge q =>
    cases q.check
    · exact keep _ _
    cases cfg.backend.hasPurge
    · exact keep _ _
    · exact ⟨fun t htt => lowEq_filter hn hn' (hfrom t htt) _ fun r hr =>
        purges_permitted q _ _ now r (by simpa using hr), Store.nodup_filter hn _, Store.nodup_filter hn' _⟩

end PB.Db
