import PB.Model.Tasks
/- Projection lemmas of the record helpers `Task.prepped`, `Task.submitted`, `Task.removed`, one per field; those of
   `prepped` are read off its normal form `Task.prepped_eq`. -/
namespace PB.Tasks

theorem Task.prepped_eq (k : Task) (n : Nat) : k.prepped n =
    { k with executeAt := if k.maxDelay != 0 then n + k.maxDelay else k.executeAt,
             eaUser := if k.maxDelay != 0 then false else k.eaUser,
             overtime := if k.maxDelay != 0 then true else k.overtime,
             inS := if k.maxDelay != 0 then true else k.inS,
             qAt := if k.maxDelay != 0 then n else k.qAt,
             qMd := if k.maxDelay != 0 then k.maxDelay else k.qMd } := by
  unfold Task.prepped; split <;> rfl

@[simp] theorem Task.prepped_canceled (k : Task) (n : Nat) : (k.prepped n).canceled = k.canceled := by
  rw [Task.prepped_eq]
@[simp] theorem Task.prepped_executing (k : Task) (n : Nat) : (k.prepped n).executing = k.executing := by
  rw [Task.prepped_eq]
@[simp] theorem Task.prepped_overtime (k : Task) (n : Nat) : (k.prepped n).overtime = if k.maxDelay != 0 then true else k.overtime := by
  rw [Task.prepped_eq]
@[simp] theorem Task.prepped_executeAt (k : Task) (n : Nat) : (k.prepped n).executeAt = if k.maxDelay != 0 then n + k.maxDelay else k.executeAt := by
  rw [Task.prepped_eq]
@[simp] theorem Task.prepped_maxDelay (k : Task) (n : Nat) : (k.prepped n).maxDelay = k.maxDelay := by
  rw [Task.prepped_eq]
@[simp] theorem Task.prepped_inQ (k : Task) (n : Nat) : (k.prepped n).inQ = k.inQ := by
  rw [Task.prepped_eq]
@[simp] theorem Task.prepped_inP (k : Task) (n : Nat) : (k.prepped n).inP = k.inP := by
  rw [Task.prepped_eq]
@[simp] theorem Task.prepped_inS (k : Task) (n : Nat) : (k.prepped n).inS = if k.maxDelay != 0 then true else k.inS := by
  rw [Task.prepped_eq]
@[simp] theorem Task.prepped_gen (k : Task) (n : Nat) : (k.prepped n).gen = k.gen := by
  rw [Task.prepped_eq]
@[simp] theorem Task.prepped_ctxDone (k : Task) (n : Nat) : (k.prepped n).ctxDone = k.ctxDone := by
  rw [Task.prepped_eq]
@[simp] theorem Task.prepped_sp (k : Task) (n : Nat) : (k.prepped n).sp = k.sp := by
  rw [Task.prepped_eq]
@[simp] theorem Task.prepped_fn (k : Task) (n : Nat) : (k.prepped n).fn = k.fn := by
  rw [Task.prepped_eq]
@[simp] theorem Task.prepped_dn (k : Task) (n : Nat) : (k.prepped n).dn = k.dn := by
  rw [Task.prepped_eq]
@[simp] theorem Task.prepped_subs (k : Task) (n : Nat) : (k.prepped n).subs = k.subs := by
  rw [Task.prepped_eq]
@[simp] theorem Task.prepped_starts (k : Task) (n : Nat) : (k.prepped n).starts = k.starts := by
  rw [Task.prepped_eq]
@[simp] theorem Task.prepped_userSub (k : Task) (n : Nat) : (k.prepped n).userSub = k.userSub := by
  rw [Task.prepped_eq]
@[simp] theorem Task.prepped_owed (k : Task) (n : Nat) : (k.prepped n).owed = k.owed := by
  rw [Task.prepped_eq]
@[simp] theorem Task.prepped_dropped (k : Task) (n : Nat) : (k.prepped n).dropped = k.dropped := by
  rw [Task.prepped_eq]
@[simp] theorem Task.prepped_prom (k : Task) (n : Nat) : (k.prepped n).prom = k.prom := by
  rw [Task.prepped_eq]
@[simp] theorem Task.prepped_promAt (k : Task) (n : Nat) : (k.prepped n).promAt = k.promAt := by
  rw [Task.prepped_eq]
@[simp] theorem Task.prepped_eaUser (k : Task) (n : Nat) : (k.prepped n).eaUser = if k.maxDelay != 0 then false else k.eaUser := by
  rw [Task.prepped_eq]
@[simp] theorem Task.prepped_schedHist (k : Task) (n : Nat) : (k.prepped n).schedHist = k.schedHist := by
  rw [Task.prepped_eq]
@[simp] theorem Task.prepped_byQh (k : Task) (n : Nat) : (k.prepped n).byQh = k.byQh := by
  rw [Task.prepped_eq]
@[simp] theorem Task.prepped_tmo (k : Task) (n : Nat) : (k.prepped n).tmo = k.tmo := by
  rw [Task.prepped_eq]
@[simp] theorem Task.prepped_qAt (k : Task) (n : Nat) : (k.prepped n).qAt = if k.maxDelay != 0 then n else k.qAt := by
  rw [Task.prepped_eq]
@[simp] theorem Task.prepped_qMd (k : Task) (n : Nat) : (k.prepped n).qMd = if k.maxDelay != 0 then k.maxDelay else k.qMd := by
  rw [Task.prepped_eq]
@[simp] theorem Task.submitted_canceled (k : Task) : k.submitted.canceled = (k.canceled) := rfl
@[simp] theorem Task.submitted_executing (k : Task) : k.submitted.executing = (k.executing) := rfl
@[simp] theorem Task.submitted_overtime (k : Task) : k.submitted.overtime = (k.overtime) := rfl
@[simp] theorem Task.submitted_executeAt (k : Task) : k.submitted.executeAt = (k.executeAt) := rfl
@[simp] theorem Task.submitted_maxDelay (k : Task) : k.submitted.maxDelay = (k.maxDelay) := rfl
@[simp] theorem Task.submitted_inQ (k : Task) : k.submitted.inQ = (k.inQ) := rfl
@[simp] theorem Task.submitted_inP (k : Task) : k.submitted.inP = (k.inP) := rfl
@[simp] theorem Task.submitted_inS (k : Task) : k.submitted.inS = (k.inS) := rfl
@[simp] theorem Task.submitted_gen (k : Task) : k.submitted.gen = (k.gen) := rfl
@[simp] theorem Task.submitted_ctxDone (k : Task) : k.submitted.ctxDone = (k.ctxDone) := rfl
@[simp] theorem Task.submitted_sp (k : Task) : k.submitted.sp = (k.sp) := rfl
@[simp] theorem Task.submitted_fn (k : Task) : k.submitted.fn = (k.fn) := rfl
@[simp] theorem Task.submitted_dn (k : Task) : k.submitted.dn = (k.dn) := rfl
@[simp] theorem Task.submitted_subs (k : Task) : k.submitted.subs = (k.subs + 1) := rfl
@[simp] theorem Task.submitted_starts (k : Task) : k.submitted.starts = (k.starts) := rfl
@[simp] theorem Task.submitted_userSub (k : Task) : k.submitted.userSub = (true) := rfl
@[simp] theorem Task.submitted_owed (k : Task) : k.submitted.owed = (true) := rfl
@[simp] theorem Task.submitted_dropped (k : Task) : k.submitted.dropped = (false) := rfl
@[simp] theorem Task.submitted_prom (k : Task) : k.submitted.prom = (k.prom) := rfl
@[simp] theorem Task.submitted_promAt (k : Task) : k.submitted.promAt = (k.promAt) := rfl
@[simp] theorem Task.submitted_eaUser (k : Task) : k.submitted.eaUser = (k.eaUser) := rfl
@[simp] theorem Task.submitted_schedHist (k : Task) : k.submitted.schedHist = (k.schedHist) := rfl
@[simp] theorem Task.submitted_byQh (k : Task) : k.submitted.byQh = (k.byQh) := rfl
@[simp] theorem Task.submitted_tmo (k : Task) : k.submitted.tmo = (k.tmo) := rfl
@[simp] theorem Task.submitted_qAt (k : Task) : k.submitted.qAt = (k.qAt) := rfl
@[simp] theorem Task.submitted_qMd (k : Task) : k.submitted.qMd = (k.qMd) := rfl
@[simp] theorem Task.removed_canceled (k : Task) : k.removed.canceled = (k.canceled) := rfl
@[simp] theorem Task.removed_executing (k : Task) : k.removed.executing = (k.executing) := rfl
@[simp] theorem Task.removed_overtime (k : Task) : k.removed.overtime = (if k.inS then false else k.overtime) := rfl
@[simp] theorem Task.removed_executeAt (k : Task) : k.removed.executeAt = (k.executeAt) := rfl
@[simp] theorem Task.removed_maxDelay (k : Task) : k.removed.maxDelay = (k.maxDelay) := rfl
@[simp] theorem Task.removed_inQ (k : Task) : k.removed.inQ = (false) := rfl
@[simp] theorem Task.removed_inP (k : Task) : k.removed.inP = (false) := rfl
@[simp] theorem Task.removed_inS (k : Task) : k.removed.inS = (false) := rfl
@[simp] theorem Task.removed_gen (k : Task) : k.removed.gen = (k.gen) := rfl
@[simp] theorem Task.removed_ctxDone (k : Task) : k.removed.ctxDone = (k.ctxDone) := rfl
@[simp] theorem Task.removed_sp (k : Task) : k.removed.sp = (k.sp) := rfl
@[simp] theorem Task.removed_fn (k : Task) : k.removed.fn = (k.fn) := rfl
@[simp] theorem Task.removed_dn (k : Task) : k.removed.dn = (k.dn) := rfl
@[simp] theorem Task.removed_subs (k : Task) : k.removed.subs = (k.subs) := rfl
@[simp] theorem Task.removed_starts (k : Task) : k.removed.starts = (k.starts) := rfl
@[simp] theorem Task.removed_userSub (k : Task) : k.removed.userSub = (k.userSub) := rfl
@[simp] theorem Task.removed_owed (k : Task) : k.removed.owed = (k.owed) := rfl
@[simp] theorem Task.removed_dropped (k : Task) : k.removed.dropped = (k.dropped) := rfl
@[simp] theorem Task.removed_prom (k : Task) : k.removed.prom = (k.prom) := rfl
@[simp] theorem Task.removed_promAt (k : Task) : k.removed.promAt = (k.promAt) := rfl
@[simp] theorem Task.removed_eaUser (k : Task) : k.removed.eaUser = (k.eaUser) := rfl
@[simp] theorem Task.removed_schedHist (k : Task) : k.removed.schedHist = (k.schedHist) := rfl
@[simp] theorem Task.removed_byQh (k : Task) : k.removed.byQh = (k.byQh) := rfl
@[simp] theorem Task.removed_tmo (k : Task) : k.removed.tmo = (k.tmo) := rfl
@[simp] theorem Task.removed_qAt (k : Task) : k.removed.qAt = (k.qAt) := rfl
@[simp] theorem Task.removed_qMd (k : Task) : k.removed.qMd = (k.qMd) := rfl

end PB.Tasks
