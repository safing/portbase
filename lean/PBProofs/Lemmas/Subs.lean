import PB.Model.Subs
/- Sequential subscription / hook model (C14): the vocabulary of C14's statements that is not in the model (`applyRes`,
   `thread`, `preGetRes`, `accepted`, `CallFrom`) and the lemmas its proofs share. -/
namespace PB.Subs

/-! ## storage maps -/

theorem sGet_sErase_self (s : Store) (k : String) : sGet (sErase s k) k = none := by
  simp [sGet, sErase]

theorem sGet_sPut_self (s : Store) (k : String) (r : Rec) : sGet (sPut s k r) k = some r := by
  have h := sGet_sErase_self s k
  simp only [sGet, Option.map_eq_none_iff] at h
  simp [sGet, sPut, List.find?_append, h]

/-! ## the hook loop

The inductions below follow the five branches of `runRec`: no hook left, a veto, pass, replace (these two go on with
the rest of the list and are treated alike), and a hook that is skipped. -/

/-- What the next hook gets after a hook returned `res` on `r`. -/
def applyRes (r : Rec) : HookRes → Rec
  | .replace r' => r'
  | _ => r

/-- Thread a record through the results of a list of calls. -/
def thread (r : Rec) (cs : List Call) : Rec := cs.foldl (fun acc c => applyRes acc c.res) r

theorem runRec_nil (ph : Phase) (uses : Hook → Bool) (f : Hook → Rec → HookRes) (r : Rec) (same : Bool) :
    runRec ph uses f [] r same = ([], .ok (r, same)) := rfl

theorem runRec_sound (ph : Phase) (uses : Hook → Bool) (f : Hook → Rec → HookRes) (hs : List Hook) (r : Rec)
    (same : Bool) : ∀ c ∈ (runRec ph uses f hs r same).1,
      ∃ h ∈ hs, ∃ a : Rec, c = ⟨h.id, ph, a.key, some a, f h a⟩ ∧ uses h = true ∧ h.q.matches a = true := by
  fun_induction runRec ph uses f hs r same with
  | case1 => simp
  | case2 h _ r _ hm _ hf =>
    simp only [Bool.and_eq_true] at hm
    exact List.forall_mem_singleton.2 ⟨h, by simp, r, by rw [hf], hm⟩
  | case3 h _ r _ hm hf _ _ e ih | case4 h _ r _ hm _ hf _ _ e ih =>
    simp only [Bool.and_eq_true] at hm
    rw [e] at ih
    exact List.forall_mem_cons.2 ⟨⟨h, by simp, r, by rw [hf], hm⟩,
      fun c hc => (ih c hc).imp fun _ ⟨hm', rest⟩ => ⟨.tail _ hm', rest⟩⟩
  | case5 _ _ _ _ _ ih => exact fun c hc => (ih c hc).imp fun _ ⟨hm', rest⟩ => ⟨.tail _ hm', rest⟩

theorem runRec_append (ph : Phase) (uses : Hook → Bool) (f : Hook → Rec → HookRes) (post pre : List Hook) (r : Rec)
    (same : Bool) :
    runRec ph uses f (pre ++ post) r same =
      match runRec ph uses f pre r same with
      | (cs1, .error c) => (cs1, .error c)
      | (cs1, .ok (r1, s1)) => (cs1 ++ (runRec ph uses f post r1 s1).1, (runRec ph uses f post r1 s1).2) := by
  fun_induction runRec ph uses f pre r same with
  | case1 => simp
  | case2 => simp [runRec, *]
  | case3 _ _ _ _ _ _ _ res e ih | case4 _ _ _ _ _ _ _ _ res e ih =>
    simp only [List.cons_append, runRec, *]
    rcases res with _ | ⟨_, _⟩ <;> rfl
  | case5 => simp [runRec, *]

theorem runRec_result (ph : Phase) (uses : Hook → Bool) (f : Hook → Rec → HookRes) (hs : List Hook) (r : Rec)
    (same : Bool) (r' : Rec) (s' : Bool) :
    (runRec ph uses f hs r same).2 = .ok (r', s') → r' = thread r (runRec ph uses f hs r same).1 := by
  fun_induction runRec ph uses f hs r same with
  | case1 => rintro ⟨⟩; rfl
  | case2 => nofun
  | case3 _ _ _ _ _ _ _ _ e ih | case4 _ _ _ _ _ _ _ _ _ e ih => rw [e] at ih; exact ih
  | case5 _ _ _ _ _ ih => exact ih

/-! ## pre-get hooks -/

/-- What a pre-get call records. -/
def preGetRes (h : Hook) (key : String) : HookRes :=
  match h.preGet key with
  | some c => .veto c
  | none => .pass

theorem runPreGet_sound (hs : List Hook) (key : String) : ∀ c ∈ (runPreGet hs key).1,
    ∃ h ∈ hs, c = ⟨h.id, .preGet, key, none, preGetRes h key⟩ ∧ h.usesPreGet = true ∧ h.q.keyOk key = true := by
  fun_induction runPreGet hs key with
  | case1 => simp
  | case2 h _ _ hm _ hf =>
    simp only [Bool.and_eq_true] at hm
    exact List.forall_mem_singleton.2 ⟨h, by simp, by rw [preGetRes, hf], hm⟩
  | case3 h _ _ hm hf _ _ e ih =>
    simp only [Bool.and_eq_true] at hm
    rw [e] at ih
    exact List.forall_mem_cons.2 ⟨⟨h, by simp, by rw [preGetRes, hf], hm⟩,
      fun c hc => (ih c hc).imp fun _ ⟨hm', rest⟩ => ⟨.tail _ hm', rest⟩⟩
  | case4 _ _ _ _ ih => exact fun c hc => (ih c hc).imp fun _ ⟨hm', rest⟩ => ⟨.tail _ hm', rest⟩

theorem runPreGet_append (post pre : List Hook) (key : String) :
    runPreGet (pre ++ post) key =
      match runPreGet pre key with
      | (cs1, some c) => (cs1, some c)
      | (cs1, none) => (cs1 ++ (runPreGet post key).1, (runPreGet post key).2) := by
  fun_induction runPreGet pre key with
  | case1 => simp
  | case2 => simp [runPreGet, *]
  | case3 _ _ _ _ _ _ res e ih =>
    simp only [List.cons_append, runPreGet, *]
    cases res <;> rfl
  | case4 => simp [runPreGet, *]

/-! ## delivery bookkeeping -/

/-- The records that were put into the feed (accepted send attempts), in order. -/
def accepted (s : Sub) : List Rec := (s.attempts.filter (·.2)).map (·.1)

/-- A subscription that was listed from write number `since` until write number `u` has been offered exactly
    the writes in between that match its query and that it may see, in order; its buffer is a suffix of the
    accepted ones (the rest was read by the subscriber). -/
def SubOk (writes : List Rec) (s : Sub) (u : Nat) : Prop :=
  s.since ≤ u ∧ u ≤ writes.length ∧
  s.attempts.map (·.1) = ((writes.take u).drop s.since).filter s.visible ∧
  ∃ consumed, consumed ++ s.buf = accepted s

def Inv (st : St) : Prop :=
  (∀ s ∈ st.subs, SubOk st.writes s st.writes.length) ∧ ∀ p ∈ st.closed, SubOk st.writes p.1 p.2

theorem offer_frame (s : Sub) (r : Rec) : ∃ b a, s.offer r = { s with buf := b, attempts := a } := by
  unfold Sub.offer
  split
  split
  all_goals exact ⟨_, _, rfl⟩

theorem offer_visible (s : Sub) (r x : Rec) : (s.offer r).visible x = s.visible x := by
  obtain ⟨_, _, h⟩ := offer_frame s r
  rw [h]; rfl

theorem offer_since (s : Sub) (r : Rec) : (s.offer r).since = s.since := by
  obtain ⟨_, _, h⟩ := offer_frame s r
  rw [h]

theorem offer_id (s : Sub) (r : Rec) : (s.offer r).id = s.id := by
  obtain ⟨_, _, h⟩ := offer_frame s r
  rw [h]

theorem SubOk_mono {ws : List Rec} {s : Sub} {u : Nat} (rs : List Rec) (h : SubOk ws s u) : SubOk (ws ++ rs) s u := by
  obtain ⟨h1, h2, h3, h4⟩ := h
  refine ⟨h1, by simp; omega, ?_, h4⟩
  rw [List.take_append_of_le_length h2]
  exact h3

theorem SubOk_offer {ws : List Rec} {s : Sub} (r : Rec) (h : SubOk ws s ws.length) :
    SubOk (ws ++ [r]) (s.offer r) (ws ++ [r]).length := by
  obtain ⟨h1, _, h3, consumed, h4⟩ := h
  rw [List.take_length] at h3
  have hv : (s.offer r).visible = s.visible := funext (offer_visible s r)
  refine ⟨by rw [offer_since]; simp; omega, Nat.le_refl _, ?_, consumed, ?_⟩
  · rw [List.take_length, offer_since, hv, List.drop_append_of_le_length h1, List.filter_append, ← h3]
    unfold Sub.offer
    split
    split
    all_goals simp [*]
  · unfold accepted at h4 ⊢
    unfold Sub.offer
    split
    split
    all_goals simp [← h4]

theorem SubOk_clear {ws : List Rec} {s : Sub} {u : Nat} (h : SubOk ws s u) : SubOk ws { s with buf := [] } u :=
  ⟨h.1, h.2.1, h.2.2.1, accepted s, List.append_nil _⟩

/-- The loop of `notifySubscribers` visits every subscription: none of the three paths of an iteration leaves the
    loop (regenerated from the source), so the loop is one independent `offer` per list entry. -/
theorem notifyLoop_eq_map (r : Rec) (l : List Sub) : notifyLoop r l = l.map (·.offer r) := by
  induction l with
  | nil => rfl
  | cons s ss ih =>
    simp only [notifyLoop, PB.Gen.Subs.notifySentExits, PB.Gen.Subs.notifyFullExits, PB.Gen.Subs.notifySkipExits,
      Bool.false_eq_true, if_false, ih, List.map_cons, Sub.offer]
    by_cases hv : s.visible r = true
    · by_cases hroom : s.buf.length < PB.Gen.Subs.feedCap <;> simp [hv, hroom]
    · simp [hv]

theorem notify_subs (st : St) (r : Rec) : (notify st r).subs = st.subs.map (·.offer r) :=
  notifyLoop_eq_map r st.subs

theorem Inv_notify {st : St} (r : Rec) (h : Inv st) : Inv (notify st r) := by
  refine ⟨fun s hs => ?_, fun p hp => SubOk_mono [r] (h.2 p hp)⟩
  rw [notify_subs] at hs
  obtain ⟨s0, hs0, rfl⟩ := List.mem_map.1 hs
  exact SubOk_offer r (h.1 s0 hs0)

theorem Inv_congr {st st' : St} (h1 : st'.subs = st.subs) (h2 : st'.closed = st.closed) (h3 : st'.writes = st.writes)
    (h : Inv st) : Inv st' := by
  unfold Inv at *
  rw [h1, h2, h3]
  exact h

theorem Inv_map {st : St} (g : Sub → Sub) (hg : ∀ {s u}, SubOk st.writes s u → SubOk st.writes (g s) u) (h : Inv st) :
    Inv { st with subs := st.subs.map g, closed := st.closed.map fun p => (g p.1, p.2) } := by
  constructor
  · intro s hs
    obtain ⟨s0, hs0, rfl⟩ := List.mem_map.1 hs
    exact hg (h.1 s0 hs0)
  · intro p hp
    obtain ⟨p0, hp0, rfl⟩ := List.mem_map.1 hp
    exact hg (h.2 p0 hp0)

theorem removeSub_spec (id : Nat) (l : List Sub) (s : Sub) (rest : List Sub) :
    removeSub id l = some (s, rest) →
      ∃ pre post, l = pre ++ s :: post ∧ rest = pre ++ post ∧ s.id = id ∧ ∀ x ∈ pre, x.id ≠ id := by
  fun_induction removeSub id l generalizing rest with
  | case1 => nofun
  | case2 x xs hx => rintro ⟨⟩; exact ⟨[], xs, rfl, rfl, by simpa using hx, by simp⟩
  | case3 x xs hx y rest' e ih =>
    rintro ⟨⟩
    obtain ⟨pre, post, rfl, rfl, h1, h2⟩ := ih rest' e
    exact ⟨x :: pre, post, rfl, rfl, h1, List.forall_mem_cons.2 ⟨by simpa using hx, h2⟩⟩
  | case4 => nofun

theorem Inv_init (cfg : Cfg) : Inv (St.init cfg) := ⟨List.forall_mem_nil _, List.forall_mem_nil _⟩

theorem Inv_initReg : Inv St.initReg := ⟨List.forall_mem_nil _, List.forall_mem_nil _⟩

theorem Inv.exact {st : St} (h : Inv st) :
    (∀ s ∈ st.subs, s.attempts.map (·.1) = (st.writes.drop s.since).filter s.visible) ∧
    (∀ p ∈ st.closed, p.1.attempts.map (·.1) = ((st.writes.take p.2).drop p.1.since).filter p.1.visible) := by
  refine ⟨fun s hs => ?_, fun p hp => (h.2 p hp).2.2.1⟩
  have := (h.1 s hs).2.2.1
  rwa [List.take_length] at this

/-! ## Controller.Put -/

theorem ctrlPut_spec (st : St) (r : Rec) :
    (ctrlPut st r).2.calls = (runPrePut st.hooks r).1 ∧
    ((∃ e, (ctrlPut st r).2.res = .error e ∧ (ctrlPut st r).1 = st) ∨
     ∃ r' same store' w, (runPrePut st.hooks r).2 = .ok (r', same) ∧
       storeWrite st.cfg st.provs st.store r' = .ok (store', w) ∧
       (ctrlPut st r).2.res = .ok none ∧ (ctrlPut st r).1 = notify { st with store := store' } w) := by
  unfold ctrlPut
  split
  · next h => rw [h]; exact ⟨rfl, .inl ⟨_, rfl, rfl⟩⟩
  · next h =>
    rw [h]
    split
    · exact ⟨rfl, .inl ⟨_, rfl, rfl⟩⟩
    · next hw => exact ⟨rfl, .inr ⟨_, _, _, _, rfl, hw, rfl, rfl⟩⟩

theorem putForm_md (cfg : Cfg) (r : Rec) : (cfg.putForm r).md = r.md := by
  unfold Cfg.putForm
  split <;> rfl

theorem storeWrite_ok {cfg : Cfg} {provs : List Prov} {store store' : Store} {r w : Rec}
    (h : storeWrite cfg provs store r = .ok (store', w)) :
    (w = r ∨ w = cfg.putForm r) ∧
    if (!cfg.shadow && w.md.deleted) = true then sGet store' w.key = none else sGet store' w.key = some w := by
  unfold storeWrite at h
  split at h <;> rename_i hd
  · split at h
    · nomatch h
    · obtain ⟨rfl, rfl⟩ := h
      exact ⟨.inl rfl, by rw [if_pos hd]; exact sGet_sErase_self _ _⟩
  · split at h
    · nomatch h
    · obtain ⟨rfl, rfl⟩ := h
      exact ⟨.inr rfl, by rw [putForm_md, if_neg hd]; exact sGet_sPut_self _ _ _⟩

/-- What the read and write paths of an interface can do to the state. -/
inductive Wrote (st : St) : St → Prop
  | refl : Wrote st st
  | storage {st' : St} {s c : Store} : Wrote st st' → Wrote st { st' with store := s, wcache := c }
  | notify {st' : St} (w : Rec) : Wrote st st' → Wrote st (notify st' w)

theorem Wrote.trans {a b c : St} (h1 : Wrote a b) (h2 : Wrote b c) : Wrote a c := by
  induction h2 with
  | refl => exact h1
  | storage _ ih => exact ih.storage
  | notify w _ ih => exact ih.notify w

theorem Wrote.frame {st st' : St} (h : Wrote st st') :
    st'.hooks = st.hooks ∧ st'.provs = st.provs ∧ st'.injected = st.injected ∧ st'.closed = st.closed := by
  induction h with
  | refl => exact ⟨rfl, rfl, rfl, rfl⟩
  | storage _ ih => exact ih
  | notify _ _ ih => exact ih

theorem Wrote.inv {st st' : St} (h : Wrote st st') (hi : Inv st) : Inv st' := by
  induction h with
  | refl => exact hi
  | storage _ ih => exact Inv_congr rfl rfl rfl ih
  | notify w _ ih => exact Inv_notify w ih

theorem ctrlPut_wrote (st : St) (r : Rec) : Wrote st (ctrlPut st r).1 := by
  rcases (ctrlPut_spec st r).2 with ⟨_, _, h⟩ | ⟨_, _, _, w, _, _, _, h⟩ <;> rw [h]
  · exact .refl
  · exact .notify w (.storage .refl)

theorem putPrepared_wrote (st : St) (o : Opts) (r2 : Rec) : Wrote st (putPrepared st o r2).1 := by
  unfold putPrepared
  split
  · split
    · exact .storage .refl
    · split
      · exact (Wrote.storage .refl).trans ((ctrlPut_wrote _ _).trans (ctrlPut_wrote _ _))
      · exact ctrlPut_wrote _ _
  · exact ctrlPut_wrote _ _

theorem step_wrote (st : St) (op : Op) :
    match op with
    | .put .. | .modify .. | .get .. | .exists_ .. | .push _ | .flush | .putMany .. => Wrote st (step st op).1
    | _ => True := by
  cases op with
  | put o r isNew =>
    simp only [step, ifacePut]
    split
    · exact .refl
    · exact putPrepared_wrote _ _ _
  | modify o key m =>
    simp only [step, ifaceModify]
    split
    · exact .refl
    · split
      · exact (Wrote.storage .refl).trans (ctrlPut_wrote _ _)
      · exact ctrlPut_wrote _ _
  | get | exists_ => exact .refl
  | push r => exact .notify r .refl
  | flush => exact .storage .refl
  | putMany =>
    simp only [step]
    split
    · exact .refl
    · exact .storage .refl
  | _ => trivial

theorem Inv_step {st : St} (op : Op) (h : Inv st) : Inv (step st op).1 := by
  have hw := step_wrote st op
  cases op with
  | subscribe id o q =>
    simp only [step]
    split
    · exact h
    · exact ⟨List.forall_mem_append.2 ⟨h.1, List.forall_mem_singleton.2 ⟨Nat.le_refl _, Nat.le_refl _, by simp, [], rfl⟩⟩, h.2⟩
  | cancel id =>
    simp only [step]
    split
    · exact h
    · next s rest hr =>
      obtain ⟨pre, post, hl, rfl, _⟩ := removeSub_spec id st.subs s rest hr
      have ha : ∀ x ∈ pre ++ s :: post, SubOk st.writes x st.writes.length := hl ▸ h.1
      exact ⟨fun x hx => ha x (((List.sublist_cons_self s post).append_left pre).subset hx),
        List.forall_mem_append.2 ⟨h.2, List.forall_mem_singleton.2 (ha s (by simp))⟩⟩
  | regHook hk =>
    simp only [step]
    split
    · exact h
    · exact Inv_congr rfl rfl rfl h
  | cancelHook id => exact Inv_congr rfl rfl rfl h
  | drain => exact Inv_map _ SubOk_clear h
  | drainOne id =>
    refine Inv_map _ (fun hs => ?_) h
    split
    · exact SubOk_clear hs
    · exact hs
  | put | modify | get | exists_ | push | flush | putMany => exact Wrote.inv hw h

theorem run_induct (P : St → Prop) (hstep : ∀ st op, P st → P (step st op).1) (ops : List Op) (st : St) :
    P st → P (run st ops).1 := by
  induction ops generalizing st with
  | nil => exact id
  | cons op ops ih => exact fun h => ih _ (hstep st op h)

/-! ## calls of whole operations come from registered hooks -/

/-- A call that can only come from a hook in `hs`: same identity, the phase is declared, the query matches the argument. -/
def CallFrom (hs : List Hook) (c : Call) : Prop :=
  ∃ h ∈ hs, c.hook = h.id ∧
    match c.phase with
    | .preGet => h.usesPreGet = true ∧ h.q.keyOk c.key = true ∧ c.res = preGetRes h c.key
    | .postGet => h.usesPostGet = true ∧ ∃ a, c.arg = some a ∧ h.q.matches a = true ∧ c.res = h.postGet a
    | .prePut => h.usesPrePut = true ∧ ∃ a, c.arg = some a ∧ h.q.matches a = true ∧ c.res = h.prePut a

theorem runRec_from (hs : List Hook) (r : Rec) :
    (∀ c ∈ (runPrePut hs r).1, CallFrom hs c) ∧ ∀ c ∈ (runPostGet hs r).1, CallFrom hs c := by
  constructor <;>
  · intro c hc
    obtain ⟨h, hm, a, rfl, e2, e3⟩ := runRec_sound _ _ _ hs r true c hc
    exact ⟨h, hm, rfl, e2, a, rfl, e3, rfl⟩

theorem runPreGet_from (hs : List Hook) (key : String) : ∀ c ∈ (runPreGet hs key).1, CallFrom hs c := by
  intro c hc
  obtain ⟨h, hm, rfl, e2, e3⟩ := runPreGet_sound hs key c hc
  exact ⟨h, hm, rfl, e2, e3, rfl⟩

theorem ctrlPut_from (st : St) (r : Rec) : ∀ c ∈ (ctrlPut st r).2.calls, CallFrom st.hooks c :=
  (ctrlPut_spec st r).1 ▸ (runRec_from st.hooks r).1

theorem ctrlGet_from (st : St) (key : String) : ∀ c ∈ (ctrlGet st key).1, CallFrom st.hooks c := by
  have h1 := runPreGet_from st.hooks key
  unfold ctrlGet
  split <;> rename_i e <;> rw [e] at h1
  · exact h1
  · split
    · exact h1
    · next r _ =>
      have h2 := (runRec_from st.hooks r).2
      split <;> rename_i e2 <;> rw [e2] at h2
      · exact List.forall_mem_append.2 ⟨h1, h2⟩
      · split <;> exact List.forall_mem_append.2 ⟨h1, h2⟩

theorem ifaceGetRec_from (st : St) (o : Opts) (key : String) : ∀ c ∈ (ifaceGetRec st o key).1, CallFrom st.hooks c := by
  have h := ctrlGet_from st key
  unfold ifaceGetRec
  split <;> rename_i e <;> rw [e] at h
  · exact h
  · split <;> exact h

theorem putPrepared_from (st : St) (o : Opts) (r2 : Rec) : ∀ c ∈ (putPrepared st o r2).2.calls, CallFrom st.hooks c := by
  unfold putPrepared
  split
  · split
    · exact List.forall_mem_nil _
    · split
      · next old _ =>
        -- the evicted write is put first; the hook list is the same for the second put
        have h2 := ctrlPut_from (ctrlPut { st with wcache := sErase st.wcache r2.key } old).1 r2
        rw [(ctrlPut_wrote _ _).frame.1] at h2
        exact List.forall_mem_append.2 ⟨ctrlPut_from { st with wcache := _ } old, h2⟩
      · exact ctrlPut_from st r2
  · exact ctrlPut_from st r2

theorem step_calls_from (st : St) (op : Op) : ∀ c ∈ (step st op).2.calls, CallFrom st.hooks c := by
  cases op with
  | put o r isNew =>
    simp only [step, ifacePut]
    split
    · exact List.forall_mem_nil _
    · exact putPrepared_from st o _
  | modify o key m =>
    have h := ifaceGetRec_from st o key
    simp only [step, ifaceModify]
    split <;> rename_i e <;> rw [e] at h
    · exact h
    · refine List.forall_mem_append.2 ⟨h, ?_⟩
      split
      · exact ctrlPut_from { st with store := _ } _
      · exact ctrlPut_from st _
  | get o key =>
    have h := ifaceGetRec_from st o key
    simp only [step, ifaceGet]
    generalize ifaceGetRec st o key = p at h ⊢
    obtain ⟨cs, _ | _⟩ := p <;> exact h
  | exists_ o key =>
    have h := ifaceGetRec_from st o key
    simp only [step, ifaceExists]
    generalize ifaceGetRec st o key = p at h ⊢
    obtain ⟨cs, e | _⟩ := p
    · cases e <;> exact h
    · exact h
  | subscribe | cancel | regHook | putMany => simp only [step]; split <;> exact List.forall_mem_nil _
  | _ => exact List.forall_mem_nil _

/-! ## hook registration -/

theorem removeHook_eq (id : Nat) (hs : List Hook) : removeHook id hs = hs.eraseP (·.id == id) := by
  induction hs with
  | nil => rfl
  | cons h hs ih => simp only [removeHook, List.eraseP_cons, ih, cond_eq_ite]

theorem removeHook_sublist (id : Nat) (hs : List Hook) : (removeHook id hs).Sublist hs :=
  removeHook_eq id hs ▸ List.eraseP_sublist

/-- Only `RegisterHook` and `RegisteredHook.Cancel` change the hook list; no database operation touches the registry. -/
theorem step_frame (st : St) (op : Op) :
    (step st op).1.provs = st.provs ∧ (step st op).1.injected = st.injected ∧
    (step st op).1.hooks =
      match op with
      | .regHook h => if h.q.bad then st.hooks else st.hooks ++ [h]
      | .cancelHook id => removeHook id st.hooks
      | _ => st.hooks := by
  have hw := step_wrote st op
  cases op with
  | subscribe | cancel | regHook => simp only [step]; split <;> exact ⟨rfl, rfl, rfl⟩
  | cancelHook | drain | drainOne => exact ⟨rfl, rfl, rfl⟩
  | put | modify | get | exists_ | push | flush | putMany =>
    exact ⟨(Wrote.frame hw).2.1, (Wrote.frame hw).2.2.1, (Wrote.frame hw).1⟩

theorem step_hooks_mem (st : St) (op : Op) (h : Hook) (hm : h ∈ (step st op).1.hooks) :
    h ∈ st.hooks ∨ op = .regHook h := by
  rw [(step_frame st op).2.2] at hm
  split at hm
  · split at hm
    · exact .inl hm
    · rcases List.mem_append.1 hm with hm | hm
      · exact .inl hm
      · exact .inr (by rw [List.mem_singleton.1 hm])
  · exact .inl ((removeHook_sublist _ _).subset hm)
  · exact .inl hm

theorem dstep_cases (st : St) (op : Op) : dstep st op = step st op ∨ (dstep st op).1 = st := by
  cases op with
  | push | put | modify | putMany =>
    simp only [dstep]
    split
    · exact .inr rfl
    · exact .inl rfl
  | _ => exact .inl rfl

theorem Inv_dstep {st : St} (op : Op) (h : Inv st) : Inv (dstep st op).1 := by
  rcases dstep_cases st op with e | e <;> rw [e]
  · exact Inv_step op h
  · exact h

theorem drun_induct (P : St → Prop) (hstep : ∀ st op, P st → P (dstep st op).1) (ops : List Op) (st : St) :
    P st → P (drun st ops).1 := by
  induction ops generalizing st with
  | nil => exact id
  | cons op ops ih => exact fun h => ih _ (hstep st op h)

/-! ## The runtime registry in front of its database -/

/-- Once there is a controller the database operations on the registry are the controller's. -/
theorem rstep_db_injected {st : St} (op : Op) (h : st.injected = true) : rstep st (.db op) = step st op := by
  simp [rstep, h]

/-- Before that they all fail and change nothing. -/
theorem rstep_db_not_injected {st : St} (op : Op) (h : st.injected = false) :
    (rstep st (.db op)).1 = st ∧ ∃ e, (rstep st (.db op)).2.res = .error e ∧ (rstep st (.db op)).2.calls = [] := by
  simp only [rstep, h]
  cases op <;> exact ⟨rfl, _, rfl, rfl⟩

theorem rstep_cases (st : St) (op : ROp) :
    (rstep st op).1 = st ∨ (st.injected = true ∧ ∃ op', (rstep st op).1 = (step st op').1) ∨
    (∃ p, (rstep st op).1 = { st with provs := st.provs ++ [p] }) ∨ (rstep st op).1 = { st with injected := true } := by
  cases op with
  | db op =>
    cases hi : st.injected
    · exact .inl (rstep_db_not_injected op hi).1
    · exact .inr (.inl ⟨rfl, op, by rw [rstep_db_injected op hi]⟩)
  | register id key =>
    simp only [rstep]
    split
    · exact .inl rfl
    · exact .inr (.inr (.inl ⟨_, rfl⟩))
  | inject =>
    simp only [rstep]
    split
    · exact .inl rfl
    · exact .inr (.inr (.inr rfl))
  | push id r =>
    simp only [rstep, pushTarget, PB.Gen.Subs.pushReadsControllerAtPush, if_true]
    split
    · exact .inl rfl
    · split
      · next hi => exact .inr (.inl ⟨hi, .push r, rfl⟩)
      · exact .inl rfl

theorem Inv_rstep {st : St} (op : ROp) (h : Inv st) : Inv (rstep st op).1 := by
  rcases rstep_cases st op with e | ⟨_, op', e⟩ | ⟨_, e⟩ | e <;> rw [e]
  · exact h
  · exact Inv_step op' h
  · exact Inv_congr rfl rfl rfl h
  · exact Inv_congr rfl rfl rfl h

theorem rrun_induct (P : St → Prop) (hstep : ∀ st op, P st → P (rstep st op).1) (ops : List ROp) (st : St) :
    P st → P (rrun st ops).1 := by
  induction ops generalizing st with
  | nil => exact id
  | cons op ops ih => exact fun h => ih _ (hstep st op h)

/-- Injection is for good: nothing takes the controller away from the registry again. -/
theorem rstep_injected_mono {st : St} (op : ROp) (h : st.injected = true) : (rstep st op).1.injected = true := by
  rcases rstep_cases st op with e | ⟨_, op', e⟩ | ⟨_, e⟩ | e
  · rw [e]; exact h
  · rw [e, (step_frame st op').2.1]; exact h
  · rw [e]; exact h
  · rw [e]

theorem rrun_injected_mono (ops : List ROp) (st : St) : st.injected = true → (rrun st ops).1.injected = true :=
  rrun_induct (·.injected = true) (fun _ op => rstep_injected_mono op) ops st

/-- `InjectAsDatabase` leaves the registry injected whether it succeeds or answers `ErrInjected`. -/
theorem rstep_inject_injected (st : St) : (rstep st .inject).1.injected = true := by
  by_cases h : st.injected = true <;> simp [rstep, h]

theorem rrun_inject_mem (ops : List ROp) (st : St) : ROp.inject ∈ ops → (rrun st ops).1.injected = true := by
  induction ops generalizing st with
  | nil => nofun
  | cons op ops ih =>
    intro h
    rcases List.mem_cons.mp h with rfl | h
    · exact rrun_injected_mono ops _ (rstep_inject_injected st)
    · exact ih _ h

/-- Providers stay registered (there is no way to unregister one). -/
theorem rstep_provs_mono {st : St} (op : ROp) {p : Prov} (h : p ∈ st.provs) : p ∈ (rstep st op).1.provs := by
  rcases rstep_cases st op with e | ⟨_, op', e⟩ | ⟨_, e⟩ | e <;> rw [e]
  · exact h
  · rw [(step_frame st op').1]; exact h
  · exact List.mem_append_left _ h
  · exact h

/-- As long as the registry is not injected there is no controller, hence no subscription, no hook and no write. -/
def Quiet (st : St) : Prop :=
  st.injected = false → st.subs = [] ∧ st.closed = [] ∧ st.hooks = [] ∧ st.writes = [] ∧ st.store = []

theorem Quiet_initReg : Quiet St.initReg := fun _ => ⟨rfl, rfl, rfl, rfl, rfl⟩

theorem Quiet_rstep {st : St} (op : ROp) (h : Quiet st) : Quiet (rstep st op).1 := by
  rcases rstep_cases st op with e | ⟨hi, op', e⟩ | ⟨_, e⟩ | e <;> rw [e]
  · exact h
  · intro hn
    rw [← e, rstep_injected_mono op hi] at hn
    nomatch hn
  · exact h
  · exact fun hn => nomatch hn

end PB.Subs
