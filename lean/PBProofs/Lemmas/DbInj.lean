import PB.Model.DbInj
import PB.Spec.KVStore
import PB.Spec.PermissionLattice
import PBProofs.Lemmas.Db
import PBProofs.Lemmas.DbSim
import PBProofs.Lemmas.DbPerm
/-
Helper lemmas for C03 on injected runtime databases (`PB.Db.Inj`).
-/
namespace PB.Db.Inj
open PB.Db PB.KV PB.Perm

/-- The read path of an injected database answers like the reference map over what the provider holds. -/
theorem getRecord_eq_kvget (o : Opts) (st : PSt) (k : String) (now : Int) :
    getRecord o st k now = KV.get o st.prov k now := by
  unfold getRecord ctlGet regGet KV.get vis
  cases st.prov.get k with
  | none => rfl
  | some r => by_cases hv : r.md.valid now = true <;> simp [hv]

/-- The pre-check of `Put` / `PutNew` (`getMeta` through the controller's fallback branch) refuses exactly the
    writes the reference refuses. -/
theorem putPre_eq_blocked (o : Opts) (st : PSt) (k : String) (now : Int) :
    putPre o st k now = if KV.blocked o st.prov k now then some .denied else none := by
  unfold putPre getMeta ctlGetMeta regGet KV.blocked vis
  cases ha : o.all with
  | true => simp
  | false =>
    cases st.prov.get k with
    | none => simp
    | some r =>
      by_cases hv : r.md.valid now = true
      · by_cases hp : r.md.permitted o.loc o.int = true <;> simp [hv, hp]
      · simp [hv]

theorem ctlPut_cases (st : PSt) (x : Rec) :
    ctlPut st x = (st, .err .notImpl) ∨
    ctlPut st x = ({ prov := st.prov.put x, sets := st.sets ++ [x], notes := st.notes ++ [x] }, .ok) := by
  unfold ctlPut; split
  · exact Or.inl rfl
  · exact Or.inr rfl

/-- What one operation can do to the state: nothing, or exactly one `Set` of a record whose key either holds
    nothing visible or holds a record the interface may see. -/
theorem step_effect (o : Opts) (st : PSt) (op : Op) (now : Int) :
    (step o st op now).1 = st ∨
    ∃ x, (step o st op now).1 = { prov := st.prov.put x, sets := st.sets ++ [x], notes := st.notes ++ [x] } ∧
      ∀ r, vis now (st.prov.get x.key) = some r → r.md.permitted o.loc o.int = true := by
  let Eff (s' : PSt) : Prop := s' = st ∨
    ∃ x, s' = { prov := st.prov.put x, sets := st.sets ++ [x], notes := st.notes ++ [x] } ∧
      ∀ r, vis now (st.prov.get x.key) = some r → r.md.permitted o.loc o.int = true
  have hwrite : ∀ x, (∀ r, vis now (st.prov.get x.key) = some r → r.md.permitted o.loc o.int = true) →
      Eff (ctlPut st x).1 := by
    intro x hx
    rcases ctlPut_cases st x with h | h <;> rw [h]
    · exact Or.inl rfl
    · exact Or.inr ⟨x, rfl, hx⟩
  have hget : ∀ k r0, getRecord o st k now = .ok r0 →
      r0.key = k ∧ ∀ r, vis now (st.prov.get k) = some r → r.md.permitted o.loc o.int = true := by
    intro k r0 h
    rw [getRecord_eq_kvget] at h
    refine ⟨kvget_key h, fun r hr => ?_⟩
    rw [(kvget_ok h).1] at hr; cases hr
    exact (kvget_ok h).2
  have hmod : ∀ k f, Eff (ifModify o st k now f).1 := by
    intro k f
    unfold ifModify
    cases hg : getRecord o st k now with
    | error e => exact Or.inl rfl
    | ok r0 =>
      obtain ⟨hk, hp⟩ := hget k r0 hg
      exact hwrite _ (by simpa [hk] using hp)
  have hput : ∀ x isNew, Eff (ifPut o st x now isNew).1 := by
    intro x isNew
    unfold ifPut
    rw [putPre_eq_blocked]
    cases hb : KV.blocked o st.prov x.key now with
    | true => exact Or.inl rfl
    | false =>
      refine hwrite _ fun r hr => ?_
      simp only at hr
      unfold KV.blocked at hb
      rw [hr] at hb
      cases ha : o.all with
      | true => rw [← hasAccess_eq_permitted, Opts.hasAccess, ha]; rfl
      | false => simpa [ha] using hb
  show Eff _
  cases op with dsimp only [step]
  | put x | putNew x => exact hput x _
  | delete k | setAbs k _ | setRel k _ | mkSecret k | mkCrown k => exact hmod k _
  | insert k a p =>
    unfold ifInsert
    cases hg : getRecord o st k now with
    | error e => exact Or.inl rfl
    | ok r0 =>
      obtain ⟨hk, hp⟩ := hget k r0 hg
      simp only
      cases setField r0.form r0.fields a p with
      | none => exact Or.inl rfl
      | some fs => exact hwrite _ (by simpa [hk] using hp)
  | _ => exact Or.inl rfl

theorem ctlPut_out (st : PSt) (x : Rec) : (ctlPut st x).2 = if x.md.isDeleted then .err .notImpl else .ok := by
  unfold ctlPut; split <;> rfl

theorem ctlPut_prov (st : PSt) (x : Rec) : (ctlPut st x).1.prov = if x.md.isDeleted then st.prov else st.prov.put x := by
  unfold ctlPut; split <;> rfl

theorem lowEq_put {loc int : Bool} {t : Int} {m m' : Store} (x : Rec) (h : lowEq loc int t m m') :
    lowEq loc int t (m.put x) (m'.put x) :=
  lowEq_same_write x.key (some x) h (Store.get_put_eq _ _) (Store.get_put_eq _ _)
    (fun k hk => Store.get_put_ne _ _ k hk) (fun k hk => Store.get_put_ne _ _ k hk)

/-- The same write on both sides: same answer, the stores stay indistinguishable, keys stay unique. -/
theorem ctlPut_lowEq {loc int : Bool} {now : Int} (st st' : PSt) (x : Rec) (hn : st.prov.NodupKeys) (hn' : st'.prov.NodupKeys)
    (h : lowEqFrom loc int now st.prov st'.prov) :
    sameOut (ctlPut st x).2 (ctlPut st' x).2 ∧ lowEqFrom loc int now (ctlPut st x).1.prov (ctlPut st' x).1.prov ∧
    (ctlPut st x).1.prov.NodupKeys ∧ (ctlPut st' x).1.prov.NodupKeys := by
  rw [ctlPut_out, ctlPut_out, ctlPut_prov, ctlPut_prov]
  refine ⟨sameOut_of_eq rfl, ?_⟩
  split
  · exact ⟨h, hn, hn'⟩
  · exact ⟨fun t ht => lowEq_put x (h t ht), Store.nodup_put hn _, Store.nodup_put hn' _⟩

theorem registryQuery_lowEq {o : Opts} {now : Int} {m m' : Store} (hn : m.NodupKeys) (hn' : m'.NodupKeys)
    (h : lowEq o.loc o.int now m m') (q : Query) :
    (registryQuery m q o.loc o.int now).Perm (registryQuery m' q o.loc o.int now) := by
  -- the filter of `registryQuery` is `Query.selects` written out
  exact filter_perm_of_lowEq hn hn' h (q.selects o.loc o.int now) fun a ha =>
    ⟨selects_valid q _ _ a ha, selects_permitted q _ _ now a ha⟩

/-- One operation on two injected databases whose providers hold indistinguishable contents (from `t0` on): same
    result (query results as unordered streams), and the contents stay indistinguishable. -/
theorem step_lowEq (o : Opts) (now t0 : Int) (st st' : PSt) (hn : st.prov.NodupKeys) (hn' : st'.prov.NodupKeys)
    (h : lowEqFrom o.loc o.int t0 st.prov st'.prov) (ht : t0 ≤ now) (op : Op) :
    sameOut (step o st op now).2 (step o st' op now).2 ∧
    lowEqFrom o.loc o.int now (step o st op now).1.prov (step o st' op now).1.prov ∧
    (step o st op now).1.prov.NodupKeys ∧ (step o st' op now).1.prov.NodupKeys := by
  let Good (x x' : PSt × Out) : Prop :=
    sameOut x.2 x'.2 ∧ lowEqFrom o.loc o.int now x.1.prov x'.1.prov ∧ x.1.prov.NodupKeys ∧ x'.1.prov.NodupKeys
  have hfrom : lowEqFrom o.loc o.int now st.prov st'.prov := fun t htt => h t (by omega)
  have hnow : lowEq o.loc o.int now st.prov st'.prov := h now ht
  have hg : ∀ k, getRecord o st k now = getRecord o st' k now := by
    intro k; rw [getRecord_eq_kvget, getRecord_eq_kvget]; exact kvget_lowEq hnow k
  -- an operation answers without writing, or hands the same record to `Controller.Put` on both sides
  have keep : ∀ a, Good (st, a) (st', a) := fun _ => ⟨sameOut_of_eq rfl, hfrom, hn, hn'⟩
  have wr : ∀ x, Good (ctlPut st x) (ctlPut st' x) := fun x => ctlPut_lowEq st st' x hn hn' hfrom
  have hmod : ∀ k f, Good (ifModify o st k now f) (ifModify o st' k now f) := by
    intro k f
    unfold ifModify
    rw [hg k]
    cases getRecord o st' k now with
    | error e => exact keep _
    | ok r => exact wr _
  have hput : ∀ x isNew, Good (ifPut o st x now isNew) (ifPut o st' x now isNew) := by
    intro x isNew
    unfold ifPut
    rw [putPre_eq_blocked, putPre_eq_blocked, blocked_lowEq hnow x.key]
    cases KV.blocked o st'.prov x.key now with
    | true => exact keep _
    | false => exact wr _
  show Good _ _
  cases op with simp only [step]
  | get k | exists_ k => rw [hg k]; exact keep _
  | put x | putNew x => exact hput x _
  | delete k | setAbs k _ | setRel k _ | mkSecret k | mkCrown k => exact hmod k _
  | insert k a p =>
    unfold ifInsert
    rw [hg k]
    cases getRecord o st' k now with
    | error e => exact keep _
    | ok r =>
      simp only
      cases setField r.form r.fields a p with
      | none => exact keep _
      | some fs => exact wr _
  | query q =>
    cases q.check
    · exact keep _
    · exact ⟨registryQuery_lowEq hn hn' hnow q, hfrom, hn, hn'⟩
  | _ => exact keep _

end PB.Db.Inj
