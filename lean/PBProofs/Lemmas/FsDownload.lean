import PB.Model.FsDownload
/- C17 — lemmas about the download writer: the guards of its decision, and that a program none of whose requests is a
   rename never issues one, whatever the file system answers and whichever calls fail. -/
namespace PB.FsAtomic

theorem publishes_guard (g : Bool) (o₁ o₂ : Outcome) (h : o₁.publishes = false) :
    (if g then o₁ else o₂).publishes = true ↔ g = false ∧ o₂.publishes = true := by
  cases g <;> simp [h]

theorem lengthRefused_unknown (n : Nat) : PB.Gen.FsDownload.lengthRefused (-1) n = true := by
  simp [PB.Gen.FsDownload.lengthRefused]

theorem status_of_not_refused {s : Nat} (h : PB.Gen.FsDownload.statusRefused s = false) : s = 200 := by
  simp [PB.Gen.FsDownload.statusRefused] at h; omega

/-- No request on any path through the program is a rename. -/
inductive NoRename : Prog → Prop where
  | ret (f : Bool) : NoRename (.ret f)
  | sys (r : Req) (k : Rsp → Prog) : (∀ a b, r ≠ .call (.rename a b)) → (∀ rsp, NoRename (k rsp)) → NoRename (.sys r k)
  | probeDir (p : Path) (k : Bool → Prog) : (∀ b, NoRename (k b)) → NoRename (.probeDir p k)
  | probeExists (p : Path) (k : Bool → Prog) : (∀ b, NoRename (k b)) → NoRename (.probeExists p k)
  | probeMode (p : Path) (m : Nat) (k : Bool → Prog) : (∀ b, NoRename (k b)) → NoRename (.probeMode p m k)

theorem NoRename.ite {c : Prop} [Decidable c] {p q : Prog} (hp : NoRename p) (hq : NoRename q) :
    NoRename (if c then p else q) := by
  split <;> assumption

theorem concretize_not_rename (r : Req) (ch : Choice) (h : ∀ a b, r ≠ .call (.rename a b)) :
    ∀ a b, (concretize r ch).1 ≠ .rename a b := by
  cases r with
  | call c => exact fun a b hc => h a b (congrArg Req.call hc)
  | _ => exact nofun

theorem NoRename.run {p : Prog} (h : NoRename p) :
    ∀ (s : FS) (o : List Choice), ∀ c ∈ runProg p s o, ∀ a b, c ≠ .rename a b := by
  induction h with
  | ret f => exact fun s o c hc => nomatch hc
  | probeDir _ _ _ ih | probeExists _ _ _ ih | probeMode _ _ _ _ ih => exact fun s o => ih _ s o
  | sys r k hr _ ih =>
    intro s o c hc
    cases o with
    | nil => exact nomatch hc
    | cons ch cs =>
      simp only [runProg] at hc
      split at hc
      · exact ih _ s cs c hc
      · split at hc
        · rcases List.mem_cons.1 hc with rfl | hc
          · exact concretize_not_rename r ch hr
          · exact ih _ _ cs c hc
        · exact ih _ s cs c hc

theorem noRename_removeP (p : Path) {k : Prog} (hk : NoRename k) : NoRename (removeP p k) :=
  .sys _ _ nofun fun rsp => by cases rsp <;> first | exact hk | exact .sys _ _ nofun fun _ => hk

theorem noRename_cleanupP (t : Path) (fd : Nat) (closed : Bool) {k : Prog} (hk : NoRename k) :
    NoRename (cleanupP t fd closed k) :=
  .ite (noRename_removeP t hk) (.sys _ _ nofun fun _ => noRename_removeP t hk)

theorem noRename_writeAllP (fd : Nat) (chunks : List Seg) {onErr k : Prog} (he : NoRename onErr) (hk : NoRename k) :
    NoRename (writeAllP fd chunks onErr k) := by
  induction chunks with
  | nil => exact hk
  | cons g gs ih => exact .sys _ _ nofun fun rsp => by cases rsp <;> first | exact he | exact ih

theorem noRename_ensureDirectoryK (p : Path) (perm : Nat) {k : Bool → Prog} (hk : ∀ b, NoRename (k b)) :
    NoRename (ensureDirectoryK p perm k) := by
  have hchmod : NoRename (.sys (.call (.chmod p perm)) fun r => match r with | .err _ => k true | _ => k false) :=
    .sys _ _ nofun fun rsp => by cases rsp <;> exact hk _
  have hcreate : NoRename (.sys (.call (.mkdir p perm)) fun r => match r with
      | .err _ => k true
      | _ => .sys (.call (.chmod p perm)) fun r => match r with | .err _ => k true | _ => k false) :=
    .sys _ _ nofun fun rsp => by cases rsp <;> first | exact hk true | exact hchmod
  refine .probeExists _ _ fun there => .ite hcreate (.probeDir _ _ fun isDir => .ite ?_ ?_)
  · exact .probeMode _ _ _ fun same => .ite (hk false) hchmod
  · refine .sys _ _ nofun fun rsp => ?_
    cases rsp <;> first | exact hcreate | exact .sys _ _ nofun fun rsp => by cases rsp <;> first | exact hk true | exact hcreate

theorem noRename_ensureDirsK (dirs : List (Path × Nat)) {k : Bool → Prog} (hk : ∀ b, NoRename (k b)) :
    NoRename (ensureDirsK dirs k) := by
  induction dirs with
  | nil => exact hk false
  | cons d rest ih => exact noRename_ensureDirectoryK d.1 d.2 fun failed => .ite (hk true) ih

/-- An attempt whose decision is not "publish" contains no rename, provided the caller's continuation has none. -/
theorem noRename_fetchAttemptK (dirs : List (Path × Nat)) (regTmp dest : Path) (v : Option Verif) (w : Wire)
    (chunks : List Seg) (sig : Option SigFile) {k : Bool → Prog} (hk : ∀ b, NoRename (k b))
    (hd : (fetchDecision v (transport w)).publishes = false) :
    NoRename (fetchAttemptK dirs regTmp dest v w chunks sig k) := by
  have hc (t fd) : NoRename (cleanupP t fd false (k true)) := noRename_cleanupP t fd false (hk true)
  refine noRename_ensureDirsK dirs fun failed => .ite (hk true) (.ite (hk true) (.sys _ _ nofun fun rsp => ?_))
  cases rsp with
  | created t fd =>
    refine .ite (hc t fd) (noRename_writeAllP fd chunks (hc t fd) ?_)
    cases hout : fetchDecision v (transport w) with
    | publish b => rw [hout] at hd; cases hd
    | _ => exact hc t fd
  | _ => exact hk true

theorem noRename_attemptsK (dirs : List (Path × Nat)) (regTmp dest : Path) (v : Option Verif) (sig : Option SigFile)
    (attempts : List (Wire × List Seg)) {k : Bool → Prog} (hk : ∀ b, NoRename (k b))
    (hd : ∀ wc ∈ attempts, (fetchDecision v (transport wc.1)).publishes = false) :
    NoRename (attemptsK dirs regTmp dest v sig attempts k) := by
  induction attempts with
  | nil => exact hk true
  | cons a rest ih =>
    refine noRename_fetchAttemptK _ _ _ _ _ _ _ (fun failed => .ite (.ite (hk true) ?_) (hk false))
      (hd a (List.mem_cons_self ..))
    exact ih fun wc hwc => hd wc (List.mem_cons_of_mem _ hwc)

end PB.FsAtomic
