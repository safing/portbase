import PB.Model.Db
/-
Helper lemmas for C02 / C03: the association-list storage.
-/
namespace PB.Db

theorem Store.get_nil (k : String) : Store.get [] k = none := rfl

theorem Store.get_cons (r : Rec) (s : Store) (k : String) :
    Store.get (r :: s) k = if r.key = k then some r else Store.get s k := by
  simp only [Store.get, List.find?_cons]
  split <;> simp_all

theorem Store.get_key {s : Store} {k : String} {r : Rec} (h : Store.get s k = some r) : r.key = k := by
  simpa using List.find?_some h

theorem Store.get_mem {s : Store} {k : String} {r : Rec} (h : Store.get s k = some r) : r ∈ s :=
  List.mem_of_find?_eq_some h

theorem Store.get_del (s : Store) (k k' : String) :
    Store.get (Store.del s k) k' = if k' = k then none else Store.get s k' := by
  simp only [Store.get, Store.del, List.find?_filter]
  split
  · next h => subst h; simp
  · next h => congr 1; funext r; by_cases e : r.key = k' <;> simp_all

theorem Store.get_put (s : Store) (r : Rec) (k : String) :
    Store.get (Store.put s r) k = if k = r.key then some r else Store.get s k := by
  simp only [Store.put, Store.get_cons, Store.get_del, eq_comm (a := r.key)]
  split <;> rfl

theorem Store.get_del_eq (s : Store) (k : String) : Store.get (Store.del s k) k = none := by
  simp [Store.get_del]

theorem Store.get_del_ne (s : Store) (k k' : String) (h : k' ≠ k) :
    Store.get (Store.del s k) k' = Store.get s k' := by
  simp [Store.get_del, h]

theorem Store.get_put_eq (s : Store) (r : Rec) : Store.get (Store.put s r) r.key = some r := by
  simp [Store.get_put]

theorem Store.get_put_ne (s : Store) (r : Rec) (k : String) (h : k ≠ r.key) :
    Store.get (Store.put s r) k = Store.get s k := by
  simp [Store.get_put, h]

/-- One entry per key. -/
def Store.NodupKeys (s : Store) : Prop := (s.map (·.key)).Nodup

theorem Store.nodup_nil : Store.NodupKeys [] := List.nodup_nil

theorem Store.nodupKeys_iff {s : Store} : s.NodupKeys ↔ s.Pairwise (fun a b => a.key ≠ b.key) :=
  List.pairwise_map

theorem Store.nodup_cons {x : Rec} {s : Store} :
    Store.NodupKeys (x :: s) ↔ (∀ y ∈ s, x.key ≠ y.key) ∧ s.NodupKeys := by
  simp [nodupKeys_iff]

theorem Store.nodup_list {s : Store} (h : s.NodupKeys) : s.Nodup :=
  List.Pairwise.of_map _ (fun _ _ hk e => hk (e ▸ rfl)) h

theorem Store.nodup_filterMap {s : Store} (h : s.NodupKeys) (g : Rec → Option Rec)
    (hg : ∀ r r', g r = some r' → r'.key = r.key) : Store.NodupKeys (s.filterMap g) :=
  nodupKeys_iff.2 <| (nodupKeys_iff.1 h).filterMap g fun a a' hk b hb b' hb' => by
    rw [hg a b hb, hg a' b' hb']; exact hk

theorem Store.nodup_filter {s : Store} (h : s.NodupKeys) (p : Rec → Bool) : Store.NodupKeys (s.filter p) :=
  h.sublist (List.filter_sublist.map _)

theorem Store.nodup_del {s : Store} (h : s.NodupKeys) (k : String) : (Store.del s k).NodupKeys :=
  Store.nodup_filter h _

theorem Store.mem_del {s : Store} {k : String} {r : Rec} : r ∈ Store.del s k ↔ r ∈ s ∧ r.key ≠ k := by
  simp [Store.del]

theorem Store.nodup_put {s : Store} (h : s.NodupKeys) (r : Rec) : (Store.put s r).NodupKeys := by
  refine List.nodup_cons.2 ⟨fun hm => ?_, Store.nodup_del h r.key⟩
  obtain ⟨a, ha, hak⟩ := List.mem_map.1 hm
  exact (Store.mem_del.1 ha).2 hak

theorem Store.get_of_mem {s : Store} (h : s.NodupKeys) {r : Rec} (hm : r ∈ s) : Store.get s r.key = some r := by
  induction s with
  | nil => cases hm
  | cons x s ih =>
    obtain ⟨hx, hs⟩ := Store.nodup_cons.1 h
    rw [Store.get_cons]
    rcases List.mem_cons.1 hm with rfl | hm'
    · simp
    · rw [if_neg (hx r hm')]; exact ih hs hm'

theorem Store.mem_iff_get {s : Store} (h : s.NodupKeys) (r : Rec) : r ∈ s ↔ Store.get s r.key = some r :=
  ⟨Store.get_of_mem h, Store.get_mem⟩

theorem Store.get_filterMap {s : Store} (h : s.NodupKeys) (g : Rec → Option Rec)
    (hg : ∀ r r', g r = some r' → r'.key = r.key) (k : String) :
    Store.get (s.filterMap g) k = (Store.get s k).bind g := by
  induction s with
  | nil => rfl
  | cons x s ih =>
    obtain ⟨hx, hs⟩ := Store.nodup_cons.1 h
    rw [Store.get_cons, List.filterMap_cons]
    cases hgx : g x with
    | none =>
      simp only [ih hs]
      split
      · next hk =>
        have : Store.get s k = none := Option.eq_none_iff_forall_ne_some.2 fun y hy =>
          hx y (Store.get_mem hy) (hk.trans (Store.get_key hy).symm)
        rw [this, Option.bind_some, hgx]; rfl
      · rfl
    | some x' =>
      simp only [Store.get_cons, hg x x' hgx, ih hs]
      split
      · rw [Option.bind_some, hgx]
      · rfl

theorem Store.get_filter {s : Store} (h : s.NodupKeys) (p : Rec → Bool) (k : String) :
    Store.get (s.filter p) k = (Store.get s k).bind (fun r => if p r then some r else none) := by
  rw [← List.filterMap_eq_filter]
  exact Store.get_filterMap h _ (fun r r' hr => by simp only [Option.guard] at hr; split at hr <;> simp_all) k

end PB.Db
