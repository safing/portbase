import PB.Model.Updater
/- Helper lemmas for the file-name part of C19 (updater/filename.go). -/
namespace PB.Updater

/-! ### takeWhile / dropWhile in front of a separator -/

theorem takeWhile_append_sep {p : Nat → Bool} {c : Nat} (hc : p c = false) (r : Str) :
    ∀ a : Str, (a ++ c :: r).takeWhile p = a.takeWhile p
  | [] => by simp [List.takeWhile, hc]
  | x :: xs => by
    simp only [List.cons_append, List.takeWhile_cons]
    split
    · rw [takeWhile_append_sep hc r xs]
    · rfl

theorem dropWhile_append_sep {p : Nat → Bool} {c : Nat} (hc : p c = false) (r : Str) :
    ∀ a : Str, (a ++ c :: r).dropWhile p = a.dropWhile p ++ c :: r
  | [] => by simp [List.dropWhile, hc]
  | x :: xs => by
    simp only [List.cons_append, List.dropWhile_cons]
    split
    · rw [dropWhile_append_sep hc r xs]
    · rfl

theorem takeWhile_all {p : Nat → Bool} : ∀ {a : Str}, a.all p = true → a.takeWhile p = a ∧ a.dropWhile p = []
  | [], _ => by simp
  | x :: xs, h => by
    simp only [List.all_cons, Bool.and_eq_true] at h
    have := takeWhile_all h.2
    simp [List.takeWhile_cons, List.dropWhile_cons, h.1, this]

/-- where a greedy run of `p`-characters stops -/
def StopsAt (p : Nat → Bool) (rest : Str) : Prop := rest = [] ∨ ∃ c r, rest = c :: r ∧ p c = false

theorem stopsAt_cons {p : Nat → Bool} {c : Nat} (h : p c = false) (r : Str) : StopsAt p (c :: r) := Or.inr ⟨c, r, rfl, h⟩

theorem isEmpty_false {d : Str} (h : d ≠ []) : d.isEmpty = false := by cases d <;> simp_all

theorem span_run {p : Nat → Bool} {d rest : Str} (hd : d.all p = true) (hr : StopsAt p rest) :
    (d ++ rest).takeWhile p = d ∧ (d ++ rest).dropWhile p = rest := by
  rcases hr with rfl | ⟨c, r, rfl, hc⟩
  · simpa using takeWhile_all hd
  · rw [takeWhile_append_sep hc, dropWhile_append_sep hc]
    simp [takeWhile_all hd]

theorem all_takeWhile (p : Nat → Bool) : ∀ s : Str, (s.takeWhile p).all p = true
  | [] => by simp
  | x :: xs => by
    simp only [List.takeWhile_cons]
    split
    · rename_i h; simp [h, all_takeWhile p xs]
    · simp

theorem dropWhile_head (p : Nat → Bool) : ∀ s : Str, StopsAt p (s.dropWhile p)
  | [] => Or.inl rfl
  | x :: xs => by
    simp only [List.dropWhile_cons]
    split
    · exact dropWhile_head p xs
    · rename_i h; exact stopsAt_cons (by simpa using h) xs

/-! ### path.Split -/

/-- empty, or ending in a slash -/
def IsDir (d : Str) : Prop := d = [] ∨ ∃ d0, d = d0 ++ [47]

theorem pathSplit_noslash : ∀ f : Str, 47 ∉ f → pathSplit f = ([], f)
  | [], _ => rfl
  | c :: cs, h => by
    have hc : c ≠ 47 := fun e => h (by simp [e])
    have := pathSplit_noslash cs (fun e => h (by simp [e]))
    simp [pathSplit, this, hc]

theorem pathSplit_slash : ∀ (d f : Str), 47 ∉ f → pathSplit (d ++ 47 :: f) = (d ++ [47], f)
  | [], f, hf => by simp [pathSplit, pathSplit_noslash f hf]
  | c :: d, f, hf => by
    rw [List.cons_append, pathSplit, pathSplit_slash d f hf]
    cases d <;> rfl

theorem pathSplit_append (d : Str) (hd : IsDir d) (f : Str) (hf : 47 ∉ f) : pathSplit (d ++ f) = (d, f) := by
  rcases hd with rfl | ⟨d0, rfl⟩
  · exact pathSplit_noslash f hf
  · rw [List.append_assoc]; exact pathSplit_slash d0 f hf

theorem pathSplit_spec : ∀ p : Str, IsDir (pathSplit p).1 ∧ 47 ∉ (pathSplit p).2 ∧ (pathSplit p).1 ++ (pathSplit p).2 = p
  | [] => ⟨Or.inl rfl, by simp [pathSplit], rfl⟩
  | c :: cs => by
    obtain ⟨h1, h2, h3⟩ := pathSplit_spec cs
    unfold pathSplit
    generalize hps : pathSplit cs = ps at *
    obtain ⟨d, f⟩ := ps
    simp only at h1 h2 h3
    cases d with
    | nil =>
      simp only []
      split
      · rename_i hc
        subst hc
        refine ⟨Or.inr ⟨[], rfl⟩, h2, ?_⟩
        simpa using h3
      · rename_i hc
        refine ⟨Or.inl rfl, ?_, ?_⟩
        · simp only [List.mem_cons, not_or]; exact ⟨fun e => hc e.symm, h2⟩
        · simpa using h3
    | cons x xs =>
      simp only []
      refine ⟨?_, h2, ?_⟩
      · rcases h1 with h1 | ⟨d0, hd0⟩
        · cases h1
        · exact Or.inr ⟨c :: d0, by simp [hd0]⟩
      · simp only [List.cons_append, List.cons.injEq, true_and]
        simpa using h3

/-! ### strings.SplitN(s, ".", 2) and strings.Replace -/

def extTail : Option Str → Str
  | some e => 46 :: e
  | none => []

theorem splitDot_spec : ∀ s : Str, 46 ∉ (splitDot s).1 ∧ (splitDot s).1 ++ extTail (splitDot s).2 = s
  | [] => by simp [splitDot, extTail]
  | c :: cs => by
    obtain ⟨h1, h2⟩ := splitDot_spec cs
    unfold splitDot
    split
    · rename_i hc; subst hc; simp [extTail]
    · rename_i hc
      refine ⟨?_, ?_⟩
      · simp only [List.mem_cons, not_or]; exact ⟨fun e => hc e.symm, h1⟩
      · simp only [List.cons_append, List.cons.injEq, true_and]; exact h2

theorem splitDot_append : ∀ stem : Str, 46 ∉ stem → ∀ ext : Option Str, splitDot (stem ++ extTail ext) = (stem, ext)
  | [], _, none => by simp [splitDot, extTail]
  | [], _, some e => by simp [splitDot, extTail]
  | c :: cs, h, ext => by
    have hc : c ≠ 46 := fun e => h (by simp [e])
    have ih := splitDot_append cs (fun e => h (by simp [e])) ext
    simp [splitDot, hc, ih]

theorem replaceN_zero (old new : Nat) : ∀ s : Str, replaceN old new s 0 = s
  | [] => rfl
  | _ :: _ => rfl

theorem replaceN_skip (old new : Nat) (r : Str) (n : Nat) :
    ∀ a : Str, old ∉ a → replaceN old new (a ++ old :: r) (n + 1) = a ++ new :: replaceN old new r n
  | [], _ => by simp [replaceN]
  | c :: cs, h => by
    have hc : c ≠ old := fun e => h (by simp [e])
    have ih := replaceN_skip old new r n cs (fun e => h (by simp [e]))
    simp [replaceN, hc, ih]

theorem digits_no {c : Nat} (hc : isDigit c = false) {d : Str} (hd : d.all isDigit = true) : c ∉ d := by
  intro h
  have := List.all_eq_true.mp hd c h
  simp [hc] at this

/-! ### The shape of a version text -/

/-- `-alpha` or nothing -/
def OptAlpha (suf : Str) : Prop := suf = [] ∨ ∃ a, suf = 45 :: a ∧ a ≠ [] ∧ a.all isLower = true

/-- `D<sep>D<sep>D(-alpha)?` -/
def verText (sep : Nat) (d1 d2 d3 suf : Str) : Str := d1 ++ sep :: d2 ++ sep :: d3 ++ suf

structure VerParts (d1 d2 d3 suf : Str) : Prop where
  h1 : d1 ≠ [] ∧ d1.all isDigit = true
  h2 : d2 ≠ [] ∧ d2.all isDigit = true
  h3 : d3 ≠ [] ∧ d3.all isDigit = true
  hs : OptAlpha suf

theorem replace_seps {old new : Nat} (ho : isDigit old = false) {d1 d2 d3 suf : Str} (h : VerParts d1 d2 d3 suf) :
    replaceN old new (verText old d1 d2 d3 suf) 2 = verText new d1 d2 d3 suf := by
  unfold verText
  have e : d1 ++ old :: d2 ++ old :: d3 ++ suf = d1 ++ old :: (d2 ++ old :: (d3 ++ suf)) := by simp
  rw [e, replaceN_skip _ _ _ _ _ (digits_no ho h.h1.2), replaceN_skip _ _ _ _ _ (digits_no ho h.h2.2), replaceN_zero]
  simp

/-! ### The matcher for `_v[0-9]+-[0-9]+-[0-9]+(-[a-z]+)?` -/

theorem digitsThen_run {d rest : Str} (hd : d ≠ [] ∧ d.all isDigit = true)
    (hr : StopsAt isDigit rest) (k : Str → Str → Option Str) :
    digitsThen (d ++ rest) k = k d rest := by
  obtain ⟨h1, h2⟩ := span_run hd.2 hr
  unfold digitsThen
  simp only [h1, h2]
  simp [isEmpty_false hd.1]

theorem digitsThen_some {s m : Str} {k : Str → Str → Option Str} (h : digitsThen s k = some m) :
    ∃ d rest, s = d ++ rest ∧ (d ≠ [] ∧ d.all isDigit = true) ∧
      StopsAt isDigit rest ∧ k d rest = some m := by
  unfold digitsThen at h
  simp only [] at h
  split at h
  · cases h
  · rename_i hne
    refine ⟨s.takeWhile isDigit, s.dropWhile isDigit, List.takeWhile_append_dropWhile.symm, ⟨?_, all_takeWhile _ _⟩, dropWhile_head _ _, h⟩
    intro e; simp [e] at hne

theorem digitsThen_append {r : Str} {k k' : Str → Str → Option Str} (hk : ∀ d x, k d (x ++ 95 :: r) = k' d x) (a : Str) :
    digitsThen (a ++ 95 :: r) k = digitsThen a k' := by
  unfold digitsThen
  simp only [takeWhile_append_sep (p := isDigit) (c := 95) (by decide), dropWhile_append_sep (p := isDigit) (c := 95) (by decide), hk]

theorem dashThen_of_ne {c : Nat} (hc : c ≠ 45) (cs : Str) (k : Str → Option Str) : dashThen (c :: cs) k = none := by
  unfold dashThen
  split
  · rename_i heq; cases heq; exact absurd rfl hc
  · rfl

theorem dashThen_append {r : Str} {k k' : Str → Option Str} (hk : ∀ x, k (x ++ 95 :: r) = k' x) :
    ∀ a : Str, dashThen (a ++ 95 :: r) k = dashThen a k'
  | [] => by simp [dashThen]
  | c :: cs => by
    by_cases hc : c = 45
    · subst hc; simp [dashThen, hk]
    · rw [List.cons_append, dashThen_of_ne hc, dashThen_of_ne hc]

theorem dashThen_some {s m : Str} {k : Str → Option Str} (h : dashThen s k = some m) : ∃ r, s = 45 :: r ∧ k r = some m := by
  unfold dashThen at h
  split at h
  · exact ⟨_, rfl, h⟩
  · cases h

theorem optPre_of_ne {c : Nat} (hc : c ≠ 45) (base cs : Str) : optPre base (c :: cs) = base := by
  unfold optPre
  split
  · rename_i heq; cases heq; exact absurd rfl hc
  · rfl

theorem optPre_append (base r : Str) : ∀ a : Str, optPre base (a ++ 95 :: r) = optPre base a
  | [] => by simp [optPre]
  | c :: cs => by
    by_cases hc : c = 45
    · subst hc
      simp only [List.cons_append, optPre, takeWhile_append_sep (p := isLower) (c := 95) (by decide)]
    · rw [List.cons_append, optPre_of_ne hc, optPre_of_ne hc]

theorem optPre_run (base : Str) {suf tail : Str} (hs : OptAlpha suf) (ht : tail = [] ∨ ∃ e, tail = 46 :: e) :
    optPre base (suf ++ tail) = base ++ suf := by
  rcases hs with rfl | ⟨a, rfl, hne, hal⟩
  · rcases ht with rfl | ⟨e, rfl⟩ <;> simp [optPre]
  · have hr : StopsAt isLower tail := ht.imp id fun ⟨e, h⟩ => ⟨46, e, h, by decide⟩
    simp only [List.cons_append, optPre, (span_run hal hr).1]
    simp [isEmpty_false hne]

theorem optPre_shape (base s : Str) : ∃ suf rest, OptAlpha suf ∧ optPre base s = base ++ suf ∧ s = suf ++ rest := by
  unfold optPre
  split
  · rename_i r
    simp only []
    split
    · exact ⟨[], 45 :: r, Or.inl rfl, by simp, rfl⟩
    · rename_i hne
      refine ⟨45 :: r.takeWhile isLower, r.dropWhile isLower, Or.inr ⟨_, rfl, ?_, all_takeWhile _ _⟩, rfl, ?_⟩
      · intro e; simp [e] at hne
      · simp [List.takeWhile_append_dropWhile]
  · exact ⟨[], s, Or.inl rfl, by simp, rfl⟩

/-- a match attempt that starts inside text followed by `_` behaves as if the text ended there -/
theorem matchFileVer_append (r : Str) : ∀ a : Str, a ≠ [] → matchFileVer (a ++ 95 :: r) = matchFileVer a
  | [], h => absurd rfl h
  | [x], _ => by
    by_cases hx : x = 95
    · subst hx; simp [matchFileVer]
    · simp only [List.cons_append, List.nil_append, matchFileVer]
  | x :: y :: a, _ => by
    by_cases hx : x = 95 ∧ y = 118
    · obtain ⟨rfl, rfl⟩ := hx
      simp only [List.cons_append, matchFileVer]
      apply digitsThen_append; intro d1 s1
      apply dashThen_append; intro r1
      apply digitsThen_append; intro d2 s2
      apply dashThen_append; intro r2
      apply digitsThen_append; intro d3 s3
      rw [optPre_append]
    · -- neither text starts with `_v`
      have none : ∀ b : Str, matchFileVer (x :: y :: b) = none := fun b => by
        unfold matchFileVer
        split
        · rename_i heq; cases heq; exact absurd ⟨rfl, rfl⟩ hx
        · rfl
      rw [List.cons_append, List.cons_append, none, none]

theorem nondigit_head {suf tail : Str} (hs : OptAlpha suf) (ht : tail = [] ∨ ∃ e, tail = 46 :: e) :
    StopsAt isDigit (suf ++ tail) := by
  rcases hs with rfl | ⟨a, rfl, _, _⟩
  · rcases ht with rfl | ⟨e, rfl⟩
    · exact Or.inl rfl
    · exact stopsAt_cons (by decide) e
  · exact stopsAt_cons (by decide) _

theorem matchFileVer_run {d1 d2 d3 suf tail : Str} (h : VerParts d1 d2 d3 suf) (ht : tail = [] ∨ ∃ e, tail = 46 :: e) :
    matchFileVer (95 :: 118 :: verText 45 d1 d2 d3 suf ++ tail) = some (95 :: 118 :: verText 45 d1 d2 d3 suf) := by
  have dash : ∀ x : Str, StopsAt isDigit (45 :: x) := stopsAt_cons (by decide)
  have e : verText 45 d1 d2 d3 suf ++ tail = d1 ++ 45 :: (d2 ++ 45 :: (d3 ++ (suf ++ tail))) := by simp [verText]
  simp only [List.cons_append, matchFileVer, e]
  rw [digitsThen_run h.h1 (dash _)]
  simp only [dashThen]
  rw [digitsThen_run h.h2 (dash _)]
  simp only [dashThen]
  rw [digitsThen_run h.h3 (nondigit_head h.hs ht), optPre_run _ h.hs ht]
  simp [verText]

theorem matchFileVer_shape {s m : Str} (h : matchFileVer s = some m) :
    ∃ d1 d2 d3 suf rest, VerParts d1 d2 d3 suf ∧ m = 95 :: 118 :: verText 45 d1 d2 d3 suf ∧ s = m ++ rest := by
  unfold matchFileVer at h
  split at h
  · rename_i r0
    obtain ⟨d1, s1, e0, hd1, _, h⟩ := digitsThen_some h
    obtain ⟨r1, e1, h⟩ := dashThen_some h
    obtain ⟨d2, s2, e2, hd2, _, h⟩ := digitsThen_some h
    obtain ⟨r2, e3, h⟩ := dashThen_some h
    obtain ⟨d3, s3, e4, hd3, _, h⟩ := digitsThen_some h
    obtain ⟨suf, rest, hsuf, hopt, e5⟩ := optPre_shape (95 :: 118 :: d1 ++ 45 :: d2 ++ 45 :: d3) s3
    cases h
    refine ⟨d1, d2, d3, suf, rest, ⟨hd1, hd2, hd3, hsuf⟩, ?_, ?_⟩
    · rw [hopt]; simp [verText]
    · rw [hopt, e0, e1, e2, e3, e4, e5]; simp
  · cases h

theorem findFileVer_spec : ∀ {s b m a : Str}, findFileVer s = some (b, m, a) → s = b ++ m ++ a ∧ matchFileVer (m ++ a) = some m
  | [], _, _, _, h => by simp [findFileVer] at h
  | c :: cs, b, m, a, h => by
    unfold findFileVer at h
    split at h
    · rename_i m' hm
      cases h
      obtain ⟨d1, d2, d3, suf, rest, _, _, hs⟩ := matchFileVer_shape hm
      have : (c :: cs).drop m.length = rest := by rw [hs]; simp
      rw [this]
      exact ⟨by simpa using hs, by rw [← hs]; exact hm⟩
    · rename_i hm
      cases hf : findFileVer cs with
      | none => simp [hf] at h
      | some t =>
        obtain ⟨b', m', a'⟩ := t
        simp only [hf, Option.map_some, Option.some.injEq, Prod.mk.injEq] at h
        obtain ⟨rfl, rfl, rfl⟩ := h
        obtain ⟨h1, h2⟩ := findFileVer_spec hf
        exact ⟨by simp [h1], h2⟩

theorem findFileVer_skip (r : Str) : ∀ pre : Str, findFileVer pre = none →
    findFileVer (pre ++ 95 :: r) = (findFileVer (95 :: r)).map (fun t => (pre ++ t.1, t.2.1, t.2.2))
  | [], _ => by simp
  | c :: cs, h => by
    unfold findFileVer at h
    split at h
    · cases h
    · rename_i hm
      have hcs : findFileVer cs = none := by
        cases hf : findFileVer cs with
        | none => rfl
        | some t => simp [hf] at h
      have ih := findFileVer_skip r cs hcs
      have hm' : matchFileVer (c :: cs ++ 95 :: r) = none := by
        rw [matchFileVer_append r (c :: cs) (by simp)]; exact hm
      simp only [List.cons_append] at hm' ⊢
      conv => lhs; unfold findFileVer
      simp only [hm', ih, Option.map_map]
      cases findFileVer (95 :: r) <;> simp

/-! ### The raw version format `^[0-9]+\.[0-9]+\.[0-9]+(-[a-z]+)?$` -/

theorem matchRawVersion_run {d1 d2 d3 suf : Str} (h : VerParts d1 d2 d3 suf) :
    matchRawVersion (verText 46 d1 d2 d3 suf) = true := by
  have dot : ∀ x : Str, StopsAt isDigit (46 :: x) := stopsAt_cons (by decide)
  have e : verText 46 d1 d2 d3 suf = d1 ++ 46 :: (d2 ++ 46 :: (d3 ++ suf)) := by simp [verText]
  obtain ⟨a1, b1⟩ := span_run h.h1.2 (dot (d2 ++ 46 :: (d3 ++ suf)))
  obtain ⟨a2, b2⟩ := span_run h.h2.2 (dot (d3 ++ suf))
  have hsuf : StopsAt isDigit suf := by simpa using nondigit_head h.hs (Or.inl rfl)
  obtain ⟨a3, b3⟩ := span_run h.h3.2 hsuf
  unfold matchRawVersion
  simp only [e, a1, b1, isEmpty_false h.h1.1, a2, b2, isEmpty_false h.h2.1, a3, b3, isEmpty_false h.h3.1]
  rcases h.hs with rfl | ⟨a, rfl, hne, hal⟩
  · simp
  · simp [isEmpty_false hne, hal]

theorem matchRawVersion_shape {v : Str} (h : matchRawVersion v = true) :
    ∃ d1 d2 d3 suf, VerParts d1 d2 d3 suf ∧ v = verText 46 d1 d2 d3 suf := by
  unfold matchRawVersion at h
  simp only [] at h
  have ne : ∀ {s : Str}, ¬(s.takeWhile isDigit).isEmpty = true → s.takeWhile isDigit ≠ [] := by
    intro s hs e; simp [e] at hs
  split at h
  · cases h
  · rename_i n1
    split at h
    · rename_i r1 e1
      split at h
      · cases h
      · rename_i n2
        split at h
        · rename_i r2 e2
          split at h
          · cases h
          · rename_i n3
            have ev : v = v.takeWhile isDigit ++ 46 :: (r1.takeWhile isDigit ++ 46 :: (r2.takeWhile isDigit ++ r2.dropWhile isDigit)) := by
              conv => lhs; rw [← List.takeWhile_append_dropWhile (p := isDigit) (l := v), e1,
                ← List.takeWhile_append_dropWhile (p := isDigit) (l := r1), e2]
              simp
            split at h
            · rename_i e3
              refine ⟨_, _, _, [], ⟨⟨ne n1, all_takeWhile _ _⟩, ⟨ne n2, all_takeWhile _ _⟩, ⟨ne n3, all_takeWhile _ _⟩, Or.inl rfl⟩, ?_⟩
              rw [e3] at ev
              simpa [verText] using ev
            · rename_i r3 e3
              simp only [Bool.and_eq_true, Bool.not_eq_true'] at h
              refine ⟨_, _, _, 45 :: r3, ⟨⟨ne n1, all_takeWhile _ _⟩, ⟨ne n2, all_takeWhile _ _⟩, ⟨ne n3, all_takeWhile _ _⟩,
                Or.inr ⟨r3, rfl, ?_, h.2⟩⟩, ?_⟩
              · intro e; simp [e] at h
              · rw [e3] at ev
                simpa [verText] using ev
            · cases h
        · cases h
    · cases h

theorem suffix_noslash {suf : Str} (h : OptAlpha suf) : 47 ∉ suf := by
  rcases h with rfl | ⟨a, rfl, _, hal⟩
  · simp
  · intro hm
    rcases List.mem_cons.mp hm with h | h
    · cases h
    · have := List.all_eq_true.mp hal 47 h
      simp [isLower] at this

theorem verText45_noslash {d1 d2 d3 suf : Str} (h : VerParts d1 d2 d3 suf) : 47 ∉ verText 45 d1 d2 d3 suf := by
  unfold verText
  simp only [List.mem_append, List.mem_cons, not_or]
  exact ⟨⟨⟨digits_no (by decide) h.h1.2, by decide, digits_no (by decide) h.h2.2⟩, by decide, digits_no (by decide) h.h3.2⟩, suffix_noslash h.hs⟩

theorem dropWhile_uv {d1 d2 d3 suf : Str} (h : VerParts d1 d2 d3 suf) :
    (95 :: 118 :: verText 45 d1 d2 d3 suf).dropWhile (fun c => c = 95 || c = 118) = verText 45 d1 d2 d3 suf := by
  obtain ⟨hne, hal⟩ := h.h1
  cases d1 with
  | nil => exact absurd rfl hne
  | cons x xs =>
    simp only [List.all_cons, Bool.and_eq_true] at hal
    have hx : x ≠ 95 ∧ x ≠ 118 := by
      have := hal.1
      simp only [isDigit, Bool.and_eq_true, decide_eq_true_eq] at this
      omega
    simp [verText, List.dropWhile, hx.1, hx.2]

theorem extTail_cases (ext : Option Str) : extTail ext = [] ∨ ∃ e, extTail ext = 46 :: e := by
  cases ext with
  | none => exact Or.inl rfl
  | some e => exact Or.inr ⟨e, rfl⟩

end PB.Updater
