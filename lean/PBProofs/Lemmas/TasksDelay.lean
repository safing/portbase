import PBProofs.Lemmas.Tasks
/-
What the time in a max-delay entry of the schedule is: as long as no time given to `Schedule` has replaced it,
`executeAt` of an `overtime` entry is the clock reading of the task's last queueing call plus the max delay that
call used (history fields `qAt`, `qMd`).
-/
namespace PB.Tasks
attribute [local simp] setNow setQh setSh setTask

def InvDelay (s : St) : Prop :=
  ∀ t, t ∈ s.sched → (s.tasks t).overtime = true → (s.tasks t).eaUser = false →
    (s.tasks t).executeAt = (s.tasks t).qAt + (s.tasks t).qMd

theorem invDelay_stepAt {s s' : St} {a : Act} (hL : InvLists s) (hE : InvEarly s) (hi : InvDelay s)
    (h : stepAt s a = some s') : InvDelay s' := by
  obtain ⟨t, hs⟩ := stepAt_step h
  intro u
  by_cases e : u = t
  · subst e; have ht := hi u
    cases hs with
    | queueOff | queuePOff | asapOff | fetchNone | qhWait | popP | popQ | popNone | asapDrop => exact ht
    | newInert | maxDelay | cancel | fnBegin | fnEnd | finish | slotFree | spawnQ | spawnS =>
      simp only [setTask, ↓reduceIte]; exact ht
    -- with a max delay a queueing call writes `executeAt`, `qAt`, `qMd` together, without it none; `Schedule` sets `eaUser`
    | queue | queueP | asapUser | asapSh | schedZero | sched =>
      simp [mem_prepSched_iff, mem_schedWith_iff, mem_rmSched_iff hL] at ht ⊢ <;> grind
    | runQ _ _ _ ho | runS _ _ _ ho =>
      cases ho with
      | stale => exact ht
      | _ => simp [mem_rmSched_iff hL]  -- `u` has left the schedule
    | fetchRun | schedOff => simp  -- `overtime := false` resp. `eaUser := true`: the premise is false
    | fetchAsap _ hq hf =>
      -- were `eaUser = false`, the handler would hold the entry (`overtime = false`) for a run; it is idle
      have hdue := fetchRes_asap hf; have hheld := hE.held_of_plain hdue.1 hdue.2.2
      simp [hq] at hheld ⊢; simp [hheld]
  · have hu := hs.same e
    rw [hu.task, hu.sched]; exact hi u

theorem invDelay_setNow {s : St} {n : Nat} (hi : InvDelay s) : InvDelay (setNow s n) := by
  intro t; simpa [setNow] using hi t

theorem reachable_invDelay {s : St} (h : Reachable s) : InvDelay s := by
  induction h with
  | init => intro t; simp [init]
  | step now a hr hs ih =>
    have hI := inv_setNow (step_some hs).1 (reachable_inv hr)
    exact invDelay_stepAt hI.lists hI.early (invDelay_setNow ih) (step_some hs).2

end PB.Tasks
