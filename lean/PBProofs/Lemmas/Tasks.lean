import PBProofs.Lemmas.TasksProj
/-
Invariants of the task scheduler model (PB.Model.Tasks) and their preservation by every action.

Every action rewrites the record of one task and a few fields outside the task table: `Step` lists the branches of
`stepAt` in that form, and `Step.same` says that nothing the state says about another task changes. An invariant
`∀ u, …` is proved accordingly; the branches that write nothing it reads are closed by its old instance.
-/
namespace PB.Tasks

attribute [local simp] setNow setQh setSh setTask

theorem Task.inQ_eta (k : Task) (h : k.inQ = true) : { k with inQ := true } = k := by cases k; simp_all
theorem Task.inP_eta (k : Task) (h : k.inP = true) : { k with inP := true } = k := by cases k; simp_all

/-- The prioritized queue after `StartASAP` on the active task `t`: `t` goes to the front, unless its flag says it
    is in the queue while the queue handler has already taken it out. -/
def asapPrio (s : St) (t : Nat) : List Nat :=
  if (s.tasks t).inP then (if s.prio.contains t then t :: s.prio.erase t else s.prio) else t :: s.prio

def asapPkey (s : St) (t : Nat) : Nat → Int :=
  if (s.tasks t).inP && !s.prio.contains t then s.pkey
  else fun x => if x = t then - ((s.clock + 1 : Nat) : Int) else s.pkey x

theorem mem_insertSched (ea : Nat → Nat) (t tm x : Nat) (l : List Nat) :
    x ∈ insertSched ea t tm l ↔ x = t ∨ x ∈ l := by
  induction l with
  | nil => simp [insertSched]
  | cons e es ih => simp only [insertSched]; split <;> simp [ih] <;> grind

theorem mem_schedWith_iff (s : St) (t tm x : Nat) : x ∈ schedWith s t tm ↔ x = t ∨ x ∈ s.sched := by
  rw [schedWith, mem_insertSched]
  by_cases e : x = t
  · simp [e]
  · simp [e, List.mem_erase_of_ne e]

theorem mem_prepSched_iff (s : St) (t x : Nat) :
    x ∈ prepSched s t ↔ ((s.tasks t).maxDelay ≠ 0 ∧ x = t) ∨ x ∈ s.sched := by
  simp only [prepSched]; split
  · rename_i hm; rw [mem_schedWith_iff]; simp at hm; simp [hm]
  · rename_i hm; simp at hm; simp [hm]

theorem mem_prepSched_of_ne (s : St) {x t : Nat} (e : x ≠ t) : x ∈ prepSched s t ↔ x ∈ s.sched := by
  simp [mem_prepSched_iff, e]

theorem mem_rm_of_ne {l : List Nat} {c : Bool} {x t : Nat} (e : x ≠ t) :
    x ∈ (if c then l.erase t else l) ↔ x ∈ l := by
  split
  · exact List.mem_erase_of_ne e
  · rfl

theorem mem_rmQueue_of_ne (s : St) {x t : Nat} (e : x ≠ t) : x ∈ rmQueue s t ↔ x ∈ s.queue := mem_rm_of_ne e
theorem mem_rmPrio_of_ne (s : St) {x t : Nat} (e : x ≠ t) : x ∈ rmPrio s t ↔ x ∈ s.prio := mem_rm_of_ne e
theorem mem_rmSched_of_ne (s : St) {x t : Nat} (e : x ≠ t) : x ∈ rmSched s t ↔ x ∈ s.sched := mem_rm_of_ne e

theorem mem_asapPrio_of_ne (s : St) {x t : Nat} (e : x ≠ t) : x ∈ asapPrio s t ↔ x ∈ s.prio := by
  simp only [asapPrio]; split
  · split
    · simp [e, List.mem_erase_of_ne]
    · rfl
  · simp [e]

theorem self_mem_asapPrio (s : St) (t : Nat) : t ∈ asapPrio s t ↔ ((s.tasks t).inP = true → t ∈ s.prio) := by
  simp only [asapPrio]; split
  · split <;> simp_all
  · simp_all

theorem asapPrio_head {s : St} {t : Nat} (h : t ∈ asapPrio s t) : ∃ rest, asapPrio s t = t :: rest := by
  simp only [asapPrio] at h ⊢
  split
  · split
    · exact ⟨_, rfl⟩
    · rename_i h1 h2; simp only [h1, h2, if_true] at h; exact absurd (by simpa using h) h2
  · exact ⟨_, rfl⟩

theorem runResOf_spec (s : St) (t : Nat) :
    (runResOf s t = .stale →
      (s.tasks t).inQ = false ∧ (s.tasks t).inP = false ∧ (s.tasks t).canceled = false) ∧
    (runResOf s t = .executing → (s.tasks t).executing = true) ∧
    (runResOf s t = .inactive → (s.tasks t).canceled = true ∧ (s.tasks t).executing = false) ∧
    (runResOf s t = .started → (s.tasks t).executing = false ∧ (s.tasks t).canceled = false ∧
      ((s.tasks t).inQ = true ∨ (s.tasks t).inP = true)) := by
  simp only [runResOf, Task.active]
  rcases s.tasks t with ⟨canceled, executing, _, _, _, inQ, inP⟩
  cases canceled <;> cases executing <;> cases inQ <;> cases inP <;> simp

theorem started_spec {s : St} {t : Nat} (h : runResOf s t = .started) :
    (s.tasks t).executing = false ∧ (s.tasks t).canceled = false ∧
      ((s.tasks t).inQ = true ∨ (s.tasks t).inP = true) :=
  (runResOf_spec s t).2.2.2 h

inductive RunOut (s : St) (t : Nat) (kp : Bool) : St → Prop
  | stale (hr : runResOf s t = .stale) (hq : (s.tasks t).inQ = false) (hp : (s.tasks t).inP = false)
      (hc : (s.tasks t).canceled = false) : RunOut s t kp s
  | executing (hr : runResOf s t = .executing) (hx : (s.tasks t).executing = true) : RunOut s t kp
      { setTask s t { (s.tasks t).removed with dropped := (s.tasks t).owed } with
        queue := rmQueue s t, prio := rmPrio s t, sched := rmSched s t }
  | inactive (hr : runResOf s t = .inactive) (hc : (s.tasks t).canceled = true)
      (hx : (s.tasks t).executing = false) : RunOut s t kp
      { setTask s t (s.tasks t).removed with queue := rmQueue s t, prio := rmPrio s t, sched := rmSched s t }
  | started (hr : runResOf s t = .started) (hx : (s.tasks t).executing = false)
      (hc : (s.tasks t).canceled = false) (hf : (s.tasks t).inQ = true ∨ (s.tasks t).inP = true) : RunOut s t kp
      { setTask s t { (s.tasks t).removed with
          executing := true, executeAt := 0, eaUser := false, starts := (s.tasks t).starts + 1, userSub := false,
          owed := false, dropped := false, prom := (s.tasks t).prom && kp } with
        queue := rmQueue s t, prio := rmPrio s t, sched := rmSched s t }

theorem runSection_out (s : St) (t : Nat) (kp : Bool) : RunOut s t kp (runSection s t kp) := by
  obtain ⟨h1, h2, h3, h4⟩ := runResOf_spec s t
  cases hr : runResOf s t <;> simp only [runSection, hr]
  · exact .stale hr (h1 hr).1 (h1 hr).2.1 (h1 hr).2.2
  · exact .executing hr (h2 hr)
  · exact .inactive hr (h3 hr).1 (h3 hr).2
  · exact .started hr (h4 hr).1 (h4 hr).2.1 (h4 hr).2.2

/-- `Step s a t s'`: action `a` takes `s` to `s'` working on task `t` (any `t` for the steps that work on none).
    `slotFree` keeps of the search for a watcher what it yields (a watcher of `t`, released or timed out) and writes
    the model's `if c then { k with tmo := true } else k` as `tmo := k.tmo || c`: no projection meets an `if`. -/
inductive Step (s : St) : Act → Nat → St → Prop
  | queueOff t (hc : (s.tasks t).canceled = true) : Step s (.queue t) t s
  | queuePOff t (hc : (s.tasks t).canceled = true) : Step s (.queueP t) t s
  | asapOff t (hc : (s.tasks t).canceled = true) : Step s (.asap t false) t s
  | fetchNone t (hq : s.sh = .idle) (hf : ∀ u, fetchRes s ≠ .run u ∧ fetchRes s ≠ .asap u) : Step s .shFetch t s
  | newInert t : Step s (.newInert t) t (setTask s t { s.tasks t with canceled := true, maxDelay := 0 })
  | queue t (hc : (s.tasks t).canceled = false) : Step s (.queue t) t
      { setTask s t { ((s.tasks t).prepped s.now).submitted with inQ := true } with
        sched := prepSched s t, clock := s.clock + 1,
        queue := if (s.tasks t).inQ then s.queue else s.queue ++ [t],
        qkey := if (s.tasks t).inQ then s.qkey else fun x => if x = t then s.clock + 1 else s.qkey x }
  | queueP t (hc : (s.tasks t).canceled = false) : Step s (.queueP t) t
      { setTask s t { ((s.tasks t).prepped s.now).submitted with inP := true } with
        sched := prepSched s t, clock := s.clock + 1,
        prio := if (s.tasks t).inP then s.prio else s.prio ++ [t],
        pkey := if (s.tasks t).inP then s.pkey else fun x => if x = t then ((s.clock + 1 : Nat) : Int) else s.pkey x }
  | asapDrop t (hc : (s.tasks t).canceled = true) (hb : s.sh = .holdAsap t) :
      Step s (.asap t true) t { s with sh := .idle }
  | asapUser t (hc : (s.tasks t).canceled = false) : Step s (.asap t false) t
      { setTask s t { ((s.tasks t).prepped s.now).submitted with inP := true } with
        sched := prepSched s t, clock := s.clock + 1, prio := asapPrio s t, pkey := asapPkey s t }
  | asapSh t (hc : (s.tasks t).canceled = false) (hb : s.sh = .holdAsap t) : Step s (.asap t true) t
      { setTask s t { (s.tasks t).prepped s.now with inP := true } with
        sched := prepSched s t, clock := s.clock + 1, prio := asapPrio s t, pkey := asapPkey s t, sh := .idle }
  | maxDelay t d : Step s (.maxDelay t d) t (setTask s t { s.tasks t with maxDelay := d })
  | schedZero t : Step s (.schedule t 0) t
      { setTask s t { (s.tasks t).removed with executeAt := 0, eaUser := false, owed := false } with
        queue := rmQueue s t, prio := rmPrio s t, sched := rmSched s t }
  | schedOff t tm (h0 : tm ≠ 0) (hc : (s.tasks t).canceled = true) : Step s (.schedule t tm) t
      (setTask s t { s.tasks t with executeAt := tm, eaUser := true, schedHist := tm :: (s.tasks t).schedHist })
  | sched t tm (h0 : tm ≠ 0) (hc : (s.tasks t).canceled = false) : Step s (.schedule t tm) t
      { setTask s t { s.tasks t with executeAt := tm, eaUser := true, schedHist := tm :: (s.tasks t).schedHist,
                                     inS := true } with sched := schedWith s t tm }
  | cancel t : Step s (.cancel t) t (setTask s t { s.tasks t with canceled := true, ctxDone := true })
  | qhWait t (hq : s.qh = .idle) : Step s .qhWait t { s with qh := if s.wg = 0 then .ready else .waiting }
  | popP t ps (hq : s.qh = .ready) (hp : s.prio = t :: ps) : Step s .qhPop t { s with prio := ps, qh := .hold t }
  | popQ t qs (hq : s.qh = .ready) (hp : s.prio = []) (hqq : s.queue = t :: qs) :
      Step s .qhPop t { s with queue := qs, qh := .hold t }
  | popNone t (hq : s.qh = .ready) (hp : s.prio = []) (hqq : s.queue = []) : Step s .qhPop t { s with qh := .idle }
  | runQ t s1 (hq : s.qh = .hold t) (ho : RunOut s t (shHoldsAsap s t) s1) : Step s .runQ t
      (setQh s1 (if runResOf s t = .started then .pre t else .idle))
  | runS t s1 (hq : s.sh = .holdRun t) (ho : RunOut s t false s1) : Step s .runS t
      (setSh s1 (if runResOf s t = .started then .pre t else .idle))
  | spawnQ t (hq : s.qh = .pre t) : Step s .spawnQ t
      { setTask s t { s.tasks t with sp := (s.tasks t).sp + 1, byQh := true, tmo := false } with
        wg := s.wg + 1, watchers := ⟨t, (s.tasks t).gen, true, s.now⟩ :: s.watchers, qh := .idle }
  | spawnS t (hq : s.sh = .pre t) : Step s .spawnS t
      { setTask s t { s.tasks t with sp := (s.tasks t).sp + 1, byQh := false, tmo := false } with
        wg := s.wg + 1, watchers := ⟨t, (s.tasks t).gen, false, s.now⟩ :: s.watchers, sh := .idle }
  | fnBegin t (hg : (s.tasks t).sp ≠ 0) : Step s (.fnBegin t) t
      (setTask s t { s.tasks t with sp := (s.tasks t).sp - 1, fn := (s.tasks t).fn + 1 })
  | fnEnd t (hg : (s.tasks t).fn ≠ 0) : Step s (.fnEnd t) t
      (setTask s t { s.tasks t with fn := (s.tasks t).fn - 1, dn := (s.tasks t).dn + 1 })
  | finish t (hg : (s.tasks t).dn ≠ 0) : Step s (.finish t) t
      (setTask s t { s.tasks t with dn := (s.tasks t).dn - 1, executing := false, gen := (s.tasks t).gen + 1,
                                    ctxDone := false, tmo := false })
  | slotFree t b w (hw : w ∈ s.watchers) (hwt : w.t = t)
      (hrel : released s w = true ∨ (b = true ∧ w.tm + maxExecutionWait ≤ s.now)) (hg : s.wg ≠ 0) :
      Step s (.slotFree t b) t
        { setTask s t { s.tasks t with
            tmo := (s.tasks t).tmo || (b && !released s w && w.gen == (s.tasks t).gen) } with
          watchers := s.watchers.erase w, wg := s.wg - 1,
          qh := if s.wg - 1 = 0 && s.qh == .waiting then .ready else s.qh }
  | fetchRun t (hq : s.sh = .idle) (hf : fetchRes s = .run t) : Step s .shFetch t
      { setTask s t { s.tasks t with overtime := false } with sh := .holdRun t }
  | fetchAsap t (hq : s.sh = .idle) (hf : fetchRes s = .asap t) : Step s .shFetch t
      { setTask s t { s.tasks t with overtime := true, prom := true, promAt := (s.tasks t).executeAt,
                                     subs := (s.tasks t).subs + 1, owed := true, dropped := false } with
        sh := .holdAsap t }

/-- `doQueue`, `doQueueP`, `doAsap` on an active task in closed form: where the model branches on the flag the record is
    the same (`Task.inQ_eta`: the flag is set again), so the branches merge into an `if` on queue and stamps. -/
theorem doQueue_active {s : St} {t : Nat} (hc : (s.tasks t).canceled = false) :
    doQueue s t =
      { setTask s t { ((s.tasks t).prepped s.now).submitted with inQ := true } with
        sched := prepSched s t, clock := s.clock + 1,
        queue := if (s.tasks t).inQ then s.queue else s.queue ++ [t],
        qkey := if (s.tasks t).inQ then s.qkey else fun x => if x = t then s.clock + 1 else s.qkey x } := by
  simp only [doQueue, Task.active, hc, Task.prepped_inQ, Task.submitted_inQ, Bool.not_false]
  cases hq : (s.tasks t).inQ
  · rfl
  · rw [Task.inQ_eta _ (by simp [hq])]; rfl

theorem doQueueP_active {s : St} {t : Nat} (hc : (s.tasks t).canceled = false) :
    doQueueP s t =
      { setTask s t { ((s.tasks t).prepped s.now).submitted with inP := true } with
        sched := prepSched s t, clock := s.clock + 1,
        prio := if (s.tasks t).inP then s.prio else s.prio ++ [t],
        pkey := if (s.tasks t).inP then s.pkey else fun x => if x = t then ((s.clock + 1 : Nat) : Int) else s.pkey x } := by
  simp only [doQueueP, Task.active, hc, Task.prepped_inP, Task.submitted_inP, Bool.not_false]
  cases hq : (s.tasks t).inP
  · rfl
  · rw [Task.inP_eta _ (by simp [hq])]; rfl

/-- `k1` stands for the record after `prepForQueueing` only so that it can be folded (`← hk`) before the split on `inP`. -/
theorem doAsap_active {s : St} {t : Nat} {b : Bool} {k1 : Task} (hc : (s.tasks t).canceled = false)
    (hk : k1 = if b then (s.tasks t).prepped s.now else ((s.tasks t).prepped s.now).submitted) :
    doAsap s t b =
      { setTask s t { k1 with inP := true } with
        sched := prepSched s t, clock := s.clock + 1, prio := asapPrio s t, pkey := asapPkey s t,
        sh := if b then .idle else s.sh } := by
  have hp : k1.inP = (s.tasks t).inP := by subst hk; cases b <;> simp
  simp only [doAsap, Task.active, hc, ← hk, hp, asapPrio, asapPkey, Bool.not_false]
  cases hq : (s.tasks t).inP
  · rfl
  · rw [Task.inP_eta _ (hp.trans hq)]; cases s.prio.contains t <;> rfl

theorem stepAt_step {s s' : St} {a : Act} (h : stepAt s a = some s') : ∃ t, Step s a t s' := by
  cases a with
  | newInert t => cases h; exact ⟨t, .newInert t⟩
  | queue t =>
    cases h; refine ⟨t, ?_⟩
    cases hc : (s.tasks t).canceled
    · rw [doQueue_active hc]; exact .queue t hc
    · simp only [doQueue, Task.active, hc]; exact .queueOff t hc
  | queueP t =>
    cases h; refine ⟨t, ?_⟩
    cases hc : (s.tasks t).canceled
    · rw [doQueueP_active hc]; exact .queueP t hc
    · simp only [doQueueP, Task.active, hc]; exact .queuePOff t hc
  | asap t b =>
    simp only [stepAt] at h; split at h
    · cases h
    · rename_i hg; cases h; refine ⟨t, ?_⟩
      cases hc : (s.tasks t).canceled
      · rw [doAsap_active hc rfl]
        cases b
        · exact .asapUser t hc
        · exact .asapSh t hc (by simpa using hg)
      · simp only [doAsap, Task.active, hc]
        cases b
        · exact .asapOff t hc
        · exact .asapDrop t hc (by simpa using hg)
  | maxDelay t d => cases h; exact ⟨t, .maxDelay t d⟩
  | schedule t tm =>
    cases h; refine ⟨t, ?_⟩
    by_cases h0 : tm = 0
    · subst h0; simp only [doSchedule, if_true]; exact .schedZero t
    · cases hc : (s.tasks t).canceled <;> simp only [doSchedule] <;> rw [if_neg h0]
      · rw [if_neg (by simp [Task.active, hc])]; exact .sched t tm h0 hc
      · rw [if_pos (by simp [Task.active, hc])]; exact .schedOff t tm h0 hc
  | cancel t => cases h; exact ⟨t, .cancel t⟩
  | qhWait =>
    simp only [stepAt] at h; split at h
    · cases h
    · rename_i hg; cases h; exact ⟨0, .qhWait 0 (by simpa using hg)⟩
  | qhPop =>
    simp only [stepAt] at h; split at h
    · cases h
    · rename_i hg
      have hq : s.qh = .ready := by simpa using hg
      split at h
      · cases h; exact ⟨_, .popP _ _ hq ‹_›⟩
      · split at h <;> cases h
        · exact ⟨_, .popQ _ _ hq ‹_› ‹_›⟩
        · exact ⟨0, .popNone 0 hq ‹_› ‹_›⟩
  | runQ =>
    simp only [stepAt] at h; split at h <;> cases h
    exact ⟨_, .runQ _ _ ‹_› (runSection_out ..)⟩
  | runS =>
    simp only [stepAt] at h; split at h <;> cases h
    exact ⟨_, .runS _ _ ‹_› (runSection_out ..)⟩
  | spawnQ =>
    simp only [stepAt] at h; split at h <;> cases h
    exact ⟨_, .spawnQ _ ‹_›⟩
  | spawnS =>
    simp only [stepAt] at h; split at h <;> cases h
    exact ⟨_, .spawnS _ ‹_›⟩
  | fnBegin t =>
    simp only [stepAt] at h; split at h <;> cases h
    exact ⟨t, .fnBegin t ‹_›⟩
  | fnEnd t =>
    simp only [stepAt] at h; split at h <;> cases h
    exact ⟨t, .fnEnd t ‹_›⟩
  | finish t =>
    simp only [stepAt] at h; split at h <;> cases h
    exact ⟨t, .finish t ‹_›⟩
  | slotFree t b =>
    simp only [stepAt] at h; split at h
    · cases h
    · rename_i w hw
      split at h <;> cases h
      have hp := List.find?_some hw
      simp only [Bool.and_eq_true, beq_iff_eq, Bool.or_eq_true, decide_eq_true_eq] at hp
      have := Step.slotFree (s := s) t b w (List.mem_of_find?_eq_some hw) hp.1 hp.2 ‹_›
      cases hc : (b && !released s w && w.gen == (s.tasks t).gen) <;> simp only [hc] at this ⊢
      · rw [Bool.or_false] at this; exact ⟨t, this⟩
      · rw [Bool.or_true] at this; exact ⟨t, this⟩
  | shFetch =>
    simp only [stepAt] at h; split at h
    · cases h
    · rename_i hg
      have hq : s.sh = .idle := by simpa using hg
      split at h <;> cases h
      · exact ⟨0, .fetchNone 0 hq fun u => by simp [*]⟩
      · exact ⟨0, .fetchNone 0 hq fun u => by simp [*]⟩
      · exact ⟨_, .fetchRun _ hq ‹_›⟩
      · exact ⟨_, .fetchAsap _ hq ‹_›⟩

theorem fetchOut_acts (b v o : Bool) :
    PB.Gen.Tasks.fetchOut b v = (if o then .run else .asap) ↔ b = false ∧ v = o := by
  revert b v o; decide

theorem fetchRes_acts {s : St} {t : Nat} {o : Bool} (h : fetchRes s = if o then .run t else .asap t) :
    t ∈ s.sched ∧ (s.tasks t).executeAt ≤ s.now ∧ (s.tasks t).overtime = o := by
  simp only [fetchRes] at h
  split at h
  · cases o <;> cases h
  · rename_i u us hs
    have key := (fetchOut_acts (decide (s.now < (s.tasks u).executeAt)) (s.tasks u).overtime o).1
    -- of the six combinations of outcome and `o` the two matching ones survive
    split at h <;> cases o <;> cases h
    all_goals rename_i hf; exact ⟨by simp [hs], by simpa using (key hf).1, (key hf).2⟩

theorem fetchRes_of_due {s : St} {t : Nat} {rest : List Nat} (hs : s.sched = t :: rest)
    (hdue : (s.tasks t).executeAt ≤ s.now) :
    fetchRes s = if (s.tasks t).overtime then .run t else .asap t := by
  simp only [fetchRes, hs]
  rw [(fetchOut_acts _ _ (s.tasks t).overtime).2 ⟨decide_eq_false (by omega), rfl⟩]
  cases (s.tasks t).overtime <;> rfl

theorem fetchRes_asap {s : St} {t : Nat} (h : fetchRes s = .asap t) :
    t ∈ s.sched ∧ (s.tasks t).executeAt ≤ s.now ∧ (s.tasks t).overtime = false :=
  fetchRes_acts (o := false) h

theorem fetchRes_run {s : St} {t : Nat} (h : fetchRes s = .run t) :
    t ∈ s.sched ∧ (s.tasks t).executeAt ≤ s.now ∧ (s.tasks t).overtime = true :=
  fetchRes_acts (o := true) h

/-- After a fetch step the schedule handler holds `t` for a direct run resp. for `StartASAP` exactly if the fetch section
    took that branch on `t`. -/
theorem shFetch_holds {s s' : St} (h : stepAt s .shFetch = some s') (t : Nat) :
    (s'.sh = .holdRun t ↔ fetchRes s = .run t) ∧ (s'.sh = .holdAsap t ↔ fetchRes s = .asap t) := by
  obtain ⟨u, hs⟩ := stepAt_step h
  cases hs with
  | fetchNone _ hq hf => simp [hq, hf t]
  | fetchRun _ _ hf | fetchAsap _ _ hf => simp [hf]

structure Same (s s' : St) (u : Nat) : Prop where
  now : s'.now = s.now
  task : s'.tasks u = s.tasks u
  queue : u ∈ s'.queue ↔ u ∈ s.queue
  prio : u ∈ s'.prio ↔ u ∈ s.prio
  sched : u ∈ s'.sched ↔ u ∈ s.sched
  qhold : s'.qh = .hold u ↔ s.qh = .hold u
  qpre : s'.qh = .pre u ↔ s.qh = .pre u
  srun : s'.sh = .holdRun u ↔ s.sh = .holdRun u
  sasap : s'.sh = .holdAsap u ↔ s.sh = .holdAsap u
  spre : s'.sh = .pre u ↔ s.sh = .pre u
  watch : ∀ w : Watcher, w.t = u → (w ∈ s'.watchers ↔ w ∈ s.watchers)

theorem Same.refl (s : St) (u : Nat) : Same s s u := by constructor <;> simp

theorem setTask_ne {s : St} {t x : Nat} {k' : Task} (e : x ≠ t) : (setTask s t k').tasks x = s.tasks x := by
  simp [setTask, e]

/-- The `qh` that `slotFree` leaves, with its condition as `simp` normalises it. -/
theorem wake_eq_hold (p : Prop) [Decidable p] (q : QH) (u : Nat) :
    (if p ∧ q = .waiting then QH.ready else q) = .hold u ↔ q = .hold u := by
  split <;> simp_all

theorem wake_eq_pre (p : Prop) [Decidable p] (q : QH) (u : Nat) :
    (if p ∧ q = .waiting then QH.ready else q) = .pre u ↔ q = .pre u := by
  split <;> simp_all

theorem RunOut.same {s s1 : St} {t u : Nat} {kp : Bool} (ho : RunOut s t kp s1) (e : u ≠ t) : Same s s1 u := by
  cases ho with
  | stale => exact .refl s u
  | executing | inactive | started =>
    exact { Same.refl s u with
      task := setTask_ne e, queue := mem_rmQueue_of_ne s e, prio := mem_rmPrio_of_ne s e
      sched := mem_rmSched_of_ne s e }

theorem Step.same {s s' : St} {a : Act} {t u : Nat} (hs : Step s a t s') (e : u ≠ t) : Same s s' u := by
  have e' : t ≠ u := fun h => e h.symm
  have hk {k' : Task} : (setTask s t k').tasks u = s.tasks u := setTask_ne e
  cases hs with
  | queueOff | queuePOff | asapOff | fetchNone => exact .refl s u
  | newInert | maxDelay | schedOff | cancel | fnBegin | fnEnd | finish => exact { Same.refl s u with task := hk }
  | queue =>
    exact { Same.refl s u with task := hk, queue := by split <;> simp [e], sched := mem_prepSched_of_ne s e }
  | queueP =>
    exact { Same.refl s u with task := hk, prio := by split <;> simp [e], sched := mem_prepSched_of_ne s e }
  | asapDrop _ _ hb =>
    exact { Same.refl s u with srun := by simp [hb], sasap := by simp [hb, e'], spre := by simp [hb] }
  | asapUser =>
    exact { Same.refl s u with task := hk, prio := mem_asapPrio_of_ne s e, sched := mem_prepSched_of_ne s e }
  | asapSh _ _ hb =>
    exact { Same.refl s u with
      task := hk, prio := mem_asapPrio_of_ne s e, sched := mem_prepSched_of_ne s e
      srun := by simp [hb], sasap := by simp [hb, e'], spre := by simp [hb] }
  | schedZero =>
    exact { Same.refl s u with
      task := hk, queue := mem_rmQueue_of_ne s e, prio := mem_rmPrio_of_ne s e, sched := mem_rmSched_of_ne s e }
  | sched => exact { Same.refl s u with task := hk, sched := by simp [mem_schedWith_iff, e] }
  | qhWait _ hq => exact { Same.refl s u with qhold := by split <;> simp [hq], qpre := by split <;> simp [hq] }
  | popP _ _ hq hp =>
    exact { Same.refl s u with prio := by simp [hp, e], qhold := by simp [hq, e'], qpre := by simp [hq] }
  | popQ _ _ hq hp hqq =>
    exact { Same.refl s u with queue := by simp [hqq, e], qhold := by simp [hq, e'], qpre := by simp [hq] }
  | popNone _ hq => exact { Same.refl s u with qhold := by simp [hq], qpre := by simp [hq] }
  | runQ _ _ hq ho =>
    exact { ho.same e with qhold := by split <;> simp [hq, e'], qpre := by split <;> simp [hq, e'] }
  | runS _ _ hq ho =>
    exact { ho.same e with
      srun := by split <;> simp [hq, e'], sasap := by split <;> simp [hq], spre := by split <;> simp [hq, e'] }
  | spawnQ _ hq =>
    exact { Same.refl s u with
      task := hk, qhold := by simp [hq], qpre := by simp [hq, e']
      watch := fun w hw => by simp; rintro rfl; exact absurd hw e' }
  | spawnS _ hq =>
    exact { Same.refl s u with
      task := hk, srun := by simp [hq], sasap := by simp [hq], spre := by simp [hq, e']
      watch := fun w hw => by simp; rintro rfl; exact absurd hw e' }
  | slotFree _ b w hw hwt =>
    exact { Same.refl s u with
      task := hk, qhold := by simpa using wake_eq_hold _ _ _, qpre := by simpa using wake_eq_pre _ _ _
      watch := fun w' hw' => List.mem_erase_of_ne fun h => e (by rw [← hw', h, hwt]) }
  | fetchRun _ hq | fetchAsap _ hq =>
    exact { Same.refl s u with task := hk, srun := by simp [hq, e'], sasap := by simp [hq, e'], spre := by simp [hq] }

/-- `pre t`: the handler is between the check section that started `t` and the start of its goroutine. -/
def preQ (s : St) (t : Nat) : Nat := if s.qh = .pre t then 1 else 0
def preS (s : St) (t : Nat) : Nat := if s.sh = .pre t then 1 else 0
def asapHeld (s : St) (t : Nat) : Nat := if s.sh = .holdAsap t then 1 else 0
def b2n (b : Bool) : Nat := if b then 1 else 0

/-- Exclusion: per task at most one execution is in progress, and exactly then `executing` is set. -/
def InvRun (s : St) : Prop :=
  ∀ t, preQ s t + preS s t + (s.tasks t).sp + (s.tasks t).fn + (s.tasks t).dn ≤ 1 ∧
    ((s.tasks t).executing = true ↔ preQ s t + preS s t + (s.tasks t).sp + (s.tasks t).fn + (s.tasks t).dn = 1)

/-- Credit: every start, every pending queue membership and every promotion in flight is paid for by a
    distinct submission. -/
def InvCredit (s : St) : Prop :=
  ∀ t, (s.tasks t).starts + b2n ((s.tasks t).inQ || (s.tasks t).inP) + asapHeld s t ≤ (s.tasks t).subs

theorem Same.preQ_eq {s s' : St} {u : Nat} (h : Same s s' u) : preQ s' u = preQ s u := by
  simp only [preQ, h.qpre]
theorem Same.preS_eq {s s' : St} {u : Nat} (h : Same s s' u) : preS s' u = preS s u := by
  simp only [preS, h.spre]

theorem Same.asapHeld_eq {s s' : St} {u : Nat} (h : Same s s' u) : asapHeld s' u = asapHeld s u := by
  simp only [asapHeld, h.sasap]

theorem invRun_stepAt {s s' : St} {a : Act} (hi : InvRun s) (h : stepAt s a = some s') : InvRun s' := by
  obtain ⟨t, hs⟩ := stepAt_step h
  intro u
  by_cases e : u = t
  · subst e; have ht := hi u
    cases hs with
    | queueOff | queuePOff | asapOff | fetchNone => exact ht
    | newInert | maxDelay | schedZero | schedOff | sched | cancel => simp only [setTask, ↓reduceIte]; exact ht
    | queue | queueP | asapUser => simpa [preQ, preS] using ht
    | asapDrop _ _ hb | asapSh _ _ hb => simpa [preQ, preS, hb] using ht
    | qhWait _ hq => by_cases hw : s.wg = 0 <;> simpa [preQ, preS, hq, hw] using ht
    | popP _ _ hq | popQ _ _ hq | popNone _ hq | fetchRun _ hq | fetchAsap _ hq => simpa [preQ, preS, hq] using ht
    -- `executing` is set exactly when the handler goes to `pre u`, and only if it was not set
    | runQ _ _ hq ho | runS _ _ hq ho => cases ho <;> simp [preQ, preS, *] at ht ⊢ <;> grind
    -- the execution moves from `pre u` to `sp`, `fn`, `dn` and ends together with `executing`
    | spawnQ _ hq | spawnS _ hq => simp only [preQ, preS, hq, setTask, ↓reduceIte] at ht ⊢; grind
    | fnBegin _ hg | fnEnd _ hg | finish _ hg => simp only [preQ, preS, setTask, ↓reduceIte] at ht ⊢; grind
    | slotFree => simpa [preQ, preS, wake_eq_pre] using ht
  · have hu := hs.same e
    rw [hu.preQ_eq, hu.preS_eq, hu.task]; exact hi u

theorem invCredit_stepAt {s s' : St} {a : Act} (hi : InvCredit s) (h : stepAt s a = some s') : InvCredit s' := by
  obtain ⟨t, hs⟩ := stepAt_step h
  intro u
  by_cases e : u = t
  · subst e; have ht := hi u
    cases hs with
    | queueOff | queuePOff | asapOff | fetchNone | qhWait | popP | popQ | popNone => exact ht
    | newInert | maxDelay | schedOff | sched | cancel | fnBegin | fnEnd | finish | slotFree | spawnQ =>
      simp only [setTask, ↓reduceIte]; exact ht
    -- a submission pays for the flag it sets; withdrawing clears the flags
    | queue | queueP | asapUser | schedZero => simp [asapHeld, b2n] at ht ⊢; grind
    -- a promotion is counted as a submission when fetched (`fetchAsap`) and becomes the flag `inP` (`asapSh`)
    | asapDrop _ _ hq | asapSh _ _ hq | spawnS _ hq | fetchRun _ hq | fetchAsap _ hq =>
      simp [asapHeld, b2n, hq] at ht ⊢; grind
    -- a start adds 1 to `starts` and takes the 1 of the flag away; the other outcomes only clear the flag
    | runQ _ _ hq ho | runS _ _ hq ho => cases ho <;> simp [asapHeld, b2n, *] at ht ⊢ <;> grind
  · have hu := hs.same e
    rw [hu.asapHeld_eq, hu.task]; exact hi u

theorem nodup_insertSched (ea : Nat → Nat) (t tm : Nat) (l : List Nat) (h1 : t ∉ l) (h2 : l.Nodup) :
    (insertSched ea t tm l).Nodup := by
  induction l with
  | nil => simp [insertSched]
  | cons e es ih =>
    simp only [insertSched]; split
    · simp_all
    · simp_all [mem_insertSched]; grind

theorem nodup_schedWith (s : St) (t tm : Nat) (h : s.sched.Nodup) : (schedWith s t tm).Nodup :=
  nodup_insertSched _ _ _ _ (fun hm => ((List.Nodup.mem_erase_iff h).1 hm).1 rfl) (h.erase t)

theorem nodup_prepSched {s : St} (t : Nat) (h : s.sched.Nodup) : (prepSched s t).Nodup := by
  simp only [prepSched]; split
  · exact nodup_schedWith s t _ h
  · exact h

/-- Structure of the three lists: members carry their membership flag, no duplicates, the two run queues are
    strictly sorted by their submission stamps, stamps are bounded by the stamp counter. -/
structure InvLists (s : St) : Prop where
  memQ : ∀ t, t ∈ s.queue → (s.tasks t).inQ = true
  memP : ∀ t, t ∈ s.prio → (s.tasks t).inP = true
  memS : ∀ t, t ∈ s.sched → (s.tasks t).inS = true
  ndS : s.sched.Nodup
  sortQ : s.queue.Pairwise (fun a b => s.qkey a < s.qkey b)
  sortP : s.prio.Pairwise (fun a b => s.pkey a < s.pkey b)
  bndQ : ∀ t, t ∈ s.queue → s.qkey t ≤ s.clock
  bndP : ∀ t, t ∈ s.prio → - (s.clock : Int) ≤ s.pkey t ∧ s.pkey t ≤ s.clock

/-- Both run queues are instances (the stamps of the normal queue read as integers). -/
structure RunQ (l : List Nat) (key : Nat → Int) (flag : Nat → Bool) (clock : Nat) : Prop where
  mem : ∀ t, t ∈ l → flag t = true
  sorted : l.Pairwise (fun a b => key a < key b)
  bnd : ∀ t, t ∈ l → - (clock : Int) ≤ key t ∧ key t ≤ clock

structure SchedOK (l : List Nat) (flag : Nat → Bool) : Prop where
  mem : ∀ t, t ∈ l → flag t = true
  nd : l.Nodup

theorem invLists_iff {s : St} : InvLists s ↔
    RunQ s.queue (fun t => s.qkey t) (fun t => (s.tasks t).inQ) s.clock ∧
    RunQ s.prio s.pkey (fun t => (s.tasks t).inP) s.clock ∧ SchedOK s.sched (fun t => (s.tasks t).inS) :=
  ⟨fun h => ⟨⟨h.memQ, h.sortQ.imp Int.ofNat_lt.2, fun t ht => ⟨by omega, Int.ofNat_le.2 (h.bndQ t ht)⟩⟩,
      ⟨h.memP, h.sortP, h.bndP⟩, ⟨h.memS, h.ndS⟩⟩,
   fun ⟨q, p, c⟩ => ⟨q.mem, p.mem, c.mem, c.nd, q.sorted.imp Int.ofNat_lt.1, p.sorted,
      fun t ht => Int.ofNat_le.1 (q.bnd t ht).2, p.bnd⟩⟩

theorem RunQ.nodup {l : List Nat} {key : Nat → Int} {flag : Nat → Bool} {c : Nat} (h : RunQ l key flag c) :
    l.Nodup :=
  h.sorted.imp (fun hab e => by subst e; exact Int.lt_irrefl _ hab)

theorem RunQ.head_le {l : List Nat} {key : Nat → Int} {flag : Nat → Bool} {c t u : Nat}
    (h : RunQ (t :: l) key flag c) (hu : u ∈ t :: l) : key t ≤ key u := by
  rcases List.mem_cons.1 hu with rfl | hu
  · exact Int.le_refl _
  · exact Int.le_of_lt ((List.pairwise_cons.1 h.sorted).1 u hu)

theorem RunQ.mono {l l' : List Nat} {key key' : Nat → Int} {flag flag' : Nat → Bool} {c c' : Nat}
    (h : RunQ l key flag c) (hl : l'.Sublist l) (hk : ∀ x, x ∈ l' → key' x = key x)
    (hf : ∀ x, x ∈ l' → flag' x = flag x) (hc : c ≤ c') : RunQ l' key' flag' c' where
  mem x hx := by rw [hf x hx]; exact h.mem x (hl.subset hx)
  sorted := (h.sorted.sublist hl).imp_of_mem fun {a b} ha hb hab => by rw [hk a ha, hk b hb]; exact hab
  bnd x hx := by rw [hk x hx]; have := h.bnd x (hl.subset hx); omega

theorem RunQ.snoc {l : List Nat} {key key' : Nat → Int} {flag flag' : Nat → Bool} {c t : Nat}
    (h : RunQ l key flag c) (hk : ∀ x, x ∈ l → key' x = key x) (hf : ∀ x, x ∈ l → flag' x = flag x)
    (hkt : key' t = ((c + 1 : Nat) : Int)) (hft : flag' t = true) : RunQ (l ++ [t]) key' flag' (c + 1) := by
  have h' := h.mono (List.Sublist.refl l) hk hf (Nat.le_succ c)
  refine ⟨?_, ?_, ?_⟩
  · intro x hx; rcases List.mem_append.1 hx with hx | hx
    · exact h'.mem x hx
    · rw [List.mem_singleton.1 hx]; exact hft
  · refine List.pairwise_append.2 ⟨h'.sorted, List.pairwise_singleton _ _, fun a ha b hb => ?_⟩
    rw [List.mem_singleton.1 hb, hkt, hk a ha]; have := h.bnd a ha; omega
  · intro x hx; rcases List.mem_append.1 hx with hx | hx
    · exact h'.bnd x hx
    · rw [List.mem_singleton.1 hx, hkt]; omega

theorem RunQ.cons {l l' : List Nat} {key key' : Nat → Int} {flag flag' : Nat → Bool} {c t : Nat}
    (h : RunQ l key flag c) (hl : l'.Sublist l) (hk : ∀ x, x ∈ l' → key' x = key x)
    (hf : ∀ x, x ∈ l' → flag' x = flag x) (hkt : key' t = - ((c + 1 : Nat) : Int)) (hft : flag' t = true) :
    RunQ (t :: l') key' flag' (c + 1) := by
  have h' := h.mono hl hk hf (Nat.le_succ c)
  refine ⟨?_, ?_, ?_⟩
  · intro x hx; rcases List.mem_cons.1 hx with rfl | hx
    · exact hft
    · exact h'.mem x hx
  · refine List.pairwise_cons.2 ⟨fun b hb => ?_, h'.sorted⟩
    rw [hkt, hk b hb]; have := h.bnd b (hl.subset hb); omega
  · intro x hx; rcases List.mem_cons.1 hx with rfl | hx
    · rw [hkt]; omega
    · exact h'.bnd x hx

theorem SchedOK.mono {l l' : List Nat} {flag flag' : Nat → Bool} (h : SchedOK l flag) (hl : l'.Sublist l)
    (hf : ∀ x, x ∈ l' → flag' x = flag x) : SchedOK l' flag' :=
  ⟨fun x hx => by rw [hf x hx]; exact h.mem x (hl.subset hx), h.nd.sublist hl⟩

theorem setTask_congr {α : Type} (f : Task → α) {s : St} {t : Nat} {k' : Task} (h : f k' = f (s.tasks t)) (x : Nat) :
    f ((setTask s t k').tasks x) = f (s.tasks x) := by
  simp only [setTask]; split
  · rename_i e; rw [e, h]
  · rfl

theorem rm_sublist {l : List Nat} {c : Bool} {t : Nat} : (if c then l.erase t else l).Sublist l := by
  split
  · exact List.erase_sublist
  · exact List.Sublist.refl _

theorem rmQueue_sublist (s : St) (t : Nat) : (rmQueue s t).Sublist s.queue := rm_sublist
theorem rmPrio_sublist (s : St) (t : Nat) : (rmPrio s t).Sublist s.prio := rm_sublist
theorem rmSched_sublist (s : St) (t : Nat) : (rmSched s t).Sublist s.sched := rm_sublist

/-- Without the flag `t` was not a member, and there are no duplicates. -/
theorem ne_of_mem_rm {l : List Nat} {flag : Nat → Bool} (hm : ∀ x, x ∈ l → flag x = true) (hn : l.Nodup) {t x : Nat}
    (hx : x ∈ if flag t = true then l.erase t else l) : x ≠ t := by
  split at hx
  · exact ((List.Nodup.mem_erase_iff hn).1 hx).1
  · rename_i hf; rintro rfl; exact hf (hm x hx)

theorem mem_rmSched_iff {s : St} (hi : InvLists s) (t x : Nat) : x ∈ rmSched s t ↔ x ∈ s.sched ∧ x ≠ t :=
  ⟨fun h => ⟨(rmSched_sublist s t).subset h, ne_of_mem_rm hi.memS hi.ndS h⟩,
   fun h => (mem_rmSched_of_ne s h.2).2 h.1⟩

theorem RunQ.setTask {l : List Nat} {key : Nat → Int} {f : Task → Bool} {s : St} {c c' t : Nat} {k' : Task}
    (h : RunQ l key (fun x => f (s.tasks x)) c) (hf : f k' = f (s.tasks t)) (hc : c ≤ c') :
    RunQ l key (fun x => f ((setTask s t k').tasks x)) c' :=
  h.mono (List.Sublist.refl l) (fun _ _ => rfl) (fun x _ => setTask_congr f hf x) hc

theorem SchedOK.prep {s : St} {t : Nat} {k' : Task} (h : SchedOK s.sched (fun x => (s.tasks x).inS))
    (hk : k'.inS = ((s.tasks t).prepped s.now).inS) :
    SchedOK (prepSched s t) (fun x => ((setTask s t k').tasks x).inS) := by
  refine ⟨fun x hx => ?_, nodup_prepSched t h.nd⟩
  by_cases e : x = t
  · subst e
    rcases (mem_prepSched_iff s x x).1 hx with hm | hm
    · simp [setTask, hk, hm.1]
    · simp [setTask, hk, h.mem x hm]
  · rw [setTask_ne e]; exact h.mem x (((mem_prepSched_iff s t x).1 hx).resolve_left fun hm => e hm.2)

/-- Frame: lists, stamps and membership flags untouched, stamp counter not decreased. -/
theorem invLists_frame {s s' : St} (hi : InvLists s)
    (hq : s'.queue = s.queue) (hp : s'.prio = s.prio) (hs : s'.sched = s.sched)
    (hqk : s'.qkey = s.qkey) (hpk : s'.pkey = s.pkey) (hc : s.clock ≤ s'.clock)
    (hf : ∀ x, (s'.tasks x).inQ = (s.tasks x).inQ ∧ (s'.tasks x).inP = (s.tasks x).inP ∧ (s'.tasks x).inS = (s.tasks x).inS) :
    InvLists s' := by
  obtain ⟨hQ, hP, hS⟩ := invLists_iff.1 hi
  rw [invLists_iff, hq, hp, hs, hqk, hpk]
  exact ⟨hQ.mono (.refl _) (fun _ _ => rfl) (fun x _ => (hf x).1) hc,
    hP.mono (.refl _) (fun _ _ => rfl) (fun x _ => (hf x).2.1) hc, hS.mono (.refl _) fun x _ => (hf x).2.2⟩

/-- After `removeFromQueues` of task `t` (whatever else changes in its record). -/
theorem invLists_removed {s s' : St} {t : Nat} (hi : InvLists s)
    (hq : s'.queue = rmQueue s t) (hp : s'.prio = rmPrio s t) (hs : s'.sched = rmSched s t)
    (hqk : s'.qkey = s.qkey) (hpk : s'.pkey = s.pkey) (hc : s'.clock = s.clock)
    (hne : ∀ x, x ≠ t → s'.tasks x = s.tasks x) : InvLists s' := by
  obtain ⟨hQ, hP, hS⟩ := invLists_iff.1 hi
  rw [invLists_iff, hq, hp, hs, hqk, hpk, hc]
  exact ⟨hQ.mono (rmQueue_sublist s t) (fun _ _ => rfl)
      (fun x hx => congrArg Task.inQ (hne x (ne_of_mem_rm hQ.mem hQ.nodup hx))) (Nat.le_refl _),
    hP.mono (rmPrio_sublist s t) (fun _ _ => rfl)
      (fun x hx => congrArg Task.inP (hne x (ne_of_mem_rm hP.mem hP.nodup hx))) (Nat.le_refl _),
    hS.mono (rmSched_sublist s t) fun x hx => congrArg Task.inS (hne x (ne_of_mem_rm hS.mem hS.nd hx))⟩

theorem invLists_stepAt {s s' : St} {a : Act} (hi : InvLists s) (h : stepAt s a = some s') : InvLists s' := by
  obtain ⟨t, hs⟩ := stepAt_step h
  obtain ⟨hQ, hP, hS⟩ := invLists_iff.1 hi
  cases hs with
  | queueOff | queuePOff | asapOff | fetchNone => exact hi
  | newInert | maxDelay | schedOff | cancel | spawnQ | spawnS | fnBegin | fnEnd | finish | slotFree | fetchRun
    | fetchAsap =>
    exact invLists_frame hi rfl rfl rfl rfl rfl (Nat.le_refl _)
      fun x => ⟨setTask_congr Task.inQ (by rfl) x, setTask_congr Task.inP (by rfl) x, setTask_congr Task.inS (by rfl) x⟩
  | asapDrop | qhWait | popNone =>
    exact invLists_frame hi rfl rfl rfl rfl rfl (Nat.le_refl _) fun _ => ⟨rfl, rfl, rfl⟩
  | schedZero => exact invLists_removed hi rfl rfl rfl rfl rfl rfl fun x e => setTask_ne e
  | runQ _ _ _ ho | runS _ _ _ ho =>
    cases ho with
    | stale => exact invLists_frame hi rfl rfl rfl rfl rfl (Nat.le_refl _) fun _ => ⟨rfl, rfl, rfl⟩
    | _ => exact invLists_removed hi rfl rfl rfl rfl rfl rfl fun x e => setTask_ne e
  | popP _ ps hq hp =>
    exact invLists_iff.2
      ⟨hQ, hP.mono (hp ▸ List.sublist_cons_self t ps) (fun _ _ => rfl) (fun _ _ => rfl) (Nat.le_refl _), hS⟩
  | popQ _ qs hq hp hqq =>
    exact invLists_iff.2
      ⟨hQ.mono (hqq ▸ List.sublist_cons_self t qs) (fun _ _ => rfl) (fun _ _ => rfl) (Nat.le_refl _), hP, hS⟩
  | sched _ tm h0 hc =>
    refine invLists_iff.2 ⟨hQ.setTask (by rfl) (Nat.le_refl _), hP.setTask (by rfl) (Nat.le_refl _),
      fun x hx => ?_, nodup_schedWith s t tm hS.nd⟩
    by_cases e : x = t
    · simp [setTask, e]
    · rw [setTask_ne e]; exact hS.mem x (((mem_schedWith_iff s t tm x).1 hx).resolve_left e)
  | queue _ hc =>
    refine invLists_iff.2 ⟨?_, hP.setTask (by simp) (Nat.le_succ _), hS.prep (by simp)⟩
    cases hq : (s.tasks t).inQ <;> simp only [if_true, if_false, Bool.false_eq_true]
    · have hn : t ∉ s.queue := fun hm => by have := hQ.mem t hm; simp [hq] at this
      exact hQ.snoc (fun x hx => by simp [show x ≠ t from fun e => hn (e ▸ hx)])
        (fun x hx => congrArg Task.inQ (setTask_ne fun e => hn (e ▸ hx))) (by simp) (by simp [setTask])
    · exact hQ.mono (.refl _) (fun _ _ => rfl) (fun x _ => setTask_congr Task.inQ (by simp [hq]) x) (Nat.le_succ _)
  | queueP _ hc =>
    refine invLists_iff.2 ⟨hQ.setTask (by simp) (Nat.le_succ _), ?_, hS.prep (by simp)⟩
    cases hq : (s.tasks t).inP <;> simp only [if_true, if_false, Bool.false_eq_true]
    · have hn : t ∉ s.prio := fun hm => by have := hP.mem t hm; simp [hq] at this
      exact hP.snoc (fun x hx => by simp [show x ≠ t from fun e => hn (e ▸ hx)])
        (fun x hx => congrArg Task.inP (setTask_ne fun e => hn (e ▸ hx))) (by simp) (by simp [setTask])
    · exact hP.mono (.refl _) (fun _ _ => rfl) (fun x _ => setTask_congr Task.inP (by simp [hq]) x) (Nat.le_succ _)
  | asapUser _ hc | asapSh _ hc =>
    refine invLists_iff.2 ⟨hQ.setTask (by simp) (Nat.le_succ _), ?_, hS.prep (by simp)⟩
    simp only [asapPrio, asapPkey]
    cases hq : (s.tasks t).inP
    · have hn : t ∉ s.prio := fun hm => by have := hP.mem t hm; simp [hq] at this
      simp only [if_false, Bool.false_eq_true, Bool.false_and]
      exact hP.cons (.refl _) (fun x hx => by simp [show x ≠ t from fun e => hn (e ▸ hx)])
        (fun x hx => congrArg Task.inP (setTask_ne fun e => hn (e ▸ hx))) (by simp) (by simp [setTask])
    · cases hm : s.prio.contains t <;>
        simp only [if_true, if_false, Bool.true_and, Bool.not_true, Bool.not_false, Bool.false_eq_true]
      · exact hP.mono (.refl _) (fun _ _ => rfl) (fun x _ => setTask_congr Task.inP (by simp [hq]) x) (Nat.le_succ _)
      · have hne : ∀ x, x ∈ s.prio.erase t → x ≠ t := fun x hx => ((List.Nodup.mem_erase_iff hP.nodup).1 hx).1
        exact hP.cons List.erase_sublist (fun x hx => by simp [hne x hx])
          (fun x hx => congrArg Task.inP (setTask_ne (hne x hx))) (by simp) (by simp [setTask])

/-- A submission that is still owed is remembered: the task carries a queue flag, or the schedule handler is
    about to call `StartASAP` on it — unless the request was dropped (finding). -/
def InvOwed (s : St) : Prop :=
  ∀ t, (s.tasks t).owed = true → (s.tasks t).canceled = false → (s.tasks t).dropped = false →
    (s.tasks t).inQ = true ∨ (s.tasks t).inP = true ∨ s.sh = .holdAsap t

theorem invOwed_stepAt {s s' : St} {a : Act} (hi : InvOwed s) (h : stepAt s a = some s') : InvOwed s' := by
  obtain ⟨t, hs⟩ := stepAt_step h
  intro u
  by_cases e : u = t
  · subst e; have ht := hi u
    cases hs with
    | queueOff | queuePOff | asapOff | fetchNone | qhWait | popP | popQ | popNone => exact ht
    | maxDelay | schedOff | sched | fnBegin | fnEnd | finish | slotFree | spawnQ =>
      simp only [setTask, ↓reduceIte]; exact ht
    -- cancelled, or a flag is set, or `owed` is cleared (`schedZero`)
    | newInert | cancel | queue | queueP | asapUser | schedZero => simp at ht ⊢ <;> grind
    -- `asapSh` sets `inP`, `fetchAsap` makes the handler hold `u`; the others leave a handler that did not hold it
    | asapDrop _ _ hq | asapSh _ _ hq | spawnS _ hq | fetchRun _ hq | fetchAsap _ hq =>
      simp [hq] at ht ⊢ <;> grind
    -- the flags go together with `owed` (start), or the loss is recorded in `dropped`, or the task is cancelled
    | runQ _ _ hq ho | runS _ _ hq ho => cases ho <;> simp [*] at ht ⊢ <;> grind
  · have hu := hs.same e
    rw [hu.sasap, hu.task]; exact hi u

/-- A queue flag means: the task is in that queue, or the queue handler has just taken it out and holds it. -/
def InvHold (s : St) : Prop :=
  ∀ t, ((s.tasks t).inQ = true → t ∈ s.queue ∨ s.qh = .hold t) ∧
       ((s.tasks t).inP = true → t ∈ s.prio ∨ s.qh = .hold t)

theorem invHold_stepAt {s s' : St} {a : Act} (hi : InvHold s) (h : stepAt s a = some s') : InvHold s' := by
  obtain ⟨t, hs⟩ := stepAt_step h
  intro u
  by_cases e : u = t
  · subst e; have ht := hi u
    cases hs with
    | queueOff | queuePOff | asapOff | fetchNone | asapDrop => exact ht
    | newInert | maxDelay | schedOff | sched | cancel | fnBegin | fnEnd | finish | spawnS | fetchRun | fetchAsap =>
      simp only [setTask, ↓reduceIte]; exact ht
    | schedZero => simp
    | slotFree => simpa [wake_eq_hold] using ht
    | queue | queueP => simp at ht ⊢; grind
    | asapUser | asapSh => simp [self_mem_asapPrio] at ht ⊢; grind
    -- the popped task is held; a handler that holds nothing holds nothing afterwards
    | qhWait _ hq | popP _ _ hq hp | spawnQ _ hq => simp [hq] at ht ⊢ <;> grind
    | popQ _ _ hq hp hqq | popNone _ hq hp hqq => simp [hq, hp, hqq] at ht ⊢ <;> grind
    -- the check section clears both flags unless it finds none set
    | runQ _ _ hq ho | runS _ _ hq ho => cases ho <;> simp [*] at ht ⊢ <;> grind
  · have hu := hs.same e
    rw [hu.task, hu.queue, hu.prio, hu.qhold]; exact hi u

/-- Scheduled times: which tasks may sit in a run queue without a submission from outside, and what
    `executeAt` of a schedule entry means. -/
def InvEarly (s : St) : Prop :=
  ∀ t,
    (s.sh = .holdAsap t → (s.tasks t).prom = true) ∧
    ((s.tasks t).userSub = false → ((s.tasks t).inQ = true ∨ (s.tasks t).inP = true) → (s.tasks t).prom = true) ∧
    ((s.tasks t).prom = true → (s.tasks t).promAt ≤ s.now ∧ (s.tasks t).promAt ∈ (s.tasks t).schedHist) ∧
    (t ∈ s.sched → (s.tasks t).overtime = false → (s.tasks t).eaUser = false → s.sh = .holdRun t) ∧
    (t ∈ s.sched → (s.tasks t).eaUser = false → (s.tasks t).canceled = false →
      ((s.tasks t).inQ = true ∨ (s.tasks t).inP = true)) ∧
    ((s.tasks t).eaUser = true → (s.tasks t).executeAt ∈ (s.tasks t).schedHist)

theorem InvEarly.prom_of_queued {s : St} (h : InvEarly s) {t : Nat} (hu : (s.tasks t).userSub = false)
    (hq : (s.tasks t).inQ = true ∨ (s.tasks t).inP = true) : (s.tasks t).prom = true :=
  (h t).2.1 hu hq

theorem InvEarly.prom_due {s : St} (h : InvEarly s) {t : Nat} (hp : (s.tasks t).prom = true) :
    (s.tasks t).promAt ≤ s.now ∧ (s.tasks t).promAt ∈ (s.tasks t).schedHist :=
  (h t).2.2.1 hp

theorem InvEarly.held_of_plain {s : St} (h : InvEarly s) {t : Nat} (hm : t ∈ s.sched)
    (ho : (s.tasks t).overtime = false) (he : (s.tasks t).eaUser = false) : s.sh = .holdRun t :=
  (h t).2.2.2.1 hm ho he

theorem InvEarly.ea_hist {s : St} (h : InvEarly s) {t : Nat} (he : (s.tasks t).eaUser = true) :
    (s.tasks t).executeAt ∈ (s.tasks t).schedHist :=
  (h t).2.2.2.2.2 he

theorem invEarly_stepAt {s s' : St} {a : Act} (hL : InvLists s) (hi : InvEarly s) (h : stepAt s a = some s') :
    InvEarly s' := by
  obtain ⟨t, hs⟩ := stepAt_step h
  intro u
  by_cases e : u = t
  · subst e; have ht := hi u
    cases hs with
    | queueOff | queuePOff | asapOff | fetchNone | qhWait | popP | popQ | popNone => exact ht
    | maxDelay | fnBegin | fnEnd | finish | slotFree | spawnQ => simp only [setTask, ↓reduceIte]; exact ht
    | newInert | cancel => simp at ht ⊢; grind
    -- a submission sets `userSub`; a max-delay entry is `overtime`, not `eaUser`; `Schedule` records its time
    | queue | queueP | asapUser | schedZero | schedOff | sched =>
      simp [mem_prepSched_iff, mem_schedWith_iff, mem_rmSched_iff hL] at ht ⊢; grind
    -- `asapSh` consumes what `fetchAsap` prepared: `prom` is set, the handler lets go
    | asapDrop _ _ hq | asapSh _ _ hq | spawnS _ hq => simp [mem_prepSched_iff, hq] at ht ⊢; grind
    | runQ _ _ hq ho | runS _ _ hq ho =>
      -- a start clears `prom` unless the schedule handler holds `u` for `StartASAP` (clause 1); without flags and
      -- off the schedule the other clauses are vacuous
      cases ho <;> simp [shHoldsAsap, mem_rmSched_iff hL, *] at ht ⊢ <;> grind
    -- the handler holds the task whose `overtime` it clears; it promotes only an entry that is due
    | fetchRun _ hq hf => have hf := fetchRes_run hf; simp [hq] at ht ⊢; grind
    | fetchAsap _ hq hf => have hf := fetchRes_asap hf; simp [hq] at ht ⊢; grind
  · have hu := hs.same e
    rw [hu.task, hu.sasap, hu.sched, hu.srun, hu.now]; exact hi u

def qhPast (q : QH) : Prop := q = .ready ∨ (∃ t, q = .hold t) ∨ (∃ t, q = .pre t)

/-- Slot accounting: `queueCnt` (field `wg`) counts the slot watchers; while the queue handler is past its wait, no
    watcher of an execution started by it is left; an execution started by the queue handler that has not returned,
    was not cancelled and did not exceed the execution-wait limit still has its watcher. -/
def InvWatch (s : St) : Prop :=
  ∀ u : Nat,
    s.wg = s.watchers.length ∧
    (qhPast s.qh → ∀ w, w ∈ s.watchers → w.byQh = false) ∧
    ((s.tasks u).byQh = true → 0 < (s.tasks u).sp + (s.tasks u).fn → (s.tasks u).ctxDone = false →
      (s.tasks u).tmo = false → ∃ w, w ∈ s.watchers ∧ w.t = u ∧ w.gen = (s.tasks u).gen ∧ w.byQh = true)

theorem InvWatch.count {s : St} (h : InvWatch s) : s.wg = s.watchers.length := (h 0).1

theorem InvWatch.past {s : St} (h : InvWatch s) (hq : qhPast s.qh) {w : Watcher} (hw : w ∈ s.watchers) :
    w.byQh = false :=
  (h 0).2.1 hq w hw

theorem InvWatch.watcher {s : St} (h : InvWatch s) {u : Nat} (hb : (s.tasks u).byQh = true)
    (hr : 0 < (s.tasks u).sp + (s.tasks u).fn) (hc : (s.tasks u).ctxDone = false) (ht : (s.tasks u).tmo = false) :
    ∃ w, w ∈ s.watchers ∧ w.t = u ∧ w.gen = (s.tasks u).gen ∧ w.byQh = true :=
  (h u).2.2 hb hr hc ht

def SlotsOK (s : St) : Prop :=
  s.wg = s.watchers.length ∧ (qhPast s.qh → ∀ w, w ∈ s.watchers → w.byQh = false)

/-- The third clause of `InvWatch` (`byQ`: restricted to executions started by the queue handler), resp. the same
    for every execution. -/
def Watched (byQ : Bool) (s : St) (u : Nat) : Prop :=
  (byQ = true → (s.tasks u).byQh = true) → 0 < (s.tasks u).sp + (s.tasks u).fn → (s.tasks u).ctxDone = false →
    (s.tasks u).tmo = false →
    ∃ w, w ∈ s.watchers ∧ w.t = u ∧ w.gen = (s.tasks u).gen ∧ (byQ = true → w.byQh = true)

theorem invWatch_iff {s : St} : InvWatch s ↔ SlotsOK s ∧ ∀ u, Watched true s u :=
  ⟨fun h => ⟨⟨(h 0).1, (h 0).2.1⟩, fun u => by simpa [Watched] using (h u).2.2⟩,
   fun h u => ⟨h.1.1, h.1.2, by simpa [Watched] using h.2 u⟩⟩

theorem slotsOK_stepAt {s s' : St} {a : Act} (hi : SlotsOK s) (h : stepAt s a = some s') : SlotsOK s' := by
  obtain ⟨t, hs⟩ := stepAt_step h
  obtain ⟨hlen, hby⟩ := hi
  cases hs with
  | qhWait _ hq =>
    refine ⟨hlen, fun hp w hw => ?_⟩
    have : s.watchers = [] := by
      by_cases h0 : s.wg = 0
      · exact List.length_eq_zero_iff.1 (hlen ▸ h0)
      · simp [qhPast, h0] at hp
    simp [this] at hw
  | popP _ _ hq | popQ _ _ hq | popNone _ hq =>
    exact ⟨by simpa using hlen, fun _ => by simpa using hby (by simp [qhPast, hq])⟩
  | runQ _ _ hq ho => cases ho <;> exact ⟨hlen, fun _ => hby (by simp [qhPast, hq])⟩
  | spawnQ => exact ⟨by simpa using hlen, fun hp => by simp [qhPast] at hp⟩
  | spawnS => exact ⟨by simpa using hlen, fun hp w hw => by
      rcases List.mem_cons.1 hw with rfl | hw
      · rfl
      · exact hby hp w hw⟩
  | slotFree _ b w hw hwt hrel hg =>
    have hl : (s.watchers.erase w).length = s.watchers.length - 1 := List.length_erase_of_mem hw
    refine ⟨by simp [hl, hlen], fun hp x hx => ?_⟩
    by_cases hc : s.wg - 1 = 0 ∧ s.qh = .waiting
    · have : s.watchers.erase w = [] := List.length_eq_zero_iff.1 (by omega)
      simp [this] at hx
    · exact hby (by simpa [hc] using hp) x (List.mem_of_mem_erase hx)
  | runS _ _ _ ho => cases ho <;> exact ⟨hlen, hby⟩
  | _ => exact ⟨hlen, hby⟩

theorem watched_stepAt {c : Bool} {s s' : St} {a : Act} (hR : InvRun s) (hi : ∀ u, Watched c s u)
    (h : stepAt s a = some s') : ∀ u, Watched c s' u := by
  obtain ⟨t, hs⟩ := stepAt_step h
  intro u
  by_cases e : u = t
  · subst e; have ht := hi u
    cases hs with
    | queueOff | queuePOff | asapOff | fetchNone | asapDrop | qhWait | popP | popQ | popNone => exact ht
    | newInert | maxDelay | schedZero | schedOff | sched | fetchRun | fetchAsap =>
      simp only [Watched, setTask, ↓reduceIte]; exact ht
    | queue | queueP | asapUser | asapSh => simpa [Watched] using ht
    | runQ _ _ _ ho | runS _ _ _ ho => cases ho <;> simpa [Watched] using ht
    | cancel => intro _ _ hc; simp at hc
    | spawnQ => exact fun _ _ _ _ => ⟨_, List.mem_cons_self, rfl, by simp, fun _ => rfl⟩
    | spawnS => exact fun h1 _ _ _ => ⟨_, List.mem_cons_self, rfl, by simp, fun hc => by simpa using h1 hc⟩
    | fnBegin _ hg | fnEnd _ hg => simp [Watched] at ht ⊢; grind
    -- `dn ≠ 0`, so `sp + fn = 0` by `InvRun`
    | finish _ hg => have := hR u; simp [Watched] at ht ⊢; grind
    | slotFree _ b w hw hwt hrel hg =>
      intro h1 h2 h3 h4
      simp at h1 h2 h3 h4
      obtain ⟨w0, hw0, hwt0, hgen0, hby0⟩ := ht h1 h2 h3 h4.1
      refine ⟨w0, (List.mem_erase_of_ne ?_).2 hw0, hwt0, by simpa using hgen0, hby0⟩
      -- the promised watcher is not the erased one: same generation and `ctxDone = false`, so not released, and had
      -- it timed out `tmo` would be set
      rintro rfl
      simp [released, hwt0, hgen0, h3] at hrel h4
      simp [h4.2] at hrel
  · have hu := hs.same e
    intro h1 h2 h3 h4
    rw [hu.task] at h1 h2 h3 h4 ⊢
    obtain ⟨w, hw, hwt, r⟩ := hi u h1 h2 h3 h4
    exact ⟨w, (hu.watch w hwt).2 hw, hwt, r⟩

theorem invWatch_stepAt {s s' : St} {a : Act} (hR : InvRun s) (hi : InvWatch s) (h : stepAt s a = some s') :
    InvWatch s' :=
  invWatch_iff.2 ⟨slotsOK_stepAt (invWatch_iff.1 hi).1 h, watched_stepAt hR (invWatch_iff.1 hi).2 h⟩

structure Inv (s : St) : Prop where
  run : InvRun s
  credit : InvCredit s
  lists : InvLists s
  owed : InvOwed s
  hold : InvHold s
  early : InvEarly s
  watch : InvWatch s

theorem inv_init : Inv init := by
  refine ⟨?_, ?_, ?_, ?_, ?_, ?_, ?_⟩
  · intro t; simp [init, preQ, preS]
  · intro t; simp [init, b2n, asapHeld]
  · constructor <;> simp [init]
  · intro t; simp [init]
  · intro t; simp [init]
  · intro t; simp [init]
  · intro t; simp [init, qhPast]

theorem inv_setNow {s : St} {n : Nat} (hn : s.now ≤ n) (hi : Inv s) : Inv (setNow s n) := by
  refine ⟨hi.run, hi.credit, ?_, hi.owed, hi.hold, ?_, hi.watch⟩
  · exact ⟨hi.lists.memQ, hi.lists.memP, hi.lists.memS, hi.lists.ndS, hi.lists.sortQ, hi.lists.sortP,
      hi.lists.bndQ, hi.lists.bndP⟩
  · intro t
    obtain ⟨h1, h2, h3, h4, h5, h6⟩ := hi.early t
    exact ⟨h1, h2, fun hp => ⟨Nat.le_trans (h3 hp).1 hn, (h3 hp).2⟩, h4, h5, h6⟩

theorem inv_stepAt {s s' : St} {a : Act} (hi : Inv s) (h : stepAt s a = some s') : Inv s' :=
  ⟨invRun_stepAt hi.run h, invCredit_stepAt hi.credit h, invLists_stepAt hi.lists h, invOwed_stepAt hi.owed h,
   invHold_stepAt hi.hold h, invEarly_stepAt hi.lists hi.early h, invWatch_stepAt hi.run hi.watch h⟩

theorem step_some {s s' : St} {now : Nat} {a : Act} (h : step s now a = some s') :
    s.now ≤ now ∧ stepAt (setNow s now) a = some s' := by
  simp only [step] at h
  split at h
  · cases h
  · exact ⟨by omega, h⟩

theorem inv_step {s s' : St} {now : Nat} {a : Act} (hi : Inv s) (h : step s now a = some s') : Inv s' :=
  inv_stepAt (inv_setNow (step_some h).1 hi) (step_some h).2

theorem reachable_inv {s : St} (h : Reachable s) : Inv s := by
  induction h with
  | init => exact inv_init
  | step now a _ hs ih => exact inv_step ih hs

/-- The step is the locked check section of `runWithLocking` on task `t`, issued by the handler holding `t`,
    and it takes the branch that enters the executing state. -/
def Starts (s : St) (a : Act) (t : Nat) : Prop :=
  ((a = .runQ ∧ s.qh = .hold t) ∨ (a = .runS ∧ s.sh = .holdRun t)) ∧ runResOf s t = .started

/-- The step discards the pending request of `t`: check section on `t` while `t` is executing. -/
def Drops (s : St) (a : Act) (t : Nat) : Prop :=
  ((a = .runQ ∧ s.qh = .hold t) ∨ (a = .runS ∧ s.sh = .holdRun t)) ∧ runResOf s t = .executing

theorem starts_change {s s' : St} {a : Act} (h : stepAt s a = some s') (u : Nat) :
    (s'.tasks u).starts = (s.tasks u).starts ∨ ((s'.tasks u).starts = (s.tasks u).starts + 1 ∧ Starts s a u) := by
  obtain ⟨t, hs⟩ := stepAt_step h
  by_cases e : u = t
  · subst e
    cases hs with
    | runQ _ _ hq ho | runS _ _ hq ho => cases ho <;> simp [Starts, *]
    | queue | queueP | asapUser | asapSh => exact Or.inl (by simp)
    | _ => exact Or.inl (by simp only [setTask, ↓reduceIte, Task.removed_starts])
  · exact Or.inl (by rw [(hs.same e).task])

theorem canceled_mono {s s' : St} {a : Act} (h : stepAt s a = some s') (u : Nat) (hc : (s.tasks u).canceled = true) :
    (s'.tasks u).canceled = true := by
  obtain ⟨t, hs⟩ := stepAt_step h
  by_cases e : u = t
  · subst e
    cases hs with
    | runQ _ _ _ ho | runS _ _ _ ho => cases ho <;> simpa using hc
    | _ => simp [hc]
  · rwa [(hs.same e).task]

theorem dropped_change {s s' : St} {a : Act} (h : stepAt s a = some s') (u : Nat) (hd : (s'.tasks u).dropped = true) :
    (s.tasks u).dropped = true ∨ Drops s a u := by
  obtain ⟨t, hs⟩ := stepAt_step h
  by_cases e : u = t
  · subst e
    cases hs with
    -- `executing` is the outcome that writes `dropped`; a start clears it
    | runQ _ _ hq ho | runS _ _ hq ho => cases ho <;> simp [Drops, *] at hd ⊢ <;> exact hd
    -- `dropped := false` or the old value: `hd` is contradictory or the old fact
    | queue | queueP | asapUser | asapSh | fetchAsap => revert hd; simp +contextual
    | queueOff | queuePOff | asapOff | fetchNone | asapDrop | qhWait | popP | popQ | popNone => exact Or.inl hd
    | _ => simp only [setTask, ↓reduceIte, Task.removed_dropped] at hd; exact Or.inl hd
  · exact Or.inl (by rwa [(hs.same e).task] at hd)

theorem Bool.or_of_not_both_false {a b : Bool} (h : a = false → b = false → False) : a = true ∨ b = true := by
  cases a <;> cases b <;> simp_all

theorem reachable_runTrace {s s' : St} (tr : List (Nat × Act)) (hr : Reachable s) (h : runTrace s tr = some s') :
    Reachable s' := by
  induction tr generalizing s with
  | nil => simp [runTrace] at h; subst h; exact hr
  | cons e rest ih =>
    obtain ⟨n, a⟩ := e
    simp only [runTrace] at h
    split at h
    · cases h
    · rename_i s1 hs1; exact ih (Reachable.step n a hr hs1) h

/-- An evaluated trace (`by decide`) as a reachable state with the values read off it. -/
theorem runTrace_witness {α : Type} (tr : List (Nat × Act)) (f : St → α) (v : α)
    (h : (runTrace init tr).map f = some v) : ∃ s, Reachable s ∧ f s = v := by
  cases hs : runTrace init tr with
  | none => rw [hs] at h; cases h
  | some s => rw [hs] at h; exact ⟨s, reachable_runTrace tr .init hs, Option.some.inj h⟩

/-- The same with one more step, for statements about a step from a reachable state. -/
theorem runTrace_step_witness {α : Type} (tr : List (Nat × Act)) (n : Nat) (a : Act) (f : St → St → α) (v : α)
    (h : ((runTrace init tr).bind fun s => (step s n a).map (f s)) = some v) :
    ∃ s s', Reachable s ∧ step s n a = some s' ∧ f s s' = v := by
  cases hs : runTrace init tr with
  | none => rw [hs] at h; cases h
  | some s =>
    rw [hs] at h
    cases hs' : step s n a with
    | none => rw [Option.bind_some, hs'] at h; cases h
    | some s' => rw [Option.bind_some, hs'] at h; exact ⟨s, s', reachable_runTrace tr .init hs, hs', Option.some.inj h⟩

end PB.Tasks
