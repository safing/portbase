import PB.Model.Dsd
import PB.Spec.Dsd
import PBProofs.Lemmas.Varint
/- Helper lemmas for C09 (PB.Model.Dsd). -/
namespace PB.Dsd
open PB PB.Varint PB.Gen.Dsd

theorem pack8_small (n : Nat) (h : n < 128) : pack8 n = [UInt8.ofNat n] := by
  simp [pack8, h]

theorem loadFormat_pack8 (n : Nat) (h : n < 128) (rest : Bytes) (hr : rest ≠ [] ∨ n = RAW) :
    loadFormat (pack8 n ++ rest) = .ok (n, 1) := by
  unfold loadFormat
  rw [unpack8_put n (by omega) rest]
  simp only [pack8_small n h]
  rcases hr with hr | hr
  · cases rest with
    | nil => exact absurd rfl hr
    | cons a t => simp
  · simp [hr]

theorem drop_pack8 (n : Nat) (h : n < 128) (rest : Bytes) : (pack8 n ++ rest).drop 1 = rest := by
  simp [pack8_small n h]

theorem load_ser {V : Type} (cfg : Cfg) (c : Codec V) {n : Nat} (h : n < 128) {rest : Bytes} (hr : rest ≠ [] ∨ n = RAW)
    {x : Nat} (hv : validateSerializationFormat cfg.defSer n = some x) :
    load cfg c (pack8 n ++ rest) = (n, loadAsFormat c rest n) := by
  simp only [load, loadFormat_pack8 n h rest hr, hv, drop_pack8 n h]

theorem load_comp {V : Type} (cfg : Cfg) (c : Codec V) {n : Nat} (h : n < 128) {rest : Bytes} (hr : rest ≠ [])
    (hv : validateSerializationFormat cfg.defSer n = none) :
    load cfg c (pack8 n ++ rest) = decompressAndLoad cfg c rest n := by
  simp only [load, loadFormat_pack8 n h rest (Or.inl hr), hv, drop_pack8 n h]

/-! ### table facts

Evaluated over the regenerated tables of `PB.Gen.Dsd` (and so re-checked when one changes): `auto_table`,
`accept_range_table` and the `*_table0` lemmas, with the default variables set to 0. `codec_table`, `raw_table`,
`gzip_table`, `mime_table` lift these to every value of the variables (a label outside the AUTO case set never reads
them); `dumpable_table`, `compression_table` reduce the id a caller passes (AUTO included) to a format these speak of. -/

theorem validateSer_nonAuto (d d' f : Nat) (h : f ∉ serializationAuto) :
    validateSerializationFormat d f = validateSerializationFormat d' f := by
  simp [validateSerializationFormat, h]

theorem validateComp_nonAuto (d d' f : Nat) (h : f ∉ compressionAuto) :
    validateCompressionFormat d f = validateCompressionFormat d' f := by
  simp [validateCompressionFormat, h]

theorem auto_table : AUTO ∈ serializationAuto ∧ AUTO ∈ compressionAuto := by decide

theorem validateSer_auto (d : Nat) : validateSerializationFormat d AUTO = some d := by
  simp [validateSerializationFormat, auto_table.1]

theorem validateComp_auto (d : Nat) : validateCompressionFormat d AUTO = some d := by
  simp [validateCompressionFormat, auto_table.2]

theorem codec_table0 :
    ∀ g ∈ codecFormats,
      validateSerializationFormat 0 g = some g ∧ g ∉ serializationAuto ∧ (libOf g).isSome = true ∧
      lookup g loadDispatch = lookup g dumpDispatch ∧ g < 128 ∧ g ≠ RAW := by
  decide

theorem codec_table (g : Nat) (hg : g ∈ codecFormats) :
    (∀ d, validateSerializationFormat d g = some g) ∧
    (∃ l, libOf g = some l ∧ lookup g dumpDispatch = some (.lib l) ∧ lookup g loadDispatch = some (.lib l)) ∧
    g < 128 ∧ g ≠ RAW := by
  obtain ⟨g1, g2, g3, g4, g5, g6⟩ := codec_table0 g hg
  obtain ⟨l, hl⟩ := Option.isSome_iff_exists.mp g3
  have hd : lookup g dumpDispatch = some (.lib l) := by
    unfold libOf at hl
    split at hl <;> simp_all
  exact ⟨fun d => (validateSer_nonAuto d 0 g g2).trans g1, ⟨l, hl, hd, g4.trans hd⟩, g5, g6⟩

theorem dumpable_table (d f : Nat) (hf : f ∈ dumpableFormats) (hd : f = AUTO → d ∈ codecFormats) :
    resolve d f ∈ codecFormats ∧ validateSerializationFormat d f = some (resolve d f) := by
  unfold resolve
  by_cases ha : f = AUTO
  · rw [if_pos ha, ha]
    exact ⟨hd ha, validateSer_auto d⟩
  · rw [if_neg ha]
    have hc : f ∈ codecFormats := (List.mem_cons.mp hf).resolve_left ha
    exact ⟨hc, (codec_table f hc).1 d⟩

theorem raw_table0 :
    validateSerializationFormat 0 RAW = some RAW ∧ RAW ∉ serializationAuto ∧ lookup RAW dumpDispatch = some .raw ∧
    lookup RAW loadDispatch = some .raw ∧ RAW < 128 := by
  decide

theorem raw_table :
    (∀ d, validateSerializationFormat d RAW = some RAW) ∧ lookup RAW dumpDispatch = some .raw ∧
    lookup RAW loadDispatch = some .raw ∧ RAW < 128 := by
  obtain ⟨h1, h2, h3, h4, h5⟩ := raw_table0
  exact ⟨fun d => by rw [validateSer_nonAuto d 0 _ h2]; exact h1, h3, h4, h5⟩

theorem gzip_table0 :
    validateCompressionFormat 0 GZIP = some GZIP ∧ GZIP ∉ compressionAuto ∧
    GZIP ∈ compressGzipCases ∧ GZIP ∈ decompressGzipCases ∧ GZIP < 128 ∧
    validateSerializationFormat 0 GZIP = none ∧ GZIP ∉ serializationAuto := by
  decide

theorem gzip_table :
    (∀ dc, validateCompressionFormat dc GZIP = some GZIP) ∧ GZIP ∈ compressGzipCases ∧ GZIP ∈ decompressGzipCases ∧
    GZIP < 128 ∧ (∀ d, validateSerializationFormat d GZIP = none) := by
  obtain ⟨g1, g2, g3, g4, g5, g6, g7⟩ := gzip_table0
  exact ⟨fun dc => (validateComp_nonAuto dc 0 _ g2).trans g1, g3, g4, g5, fun d => (validateSer_nonAuto d 0 _ g7).trans g6⟩

theorem compression_table (dc cm : Nat) (hcm : cm ∈ compressionFormats) (hd : cm = AUTO → dc = GZIP) :
    resolveCompression dc cm = GZIP ∧ validateCompressionFormat dc cm = some GZIP := by
  unfold resolveCompression
  by_cases ha : cm = AUTO
  · rw [if_pos ha, ha, validateComp_auto, hd ha]
    exact ⟨rfl, rfl⟩
  · rw [if_neg ha]
    have hg : cm = GZIP := List.mem_singleton.mp ((List.mem_cons.mp hcm).resolve_left ha)
    exact ⟨hg, hg ▸ gzip_table.1 dc⟩

theorem decompressAndLoad_pack8 {V : Type} (cfg : Cfg) (c : Codec V) (hc : c.Sound) {r : Nat} (h : r < 128) {p : Bytes}
    (hp : p ≠ [] ∨ r = RAW) :
    decompressAndLoad cfg c (c.gz (pack8 r ++ p)) GZIP = (r, loadAsFormat c p r) := by
  obtain ⟨g1, _, g3, _⟩ := gzip_table
  simp only [decompressAndLoad, g1, g3, ite_true, hc.gunz_gz, loadFormat_pack8 r h p hp, drop_pack8 r h]

theorem mime_table0 :
    ∀ p ∈ formatToMimeType,
      p.2 ≠ [] ∧ (splitOn 44 p.2).findSome? (fun e => lookup (cleanMime e) mimeTypeToFormat) = some p.1 ∧
      p.1 ≠ 0 ∧ p.1 ≠ AUTO ∧ p.1 ∈ codecFormats := by
  decide

/-- Everything `formatFromAccept` can answer besides AUTO has a mime type: the answer is a value of `MimeTypeToFormat`
    or the default, and under `Cfg.HttpOk` the default is in `mimeFormats`. -/
theorem accept_range_table :
    ∀ f ∈ mimeFormats ++ mimeTypeToFormat.map Prod.snd,
      f ≠ AUTO ∧ (lookup f formatToMimeType).isSome = true := by
  decide

theorem lookup_mem {α β : Type} [DecidableEq α] (k : α) (b : β) (l : List (α × β)) (h : lookup k l = some b) :
    (k, b) ∈ l := by
  induction l with
  | nil => simp [lookup] at h
  | cons p t ih =>
    obtain ⟨a, b'⟩ := p
    unfold lookup at h
    by_cases hk : a = k
    · simp [hk] at h
      subst hk h
      simp
    · simp [hk] at h
      exact List.mem_cons_of_mem _ (ih h)

theorem lookup_snd_mem {α β : Type} [DecidableEq α] (k : α) (b : β) (l : List (α × β)) (h : lookup k l = some b) :
    b ∈ l.map Prod.snd := by
  have := lookup_mem k b l h
  exact List.mem_map.mpr ⟨(k, b), this, rfl⟩

theorem dropWhile_append_stop {α : Type} (P : α → Bool) (a : List α) (x : α) (b : List α) (hx : P x = false) :
    (a ++ x :: b).dropWhile P = a.dropWhile P ++ x :: b := by
  induction a with
  | nil => simp [List.dropWhile, hx]
  | cons y t ih =>
    by_cases hy : P y = true
    · simp [List.dropWhile, hy, ih]
    · simp [List.dropWhile, hy]

theorem dropWhile_all {α : Type} (P : α → Bool) (a b : List α) (h : a.all P = true) :
    (a ++ b).dropWhile P = b.dropWhile P := by
  induction a with
  | nil => rfl
  | cons y t ih =>
    simp only [List.all_cons, Bool.and_eq_true] at h
    simp [h.1, ih h.2]

theorem ne_of_not_mem_cons {sep y : Nat} {t : Str} (h : sep ∉ y :: t) : y ≠ sep ∧ sep ∉ t :=
  ⟨fun e => h (e ▸ List.mem_cons_self), fun e => h (List.mem_cons_of_mem _ e)⟩

theorem takeWhile_ne_of_not_mem (sep : Nat) (a : Str) (h : sep ∉ a) : a.takeWhile (· != sep) = a := by
  induction a with
  | nil => rfl
  | cons y t ih =>
    obtain ⟨hy, ht⟩ := ne_of_not_mem_cons h
    have hb : (y != sep) = true := by simp [hy]
    rw [List.takeWhile_cons, hb, ih ht]
    rfl

theorem takeWhile_ne_append (sep : Nat) (a b : Str) (h : sep ∉ a) : (a ++ sep :: b).takeWhile (· != sep) = a := by
  induction a with
  | nil => simp
  | cons y t ih =>
    obtain ⟨hy, ht⟩ := ne_of_not_mem_cons h
    simp [hy, ih ht]

theorem dropWhile_ne_append (sep : Nat) (a b : Str) (h : sep ∉ a) :
    (a ++ sep :: b).dropWhile (· != sep) = sep :: b := by
  induction a with
  | nil => simp
  | cons y t ih =>
    obtain ⟨hy, ht⟩ := ne_of_not_mem_cons h
    simp [hy, ih ht]

/-- Right-trimming stops at a non-space character. -/
theorem rtrim_stop (p : Str) (x : Nat) (q : Str) (hx : isSpace x = false) :
    ((p ++ x :: q).reverse.dropWhile isSpace).reverse = p ++ x :: (q.reverse.dropWhile isSpace).reverse := by
  have : (p ++ x :: q).reverse = q.reverse ++ x :: p.reverse := by simp
  rw [this, dropWhile_append_stop isSpace _ x _ hx]
  simp

theorem ows_isSpace (c : Nat) (h : isOWS c = true) : isSpace c = true := by
  simp [isOWS] at h
  rcases h with h | h <;> subst h <;> decide

theorem all_ows_isSpace (a : Str) (h : a.all isOWS = true) : a.all isSpace = true := by
  simp only [List.all_eq_true] at *
  exact fun c hc => ows_isSpace c (h c hc)

structure TokenChar (c : Nat) : Prop where
  not_space : isSpace c = false
  ne_semicolon : c ≠ 59
  ne_slash : c ≠ 47
  lower : goLower c = asciiLower c

theorem tokenChar_facts (c : Nat) (h : isTokenChar c = true) : TokenChar c := by
  simp only [isTokenChar, Bool.and_eq_true, decide_eq_true_eq, bne_iff_ne, ne_eq] at h
  obtain ⟨⟨⟨⟨h1, h2⟩, _⟩, h4⟩, h5⟩ := h
  refine ⟨?_, h5, h4, ?_⟩
  · simp [isSpace]; omega
  · unfold goLower asciiLower
    by_cases hu : 65 ≤ c ∧ c ≤ 90
    · simp [hu]
    · have a : c ≠ 0x212A := by omega
      have b : c ≠ 0x130 := by omega
      simp [hu, a, b]

theorem all_token {s : Str} (h : s.all isTokenChar = true) {c : Nat} (hc : c ∈ s) : TokenChar c :=
  tokenChar_facts c (List.all_eq_true.mp h c hc)

theorem toLower_token (s : Str) (h : s.all isTokenChar = true) : toLower s = s.map asciiLower :=
  List.map_congr_left fun _ hc => (all_token h hc).lower

theorem not_mem_of_all_token (s : Str) (h : s.all isTokenChar = true) : 59 ∉ s ∧ 47 ∉ s :=
  ⟨fun hm => (all_token h hm).ne_semicolon rfl, fun hm => (all_token h hm).ne_slash rfl⟩

/-- The cleaning steps of `FormatFromAccept` extract exactly the (lower-cased) subtype of a well-formed element. -/
theorem cleanMime_element (e sub : Str) (h : ElementWithSubtype e sub) : cleanMime e = sub.map asciiLower := by
  obtain ⟨ws, pre, tail, he, hws, hpre, hne, hsub, htail⟩ := h
  -- body = pre ++ sub: no space, no ';'
  have hbody_tok : ∀ c ∈ pre ++ sub, isSpace c = false ∧ c ≠ 59 := by
    intro c hc
    rcases List.mem_append.mp hc with hc | hc
    · rcases hpre with hp | ⟨ty, hp, hty⟩
      · subst hp; cases hc
      · subst hp
        rcases List.mem_append.mp hc with hc | hc
        · exact ⟨(all_token hty hc).not_space, (all_token hty hc).ne_semicolon⟩
        · simp at hc; subst hc; decide
    · exact ⟨(all_token hsub hc).not_space, (all_token hsub hc).ne_semicolon⟩
  have hbody_ne : pre ++ sub ≠ [] := by simp [hne]
  have h59 : 59 ∉ pre ++ sub := fun hm => (hbody_tok 59 hm).2 rfl
  -- split the body at its last character
  obtain ⟨init, z, hz⟩ : ∃ init z, pre ++ sub = init ++ [z] :=
    ⟨(pre ++ sub).dropLast, (pre ++ sub).getLast hbody_ne, (List.dropLast_concat_getLast hbody_ne).symm⟩
  have hzs : isSpace z = false := (hbody_tok z (by rw [hz]; simp)).1
  -- first character of the body is not a space either
  have hhead : ∀ rest : Str, (ws ++ ((pre ++ sub) ++ rest)).dropWhile isSpace = (pre ++ sub) ++ rest := by
    intro rest
    rw [dropWhile_all isSpace ws _ (all_ows_isSpace ws hws)]
    cases hb : pre ++ sub with
    | nil => exact absurd hb hbody_ne
    | cons y t =>
      have : isSpace y = false := (hbody_tok y (by rw [hb]; simp)).1
      simp [this]
  have hcut : cutBefore 59 (trimSpace e) = pre ++ sub := by
    rcases htail with ht | ⟨params, ht⟩
    · have : trimSpace e = pre ++ sub := by
        unfold trimSpace
        rw [he, List.append_assoc, List.append_assoc, ← List.append_assoc pre, hhead tail, hz, List.append_assoc]
        simp only [List.singleton_append]
        rw [rtrim_stop init z tail hzs]
        have : tail.reverse.dropWhile isSpace = [] := by
          simpa using dropWhile_all isSpace tail.reverse [] (by simpa using all_ows_isSpace tail ht)
        simp [this]
      rw [this]
      exact takeWhile_ne_of_not_mem 59 _ h59
    · have : ∃ q, trimSpace e = (pre ++ sub) ++ 59 :: q := by
        unfold trimSpace
        rw [he, List.append_assoc, List.append_assoc, ← List.append_assoc pre, hhead tail, ht]
        exact ⟨_, rtrim_stop (pre ++ sub) 59 params (by decide)⟩
      obtain ⟨q, hq⟩ := this
      rw [hq]
      exact takeWhile_ne_append 59 _ q h59
  have h47sub : 47 ∉ sub := (not_mem_of_all_token sub hsub).2
  unfold cleanMime
  simp only [hcut]
  rcases hpre with hp | ⟨ty, hp, hty⟩
  · subst hp
    simp only [List.nil_append, h47sub, ite_false]
    exact toLower_token sub hsub
  · subst hp
    have h47ty : 47 ∉ ty := (not_mem_of_all_token ty hty).2
    have hmem : 47 ∈ ty ++ [47] ++ sub := by simp
    simp only [hmem, ite_true]
    have : cutAfter 47 (ty ++ [47] ++ sub) = sub := by
      unfold cutAfter
      rw [List.append_assoc, List.singleton_append, dropWhile_ne_append 47 ty sub h47ty]
      rfl
    rw [this]
    exact toLower_token sub hsub

theorem element_ne_nil {e sub : Str} (h : ElementWithSubtype e sub) : e ≠ [] := by
  obtain ⟨ws, pre, tail, rfl, _, _, hs, _, _⟩ := h
  cases sub with
  | nil => exact absurd rfl hs
  | cons x t => simp

theorem ffaLoop_spec (d : Nat) (es : List Str) (w : Bool) :
    ffaLoop d es w =
      (match es.findSome? (fun e => lookup (cleanMime e) mimeTypeToFormat) with
       | some f => f
       | none => if (w || es.any (fun e => cleanMime e == [42])) = true then d else AUTO) := by
  induction es generalizing w with
  | nil => simp [ffaLoop, List.findSome?]
  | cons e t ih =>
    unfold ffaLoop
    cases hl : lookup (cleanMime e) mimeTypeToFormat with
    | some f => simp [List.findSome?, hl]
    | none =>
      simp only [List.findSome?, hl, ih, List.any_cons]
      cases List.findSome? (fun e => lookup (cleanMime e) mimeTypeToFormat) t with
      | some f => rfl
      | none => simp [Bool.or_assoc]

theorem formatFromAccept_of_ne_nil (d : Nat) {a : Str} (ha : a ≠ []) :
    formatFromAccept d a =
      match (splitOn 44 a).findSome? (fun e => lookup (cleanMime e) mimeTypeToFormat) with
      | some f => f
      | none => if (splitOn 44 a).any (fun e => cleanMime e == [42]) = true then d else AUTO := by
  unfold formatFromAccept
  simp only [ha, ite_false, ffaLoop_spec, Bool.false_or]

/-- `formatFromAccept` answers AUTO, the default, or a value of `MimeTypeToFormat`. -/
theorem formatFromAccept_range (d : Nat) (a : Str) :
    formatFromAccept d a = AUTO ∨ formatFromAccept d a ∈ d :: mimeTypeToFormat.map Prod.snd := by
  by_cases ha : a = []
  · simp [ha, formatFromAccept]
  · rw [formatFromAccept_of_ne_nil d ha]
    cases hf : (splitOn 44 a).findSome? (fun e => lookup (cleanMime e) mimeTypeToFormat) with
    | some f =>
      obtain ⟨e, _, he⟩ := List.exists_of_findSome?_eq_some hf
      exact Or.inr (List.mem_cons_of_mem _ (lookup_snd_mem _ _ _ he))
    | none =>
      simp only
      split
      · exact Or.inr (by simp)
      · exact Or.inl rfl

/-- A header with an element whose cleaned name is in the table is answered without reading the default. -/
theorem formatFromAccept_hit (d : Nat) (a : Str) (f : Nat) (ha : a ≠ [])
    (h : (splitOn 44 a).findSome? (fun e => lookup (cleanMime e) mimeTypeToFormat) = some f) :
    formatFromAccept d a = f := by
  rw [formatFromAccept_of_ne_nil d ha, h]

/-- Every format with a mime type goes through a codec, is not AUTO, and `formatFromAccept` maps its mime type back
    to it — under every value of the default variable. -/
theorem mime_table :
    ∀ p ∈ formatToMimeType, (∀ d, formatFromAccept d p.2 = p.1) ∧ p.1 ≠ 0 ∧ p.1 ≠ AUTO ∧ p.1 ∈ codecFormats := by
  intro p hp
  obtain ⟨h1, h2, h3, h4, h5⟩ := mime_table0 p hp
  exact ⟨fun d => formatFromAccept_hit d _ _ h1 h2, h3, h4, h5⟩

theorem splitOn_append (sep : Nat) (e rest : Str) (h : sep ∉ e) :
    splitOn sep (e ++ sep :: rest) = e :: splitOn sep rest := by
  induction e with
  | nil => simp [splitOn]
  | cons y t ih =>
    obtain ⟨hy, ht⟩ := ne_of_not_mem_cons h
    simp [splitOn, hy, ih ht]

theorem splitOn_single (sep : Nat) (e : Str) (h : sep ∉ e) : splitOn sep e = [e] := by
  induction e with
  | nil => simp [splitOn]
  | cons y t ih =>
    obtain ⟨hy, ht⟩ := ne_of_not_mem_cons h
    simp [splitOn, hy, ih ht]

/-- Splitting a header written from a (non-empty) list of comma-free elements gives the list back — every element,
    however many there are. -/
theorem splitOn_joinComma (es : List Str) (hne : es ≠ []) (h : ∀ e ∈ es, 44 ∉ e) :
    splitOn 44 (joinComma es) = es := by
  induction es with
  | nil => exact absurd rfl hne
  | cons e t ih =>
    cases t with
    | nil => simpa [joinComma] using splitOn_single 44 e (h e (by simp))
    | cons e' t' =>
      have he : 44 ∉ e := h e (by simp)
      have ih' := ih (by simp) (fun x hx => h x (List.mem_cons_of_mem _ hx))
      simp only [joinComma]
      rw [splitOn_append 44 e _ he, ih']

theorem joinComma_ne_nil (pre post : List Str) (e : Str) (he : e ≠ []) : joinComma (pre ++ e :: post) ≠ [] := by
  cases pre with
  | nil =>
    cases post with
    | nil => simpa [joinComma] using he
    | cons p ps => simp [joinComma, he]
  | cons x t =>
    cases ht : t ++ e :: post with
    | nil => simp at ht
    | cons y ys =>
      have : (x :: t) ++ e :: post = x :: y :: ys := by simp [ht]
      rw [this]
      simp [joinComma]

theorem loadAsFormat_ok {V : Type} {c : Codec V} {d : Bytes} {g : Nat} {v : V} (h : loadAsFormat c d g = .ok v) :
    ∃ l, lookup g loadDispatch = some (.lib l) ∧ c.dec l d = some v := by
  unfold loadAsFormat at h
  cases hl : lookup g loadDispatch with
  | none => simp [hl] at h
  | some disp =>
    cases disp with
    | raw => simp [hl] at h
    | lib l =>
      cases hv : c.dec l d with
      | none => simp [hl, hv] at h
      | some v' =>
        simp only [hl, hv, Except.ok.injEq] at h
        exact ⟨l, rfl, h ▸ hv⟩

section
variable {V : Type} (cfg : Cfg) (c : Codec V) (v : V) {g : Nat} (hg : g ∈ codecFormats) (indent : Str)
include hg

theorem dumpWithoutIdentifier_codec :
    ∃ l, libOf g = some l ∧ lookup g loadDispatch = some (.lib l) ∧
      dumpWithoutIdentifier cfg c v g indent =
        match (if l = .json ∧ indent ≠ [] then c.encIndent indent v else c.enc l v) with
        | some b => .ok b
        | none => .error .codec := by
  obtain ⟨hv, ⟨l, hl, hdd, hld⟩, _, _⟩ := codec_table g hg
  refine ⟨l, hl, hld, ?_⟩
  simp only [dumpWithoutIdentifier, hv, hdd]
  rfl

/-- What it writes is not empty, and `LoadAsFormat` reads it back. -/
theorem loadAsFormat_dumpWithoutIdentifier (hc : c.Sound) {data : Bytes}
    (hd : dumpWithoutIdentifier cfg c v g indent = .ok data) : data ≠ [] ∧ loadAsFormat c data g = .ok v := by
  obtain ⟨l, _, hld, he⟩ := dumpWithoutIdentifier_codec cfg c v hg indent
  rw [he] at hd
  by_cases hi : l = .json ∧ indent ≠ []
  · rw [if_pos hi] at hd
    cases hp : c.encIndent indent v with
    | none => rw [hp] at hd; cases hd
    | some p =>
      rw [hp] at hd
      cases hd
      exact ⟨hc.encIndent_ne _ _ _ hp, by simp only [loadAsFormat, hld, hi.1, hc.dec_encIndent _ _ _ hp]⟩
  · rw [if_neg hi] at hd
    cases hp : c.enc l v with
    | none => rw [hp] at hd; cases hd
    | some p =>
      rw [hp] at hd
      cases hd
      exact ⟨hc.enc_ne _ _ _ hp, by simp only [loadAsFormat, hld, hc.dec_enc _ _ _ hp]⟩

/-- ... and it succeeds whenever the codec can encode the value. -/
theorem dumpWithoutIdentifier_succeeds (henc : ∀ l, (c.enc l v).isSome = true) :
    ∃ data, dumpWithoutIdentifier cfg c v g [] = .ok data := by
  obtain ⟨l, _, _, he⟩ := dumpWithoutIdentifier_codec cfg c v hg []
  obtain ⟨p, hp⟩ := Option.isSome_iff_exists.mp (henc l)
  exact ⟨p, by rw [he, if_neg (fun h => h.2 rfl), hp]⟩

end

theorem dumpIndent_ok {V : Type} (cfg : Cfg) (c : Codec V) (hc : c.Sound) (v : V) (f : Nat) (hf : f ∈ dumpableFormats)
    (hcfg : f = AUTO → cfg.SerOk) (indent : Str) (blob : Bytes) (hd : dumpIndent cfg c v f indent = .ok blob) :
    ∃ p, blob = pack8 (resolve cfg.defSer f) ++ p ∧ p ≠ [] ∧ loadAsFormat c p (resolve cfg.defSer f) = .ok v ∧
      resolve cfg.defSer f < 128 ∧ ∀ d, validateSerializationFormat d (resolve cfg.defSer f) = some (resolve cfg.defSer f) := by
  obtain ⟨hr, hv⟩ := dumpable_table cfg.defSer f hf hcfg
  obtain ⟨hv', _, h5, _⟩ := codec_table _ hr
  simp only [dumpIndent, hv] at hd
  cases hw : dumpWithoutIdentifier cfg c v (resolve cfg.defSer f) indent with
  | error e => rw [hw] at hd; cases hd
  | ok p =>
    rw [hw] at hd
    cases hd
    obtain ⟨hne, hl⟩ := loadAsFormat_dumpWithoutIdentifier cfg c v hr indent hc hw
    exact ⟨p, rfl, hne, hl, h5, hv'⟩

theorem mime_table_of_lookup {f : Nat} {mime : Str} (hm : lookup f formatToMimeType = some mime) :
    (∀ d, formatFromAccept d mime = f) ∧ f ≠ 0 ∧ f ≠ AUTO ∧ f ∈ codecFormats :=
  mime_table (f, mime) (lookup_mem _ _ _ hm)

theorem mimeLoad_dumpWithoutIdentifier {V : Type} (cfg cfg' : Cfg) (c : Codec V) (hc : c.Sound) (v : V) {f : Nat} {mime : Str}
    (hm : lookup f formatToMimeType = some mime) {data : Bytes} (hd : dumpWithoutIdentifier cfg c v f [] = .ok data) :
    mimeLoad cfg' c data mime = (f, .ok v) := by
  obtain ⟨hfix, hne, _, hg⟩ := mime_table_of_lookup hm
  simp only [mimeLoad, hfix, hne, ite_false, (loadAsFormat_dumpWithoutIdentifier cfg c v hg [] hc hd).2]

theorem dumpToHTTPResponse_ok {V : Type} (cfg : Cfg) (c : Codec V) (v : V) (r : Req)
    (henc : ∀ l, (c.enc l v).isSome = true) (h1 : formatFromAccept cfg.defSer (r.accept.getD []) ≠ AUTO)
    (h2 : (lookup (formatFromAccept cfg.defSer (r.accept.getD [])) formatToMimeType).isSome = true) :
    ∃ w, dumpToHTTPResponse cfg c {} r v = (w, none) := by
  obtain ⟨mime, hm⟩ := Option.isSome_iff_exists.mp h2
  obtain ⟨data, hd⟩ := dumpWithoutIdentifier_succeeds cfg c v (mime_table_of_lookup hm).2.2.2 henc
  exact ⟨{ contentType := some mime, body := [] ++ data }, by simp [dumpToHTTPResponse, mimeDump, h1, hm, hd]⟩

/-- A string literal unfolds to `String.ofList` of its characters: `rw` with this reads its code points off, where
    evaluating `String.toList` would go through the UTF-8 decoder. -/
theorem str_ofList (l : List Char) : str (String.ofList l) = l.map Char.toNat := by
  rw [str, String.toList_ofList]

/-- A toy codec satisfying the contract: values are byte strings, every codec is "prefix with 7". -/
def toy : Codec Bytes where
  enc _ v := some (7 :: v)
  encIndent _ v := some (7 :: v)
  dec _ b := match b with | 7 :: v => some v | _ => none
  asBytes v := some v
  gz b := 31 :: 139 :: b
  gunz b := match b with | 31 :: 139 :: r => .ok r | _ => .error .gunzip

theorem toy_sound : toy.Sound :=
  { dec_enc := fun _ _ _ h => by cases h; rfl
    enc_ne := fun _ _ _ h => by cases h; exact List.cons_ne_nil _ _
    dec_encIndent := fun _ _ _ h => by cases h; rfl
    encIndent_ne := fun _ _ _ h => by cases h; exact List.cons_ne_nil _ _
    gunz_gz := fun _ => rfl
    gz_ne := fun _ => List.cons_ne_nil _ _ }

end PB.Dsd
