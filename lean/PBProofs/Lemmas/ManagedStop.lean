import PBProofs.Lemmas.ManagedInv
/-! The wait of `stopAllTasks` and the fetch of the stop routine's result: invariant of the stop items. -/
namespace PB.Managed

/-! Both receives of the stop routine's result in `stopAllTasks` assign to the function's own `err` (regenerated from
the source; with `:=` at a site the `err` reported from there stays nil, see `stopErr`). -/

theorem fetchAssigns_completed : fetchAssigns "completed" = true := by decide
theorem fetchAssigns_timeout : fetchAssigns "timeout" = true := by decide

theorem stopErr_sent (timeout : Bool) (r : CtrlRet) : stopErr timeout true (some r) = r := by
  cases timeout <;> simp [stopErr, fetchAssigns_completed, fetchAssigns_timeout]

theorem stopErr_timeout_unsent (c : Option CtrlRet) : stopErr true false c = .nil := by
  simp [stopErr]

/-- What a stop item has recorded about its stopper. -/
structure Item.StopLocal (it : Item) : Prop where
  /-- the stop routine's result is on the channel only when the routine's goroutine has run to its end -/
  sentS : it.kind = .stop → it.sent = true → it.pc = 9
  /-- a stopper that has left its wait: what it fetched is what the two selects make of the state of the channel at
      that moment; after completion the result had been sent -/
  pass : ∀ w, it.waited = some w → it.passErr = stopErr w it.sawSent it.cret ∧ (it.sawSent = true → it.sent = true) ∧
    (w = false → it.sawSent = true)

theorem fresh_stopLocal (it : Item) (h : it.fresh = true) : it.StopLocal := by
  obtain ⟨-, -, -, -, -, -, -, hsent, hwaited⟩ := (fresh_iff it).mp h
  exact ⟨fun _ h => by simp [hsent] at h, fun w h => by simp [hwaited] at h⟩

/-- A stop item at pc 9 (result sent) takes no further step. -/
theorem itemStep_stop_end {env : Env} {it it' : Item} {ch : Bool} {e : Eff}
    (h : itemStep env it ch = some (it', e)) (hk : it.kind = .stop) (hp : it.pc = 9) : False := by
  rw [itemStep_stop hk] at h
  simp [stopStep, hp] at h

theorem itemStep_stopLocal {env : Env} {it it' : Item} {ch : Bool} {e : Eff}
    (h : itemStep env it ch = some (it', e)) (hl : it.StopLocal) (hw : ∀ w, it.waited = some w → it.kind = .stop) :
    it'.StopLocal := by
  have f := itemStep_frame h
  refine ⟨?_, ?_⟩
  · -- only the last step of the stop program sends
    have hl := hl.sentS
    rw [f.kind]
    intro hk
    rw [itemStep_stop hk] at h
    prog_cases stopStep h
    all_goals simp_all
  intro w hw'
  rw [f.waited] at hw'
  obtain ⟨p1, p2, p3⟩ := hl.pass w hw'
  have hk := hw w hw'
  by_cases hs : it.sawSent = true
  · -- the result had been sent: the item is at the end of its program
    exact (itemStep_stop_end h hk (hl.sentS hk (p2 hs))).elim
  · -- the stopper gave up on an empty channel: it reports nil whatever the routine does afterwards
    have hs' : it.sawSent = false := by simpa using hs
    have hwt : w = true := by
      cases w
      · exact absurd (p3 rfl) hs
      · rfl
    subst hwt
    refine ⟨?_, ?_, ?_⟩
    · rw [f.passErr, f.sawSent, hs', stopErr_timeout_unsent, p1, hs', stopErr_timeout_unsent]
    · intro hh; rw [f.sawSent, hs'] at hh; cases hh
    · intro hh; cases hh

/-- Every item satisfies `StopLocal`, and only stop items have a stopper. -/
structure StopInv (s : St) : Prop where
  loc : ∀ (i : Nat) (it : Item), s.items[i]? = some it → it.StopLocal
  kind : ∀ (i : Nat) (it : Item), s.items[i]? = some it → ∀ w, it.waited = some w → it.kind = .stop

theorem stopInv_set {s s' : St} {i : Nat} {it' : Item} (hi : StopInv s) (hs : s'.items = s.items.set i it')
    (hl : it'.StopLocal) (hk : ∀ w, it'.waited = some w → it'.kind = .stop) : StopInv s' := by
  constructor <;> intro j x hx <;> rw [hs] at hx <;> rcases getElem?_set_cases hx with ⟨_, rfl⟩ | ⟨_, hx'⟩
  · exact hl
  · exact hi.loc j x hx'
  · exact hk
  · exact hi.kind j x hx'

theorem stopperWaiting_kind {it : Item} (h : it.stopperWaiting = true) : it.kind = .stop := by
  simp only [Item.stopperWaiting, Bool.and_eq_true, beq_iff_eq] at h
  exact h.1.1

theorem stopInv_step {s s' : St} {a : Act} (hi : StopInv s) (h : step s a = some s') : StopInv s' := by
  refine step_cases h ?_ (fun _ => ⟨hi.loc, hi.kind⟩) (fun _ => ⟨hi.loc, hi.kind⟩) ?_ ?_ ?_
  · intro i ch it it' e hit hs
    have f := itemStep_frame hs
    exact stopInv_set hi (apply_items ..) (itemStep_stopLocal hs (hi.loc i it hit) (hi.kind i it hit))
      (by rw [f.kind, f.waited]; exact hi.kind i it hit)
  · intro it hf
    constructor <;> intro j x hx <;> rcases getElem?_append_singleton hx with hx' | rfl
    · exact hi.loc j x hx'
    · exact fresh_stopLocal _ hf
    · exact hi.kind j x hx'
    · obtain ⟨-, -, -, -, -, -, -, -, hwaited⟩ := (fresh_iff _).mp hf
      intro w hw; simp [hwaited] at hw
  · intro i outs it hit hk _
    -- `sentS` is vacuous: the item is a task
    exact stopInv_set hi rfl ⟨by intro hk'; simp [hk] at hk', (hi.loc i it hit).pass⟩ (hi.kind i it hit)
  · intro i timeout it hit hwait hg
    have hkind := stopperWaiting_kind hwait
    refine stopInv_set hi rfl ⟨(hi.loc i it hit).sentS, ?_⟩ (fun _ _ => hkind)
    -- the completion branch is taken only with the result on the channel
    intro w hw
    simp only [Option.some.injEq] at hw
    subst hw
    refine ⟨rfl, id, fun hf => ?_⟩
    rcases hg with ht | ht
    · rw [hf] at ht; cases ht
    · exact ht.2

theorem reachable_stopInv {s : St} (h : Reachable s) : StopInv s := by
  obtain ⟨set, cap, as, h⟩ := h
  refine run_induct stopInv_step ⟨?_, ?_⟩ h
  all_goals intro i it hit; simp [St.init'] at hit

/-- `runStop` for a panicking stop routine, by completion and by timeout alike. -/
theorem runStop_panic (v : PCls) (linger : Bool) :
    runStop (some (.panic v)) linger = (.panicMsg, [panicReport .ctrl v]) := by
  cases linger <;> cases v <;> decide

theorem runStop_err (linger : Bool) : runStop (some .err) linger = (.err, []) := by
  cases linger <;> decide

end PB.Managed
