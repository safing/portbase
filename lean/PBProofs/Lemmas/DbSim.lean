import PB.Model.Db
import PB.Spec.KVStore
import PBProofs.Lemmas.Db
/-
Simulation between the interface model (cache + controller + storage) and the reference map.
-/
namespace PB.Db
open PB.KV

theorem Meta.valid_iff {m : Meta} {now : Int} :
    m.valid now = true ↔ ¬ m.deleted > 0 ∧ ¬ (m.expires > 0 ∧ m.expires < now) := by
  unfold Meta.valid; (repeat' split) <;> simp [*]

theorem Meta.valid_antitone {m : Meta} {now now' : Int} (h : now ≤ now') (hv : m.valid now' = true) :
    m.valid now = true := by
  rw [Meta.valid_iff] at *; omega

theorem Meta.valid_not_deleted {m : Meta} {now : Int} (hv : m.valid now = true) : ¬ m.deleted > 0 :=
  (Meta.valid_iff.1 hv).1

theorem Meta.deleted_invalid {m : Meta} {now : Int} (hd : m.deleted > 0) : m.valid now = false := by
  simp [Meta.valid, hd]

theorem Meta.isDeleted_iff (m : Meta) : m.isDeleted = true ↔ m.deleted > 0 := by
  simp [Meta.isDeleted]

theorem stored_md (b : Backend) (r : Rec) : (stored b r).md = r.md := by
  unfold stored; (repeat' split) <;> rfl

theorem stored_key (b : Backend) (r : Rec) : (stored b r).key = r.key := by
  unfold stored; (repeat' split) <;> rfl

theorem stored_idem (b : Backend) (r : Rec) : stored b (stored b r) = stored b r := by
  unfold stored
  by_cases hs : b.serializes = true <;> by_cases hd : r.md.deleted > 0 <;> by_cases hf : r.form = .struct <;>
    simp [hs, hd, hf]

/-- Changing the metadata commutes with the change of representation (for a record that is not deleted). -/
theorem stored_setmd (b : Backend) (r : Rec) (x : Meta) (hd : ¬ r.md.deleted > 0) :
    stored b { stored b r with md := x } = stored b { r with md := x } := by
  unfold stored
  by_cases hs : b.serializes = true <;> by_cases hx : x.deleted > 0 <;> by_cases hf : r.form = .struct <;>
    simp [hs, hd, hx, hf]

theorem stored_setmd_fields (b : Backend) (r : Rec) (x : Meta) (fs : Fields) (hd : ¬ r.md.deleted > 0) :
    stored b { stored b r with md := x, fields := fs } = stored b { r with md := x, fields := fs } := by
  unfold stored
  by_cases hs : b.serializes = true <;> by_cases hx : x.deleted > 0 <;> by_cases hf : r.form = .struct <;>
    simp [hs, hd, hx, hf]

theorem hasAccess_stored (o : Opts) (b : Backend) (r : Rec) : o.hasAccess (stored b r) = o.hasAccess r := by
  unfold Opts.hasAccess; rw [stored_md]

theorem vis_of_valid {now : Int} {r : Rec} (hv : r.md.valid now = true) : vis now (some r) = some r := by
  simp [vis, hv]

theorem vis_of_invalid {now : Int} {r : Rec} (hv : r.md.valid now = false) : vis now (some r) = none := by
  simp [vis, hv]

theorem vis_none (now : Int) : vis now none = none := rfl

theorem vis_some {now : Int} {o : Option Rec} {r : Rec} (h : vis now o = some r) :
    o = some r ∧ r.md.valid now = true := by
  cases o with
  | none => cases h
  | some x => simp only [vis] at h; split at h <;> cases h; exact ⟨rfl, ‹_›⟩

theorem vis_stored {now : Int} {b : Backend} {r : Rec} (hv : r.md.valid now = true) :
    vis now (some (stored b r)) = some (stored b r) :=
  vis_of_valid (by rw [stored_md]; exact hv)

/-- Later views are a function of earlier views: validity only decays. -/
theorem vis_mono {now now' : Int} (h : now ≤ now') {a b : Option Rec} (hab : vis now a = vis now b) :
    vis now' a = vis now' b := by
  have key : ∀ x, vis now' x = (vis now x).bind (fun r => if r.md.valid now' then some r else none) := by
    intro x
    cases x with
    | none => rfl
    | some r =>
      cases hv' : r.md.valid now' with
      | true => simp [vis, Meta.valid_antitone h hv', hv']
      | false => cases hv : r.md.valid now <;> simp [vis, hv, hv']
  rw [key a, key b, hab]

theorem ctlGet_vis (s : Store) (k : String) (now : Int) :
    ctlGet s k now = match vis now (s.get k) with | none => .error .notFound | some r => .ok r := by
  unfold ctlGet vis
  cases s.get k with
  | none => rfl
  | some r => simp only; split <;> rfl

/-- The reference map `m` describes what interface state `st` shows at time `now`. -/
structure Sim (cfg : Cfg) (o : Opts) (now : Int) (st : ISt) (m : Store) : Prop where
  /-- storage and reference agree on what is visible -/
  view : ∀ k, vis now (st.store.get k) = vis now (m.get k)
  /-- a cached record that is still valid is the record the storage holds -/
  coh : ∀ k rc, st.cache.get k = some rc → rc.md.valid now = true → st.store.get k = some (stored cfg.backend rc)
  /-- storage holds records in the representation the backend hands out, so a record read from it is its own stored
      form (what the reference `get` answers, what a cache fill and `InsertValue` write back) -/
  fixed : ∀ k r, st.store.get k = some r → stored cfg.backend r = r
  nds : st.store.NodupKeys
  ndm : m.NodupKeys
  /-- no delayed write set -/
  wc : st.wcache = []
  /-- an interface without cache has none -/
  nc : o.cache = .none → st.cache = []

section sim
variable {cfg : Cfg} {o : Opts} {now : Int} {st : ISt} {m : Store}

theorem Sim.mono {now' : Int} (h : now ≤ now') (hs : Sim cfg o now st m) : Sim cfg o now' st m :=
  { hs with
    view := fun k => vis_mono h (hs.view k)
    coh := fun k rc hc hv => hs.coh k rc hc (Meta.valid_antitone h hv) }

theorem Sim.init (cfg : Cfg) (o : Opts) (now : Int) : Sim cfg o now {} [] :=
  { view := fun _ => rfl
    coh := fun _ _ hc _ => by cases hc
    fixed := fun _ _ h => by cases h
    nds := Store.nodup_nil, ndm := Store.nodup_nil, wc := rfl, nc := fun _ => rfl }

theorem evict_nowc (cfg : Cfg) (st : ISt) (k : String) (hw : st.wcache = []) :
    evict cfg st k = { st with cache := st.cache.del k } := by
  unfold evict; rw [hw]; rfl

theorem Sim.sub (hs : Sim cfg o now st m) {st' : ISt} (hstore : st'.store = st.store) (hw : st'.wcache = [])
    (hc : ∀ k rc, st'.cache.get k = some rc → st.cache.get k = some rc) (hn : o.cache = .none → st'.cache = []) :
    Sim cfg o now st' m := by
  obtain ⟨s', c', w', n'⟩ := st'
  subst hstore hw
  exact { hs with coh := fun k rc h hv => hs.coh k rc (hc k rc h) hv, nc := hn, wc := rfl }

theorem Sim.dropCache (hs : Sim cfg o now st m) (k : String) : Sim cfg o now { st with cache := st.cache.del k } m :=
  hs.sub rfl hs.wc (fun k' rc h => by simp only [Store.get_del] at h; split at h; cases h; exact h)
    (fun h => by simp only [hs.nc h]; rfl)

theorem checkCache_sim (hs : Sim cfg o now st m) (k : String) :
    Sim cfg o now (checkCache cfg o st k now).2 m ∧ (checkCache cfg o st k now).2.store = st.store ∧
    ∀ rc, (checkCache cfg o st k now).1 = some rc →
      rc.md.valid now = true ∧ st.store.get k = some (stored cfg.backend rc) ∧ o.cache ≠ .none := by
  unfold checkCache
  split
  · exact ⟨hs, rfl, fun _ h => by cases h⟩
  · next hc =>
    split
    · exact ⟨hs, rfl, fun _ h => by cases h⟩
    · next r hg =>
      split
      · next hv => exact ⟨hs, rfl, fun rc h => by cases h; exact ⟨hv, hs.coh k r hg hv, hc⟩⟩
      · rw [evict_nowc cfg st k hs.wc]; exact ⟨hs.dropCache k, rfl, fun _ h => by cases h⟩

theorem Sim.cachePut (hs : Sim cfg o now st m) (r : Rec) (hcn : o.cache ≠ .none)
    (hr : st.store.get r.key = some (stored cfg.backend r)) : Sim cfg o now { st with cache := st.cache.put r } m :=
  { hs with
    coh := fun k' rc hc _ => by
      simp only [Store.get_put] at hc
      split at hc
      · next hk => cases hc; rw [hk]; exact hr
      · exact hs.coh k' rc hc ‹_›
    nc := fun h => absurd h hcn }

theorem updateCache_read (cfg : Cfg) (o : Opts) (st : ISt) (r : Rec) :
    (updateCache cfg o st r false false).1 = if o.cache = .none then st else { st with cache := st.cache.put r } := by
  unfold updateCache; split <;> rfl

/-- `getRecord` answers what the reference `get` answers (a cache hit up to representation) and keeps the relation. -/
theorem getRecord_sim (hs : Sim cfg o now st m) (k : String) :
    Sim cfg o now (getRecord cfg o st k now).2 m ∧
    match (getRecord cfg o st k now).1 with
    | .error e => KV.get o m k now = .error e
    | .ok r => KV.get o m k now = .ok (stored cfg.backend r) ∧ r.md.valid now = true ∧
        (o.cache = .none → stored cfg.backend r = r) := by
  obtain ⟨h1, h2, h3⟩ := checkCache_sim hs k
  unfold getRecord KV.get
  rw [← hs.view k]
  generalize checkCache cfg o st k now = cc at *
  obtain ⟨c1, st1⟩ := cc
  cases c1 with
  | some rc =>
    obtain ⟨hv, hsg, hcn⟩ := h3 rc rfl
    simp only [hsg, vis_stored hv, hasAccess_stored]
    split
    · exact ⟨h1, rfl, hv, fun hn => absurd hn hcn⟩
    · exact ⟨h1, rfl⟩
  | none =>
    simp only at h2 ⊢
    rw [h2, ctlGet_vis]
    cases hvv : vis now (st.store.get k) with
    | none => exact ⟨h1, rfl⟩
    | some r =>
      obtain ⟨hg, hv⟩ := vis_some hvv
      have hfix := hs.fixed k r hg
      simp only
      cases ha : o.hasAccess r with
      | false => exact ⟨h1, rfl⟩
      | true =>
        simp only [Bool.not_true, Bool.false_eq_true, if_false, if_true, updateCache_read]
        refine ⟨?_, by rw [hfix], hv, fun _ => hfix⟩
        split
        · exact h1
        · next hc => exact h1.cachePut r hc (by rw [h2, Store.get_key hg, hfix]; exact hg)

theorem storePut_get (cfg : Cfg) (s : Store) (r : Rec) (k : String) :
    (storePut cfg s r).get k =
      if k = r.key then (if !cfg.shadow && r.md.isDeleted then none else some (stored cfg.backend r)) else s.get k := by
  unfold storePut
  split
  · rw [Store.get_del]
  · rw [Store.get_put, stored_key]

theorem kvstore_eq (b : Backend) (m : Store) (r : Rec) :
    KV.store b m r = storePut { backend := b, shadow := false } m r := rfl

theorem kvstore_get (b : Backend) (m : Store) (r : Rec) (k : String) :
    (KV.store b m r).get k =
      if k = r.key then (if r.md.isDeleted then none else some (stored b r)) else m.get k := by
  rw [kvstore_eq]; exact storePut_get _ m r k

theorem storePut_nodup {cfg : Cfg} {s : Store} (h : s.NodupKeys) (r : Rec) : (storePut cfg s r).NodupKeys := by
  unfold storePut; split
  · exact Store.nodup_del h _
  · exact Store.nodup_put h _

theorem kvstore_nodup {b : Backend} {m : Store} (h : m.NodupKeys) (r : Rec) : (KV.store b m r).NodupKeys := by
  rw [kvstore_eq]; exact storePut_nodup h r

/-- Storage write vs. reference store of two representations of the same record: a shadow-deleted record is kept
    by the storage and dropped by the reference, and is invisible in both. -/
theorem storePut_view {cfg : Cfg} {s m : Store} (r r2 : Rec)
    (hv : ∀ k, vis now (s.get k) = vis now (m.get k))
    (hkey : r2.key = r.key) (hmd : r2.md = r.md) (hst : stored cfg.backend r2 = stored cfg.backend r) (k : String) :
    vis now ((storePut cfg s r).get k) = vis now ((KV.store cfg.backend m r2).get k) := by
  rw [storePut_get, kvstore_get, hmd, hkey, hst]
  split
  · cases hd : r.md.isDeleted with
    | false => simp
    | true =>
      have := vis_of_invalid (r := stored cfg.backend r) (now := now)
        (by rw [stored_md]; exact Meta.deleted_invalid ((Meta.isDeleted_iff _).1 hd))
      cases cfg.shadow <;> simp [this, vis_none]
  · exact hv k

theorem storePut_fixed {cfg : Cfg} {s : Store} (hf : ∀ k r, s.get k = some r → stored cfg.backend r = r) (x : Rec) :
    ∀ k r, (storePut cfg s x).get k = some r → stored cfg.backend r = r := by
  intro k r h
  rw [storePut_get] at h
  split at h
  · split at h <;> cases h; exact stored_idem _ _
  · exact hf k r h

/-- The interface writes `r` (cache already updated to `c`), the reference stores `r2`. -/
theorem write_sim (hs : Sim cfg o now st m) (r r2 : Rec) (c : Store)
    (hkey : r2.key = r.key) (hmd : r2.md = r.md) (hst : stored cfg.backend r2 = stored cfg.backend r)
    (hc : ∀ k rc, c.get k = some rc → if k = r.key then rc = r else st.cache.get k = some rc)
    (hnc : o.cache = .none → c = []) :
    Sim cfg o now (ctlPut cfg { st with cache := c } r) (KV.store cfg.backend m r2) :=
  { view := storePut_view r r2 hs.view hkey hmd hst
    coh := fun k rc h hv => by
      have := hc k rc h
      simp only [ctlPut, storePut_get]
      split at this
      · subst this
        have hnd : rc.md.isDeleted = false := by simpa [Meta.isDeleted] using Meta.valid_not_deleted hv
        simp [*]
      · simp only [*, if_false]; exact hs.coh k rc this hv
    fixed := storePut_fixed hs.fixed r
    nds := storePut_nodup hs.nds r
    ndm := kvstore_nodup hs.ndm r2
    wc := hs.wc, nc := hnc }

theorem permitted_hasAccess (o : Opts) (r : Rec) (h : o.all = false) : r.md.permitted o.loc o.int = o.hasAccess r := by
  unfold Opts.hasAccess; simp [h]

theorem permitted_all (m : Meta) : m.permitted true true = true := rfl

theorem hasAccess_eq_permitted (o : Opts) (r : Rec) : o.hasAccess r = r.md.permitted o.loc o.int := by
  unfold Opts.hasAccess Opts.all
  cases o.loc <;> cases o.int <;> simp [permitted_all]

theorem getMeta_sim (hs : Sim cfg o now st m) (k : String) :
    Sim cfg o now (getMeta cfg o st k now).2 m ∧
    (getMeta cfg o st k now).1 =
      match vis now (m.get k) with
      | none => .error .notFound
      | some old => if old.md.permitted o.loc o.int then .ok old.md else .error .denied := by
  obtain ⟨h1, h2, h3⟩ := checkCache_sim hs k
  unfold getMeta
  rw [← hs.view k]
  generalize checkCache cfg o st k now = cc at *
  obtain ⟨c1, st1⟩ := cc
  cases c1 with
  | some rc =>
    obtain ⟨hv, hsg, _⟩ := h3 rc rfl
    simp only [hsg, vis_stored hv, stored_md, hasAccess_eq_permitted]
    split <;> exact ⟨h1, rfl⟩
  | none =>
    simp only at h2 ⊢
    rw [h2, ctlGet_vis]
    cases vis now (st.store.get k) with
    | none => exact ⟨h1, rfl⟩
    | some r => simp only; split <;> exact ⟨h1, rfl⟩

def Refines (cfg : Cfg) (o : Opts) (now : Int) (x : ISt × Out) (y : Store × Out) : Prop :=
  Sim cfg o now x.1 y.1 ∧ KV.outEq cfg.backend x.2 y.2

theorem onRecord_sim (hs : Sim cfg o now st m) (k : String) (F : Rec → ISt → ISt × Out) (G : Rec → Store × Out)
    (hFG : ∀ r st1, Sim cfg o now st1 m → r.md.valid now = true → (o.cache = .none → stored cfg.backend r = r) →
      Refines cfg o now (F r st1) (G (stored cfg.backend r))) :
    Refines cfg o now
      (match getRecord cfg o st k now with | (.error e, st) => (st, .err e) | (.ok r, st) => F r st)
      (match KV.get o m k now with | .error e => (m, .err e) | .ok r => G r) := by
  obtain ⟨h1, h2⟩ := getRecord_sim hs k
  generalize getRecord cfg o st k now = gr at *
  obtain ⟨res, st1⟩ := gr
  cases res with
  | error e => simp only at h2 ⊢; rw [h2]; exact ⟨h1, rfl⟩
  | ok r => simp only at h1 h2 ⊢; rw [h2.1]; exact hFG r st1 h1 h2.2.1 h2.2.2

theorem ifGet_sim (hs : Sim cfg o now st m) (k : String) :
    Refines cfg o now (ifGet cfg o st k now) (KV.step cfg o m (.get k) now) := by
  have : KV.step cfg o m (.get k) now =
      match KV.get o m k now with | .error e => (m, .err e) | .ok r => (m, .one r) := by
    simp only [KV.step]; cases KV.get o m k now <;> rfl
  rw [this]
  unfold ifGet
  exact onRecord_sim hs k _ _ fun r st1 h1 _ _ => ⟨h1, rfl⟩

theorem ifExists_sim (hs : Sim cfg o now st m) (k : String) :
    Refines cfg o now (ifExists cfg o st k now) (KV.step cfg o m (.exists_ k) now) := by
  obtain ⟨h1, h2⟩ := getRecord_sim hs k
  unfold ifExists KV.step
  generalize getRecord cfg o st k now = gr at *
  obtain ⟨res, st1⟩ := gr
  cases res with
  | error e => simp only at h2 ⊢; rw [h2]; cases e <;> exact ⟨h1, rfl⟩
  | ok r => simp only at h2 ⊢; rw [h2.1]; exact ⟨h1, rfl⟩

theorem aliasUpdate_nowc (st : ISt) (r : Rec) (hw : st.wcache = []) :
    aliasUpdate st r = { st with cache := if st.cache.has r.key then st.cache.put r else st.cache } := by
  unfold aliasUpdate; rw [hw]; rfl

theorem aliasCache_get (c : Store) (r : Rec) (k : String) (rc : Rec)
    (h : (if c.has r.key then c.put r else c).get k = some rc) :
    if k = r.key then rc = r else c.get k = some rc := by
  split at h
  · rw [Store.get_put] at h; split <;> simp_all
  · next hh =>
    split
    · next hk => rw [hk] at h; simp [Store.has, h] at hh
    · exact h

theorem ifModify_sim (hs : Sim cfg o now st m) (k : String) (f : Meta → Meta) :
    Refines cfg o now (ifModify cfg o st k now f) (KV.modify cfg.backend o m k now f) := by
  unfold ifModify KV.modify
  refine onRecord_sim hs k _ _ fun r st1 h1 hv _ => ?_
  simp only [aliasUpdate_nowc _ _ h1.wc, stored_md]
  refine ⟨write_sim h1 _ _ _ (stored_key _ _) rfl (stored_setmd _ _ _ (Meta.valid_not_deleted hv))
    (aliasCache_get st1.cache { r with md := f (o.apply r.md now) }) fun hcn => ?_, trivial⟩
  rw [h1.nc hcn]; rfl

theorem updateCache_write (hs : Sim cfg o now st m) (hd : o.cache ≠ .delay) (r : Rec) (rem : Bool) :
    ∃ c, updateCache cfg o st r true rem = ({ st with cache := c }, false) ∧
      (∀ k rc, c.get k = some rc → if k = r.key then rc = r else st.cache.get k = some rc) ∧
      (o.cache = .none → c = []) := by
  unfold updateCache
  by_cases hc : o.cache = .none
  · rw [if_pos hc]
    refine ⟨st.cache, rfl, fun k rc h => ?_, fun _ => hs.nc hc⟩
    rw [hs.nc hc] at h; cases h
  · rw [if_neg hc]
    cases rem with
    | true =>
      rw [if_pos rfl]
      by_cases hh : st.cache.has r.key = true
      · rw [if_pos hh, evict_nowc cfg st r.key hs.wc]
        refine ⟨st.cache.del r.key, rfl, fun k rc h => ?_, fun h => absurd h hc⟩
        rw [Store.get_del] at h
        split at h
        · cases h
        · next hk => rw [if_neg hk]; exact h
      · rw [if_neg hh]
        exact ⟨st.cache, rfl, fun k rc h => aliasCache_get st.cache r k rc (by rw [if_neg hh]; exact h),
          fun h => absurd h hc⟩
    | false =>
      refine ⟨st.cache.put r, by simp [hd], fun k rc h => ?_, fun h => absurd h hc⟩
      rw [Store.get_put] at h
      split at h
      · next hk => cases h; rw [if_pos hk]
      · next hk => rw [if_neg hk]; exact h

theorem putTail_sim (hs : Sim cfg o now st m) (hd : o.cache ≠ .delay) (r : Rec) {x : ISt × Out}
    (hx : x = match updateCache cfg o st r true r.md.isDeleted with
      | (st, true) => (st, Out.ok)
      | (st, false) => (ctlPut cfg st r, Out.ok)) :
    Refines cfg o now x (KV.store cfg.backend m r, Out.ok) := by
  obtain ⟨c, hc, h1, h2⟩ := updateCache_write hs hd r r.md.isDeleted
  rw [hx, hc]
  exact ⟨write_sim hs r r c rfl rfl rfl h1 h2, trivial⟩

theorem ifPut_sim (hs : Sim cfg o now st m) (hd : o.cache ≠ .delay) (r : Rec) (isNew : Bool) :
    Refines cfg o now (ifPut cfg o st r now isNew) (KV.put cfg.backend o m r now isNew) := by
  unfold ifPut KV.put KV.blocked
  cases ha : o.all with
  | true => exact putTail_sim hs hd _ rfl
  | false =>
    obtain ⟨g1, g2⟩ := getMeta_sim hs r.key
    generalize getMeta cfg o st r.key now = gm at *
    obtain ⟨res, st1⟩ := gm
    simp only at g1 g2
    subst g2
    simp only [Bool.not_false, if_true, Bool.true_and]
    cases vis now (m.get r.key) with
    | none => exact putTail_sim g1 hd _ rfl
    | some old =>
      cases hp : old.md.permitted o.loc o.int with
      | true => simp only [hp, if_true, Bool.not_true, Bool.false_eq_true, if_false]; exact putTail_sim g1 hd _ rfl
      | false => simp only [hp, Bool.false_eq_true, if_false, Bool.not_false, if_true]; exact ⟨g1, rfl⟩

theorem mem_filter_vis {t : Store} (ht : t.NodupKeys) (p : Rec → Bool)
    (hp : ∀ a, p a = true → a.md.valid now = true) (a : Rec) :
    a ∈ t.filter p ↔ vis now (t.get a.key) = some a ∧ p a = true := by
  rw [List.mem_filter, Store.mem_iff_get ht]
  constructor
  · rintro ⟨h1, h2⟩; rw [h1, vis_of_valid (hp a h2)]; exact ⟨rfl, h2⟩
  · rintro ⟨h1, h2⟩; exact ⟨(vis_some h1).1, h2⟩

theorem filter_perm_of_vis {s m : Store} (hs : s.NodupKeys) (hm : m.NodupKeys) (p : Rec → Bool)
    (hp : ∀ a, p a = true → a.md.valid now = true)
    (h : ∀ a, p a = true → (vis now (s.get a.key) = some a ↔ vis now (m.get a.key) = some a)) :
    (s.filter p).Perm (m.filter p) := by
  apply (List.perm_ext_iff_of_nodup ((Store.nodup_list hs).sublist List.filter_sublist)
    ((Store.nodup_list hm).sublist List.filter_sublist)).mpr
  intro a
  rw [mem_filter_vis hs p hp, mem_filter_vis hm p hp]
  exact ⟨fun ⟨h1, h2⟩ => ⟨(h a h2).1 h1, h2⟩, fun ⟨h1, h2⟩ => ⟨(h a h2).2 h1, h2⟩⟩

theorem filter_perm_of_view {s m : Store} (p : Rec → Bool)
    (hp : ∀ a, p a = true → a.md.valid now = true)
    (hv : ∀ k, vis now (s.get k) = vis now (m.get k)) (hs : s.NodupKeys) (hm : m.NodupKeys) :
    (s.filter p).Perm (m.filter p) :=
  filter_perm_of_vis hs hm p hp fun a _ => by rw [hv a.key]

theorem vis_bind (g h : Rec → Option Rec)
    (hval : ∀ r, r.md.valid now = true → vis now (g r) = h r)
    (hinv : ∀ r, r.md.valid now = false → vis now (g r) = none) (x : Option Rec) :
    vis now (x.bind g) = (vis now x).bind h := by
  cases x with
  | none => rfl
  | some r =>
    cases hv : r.md.valid now with
    | true => rw [vis_of_valid hv]; exact hval r hv
    | false => rw [vis_of_invalid hv]; exact hinv r hv

theorem vis_bind_filter (p : Rec → Bool) (x : Option Rec) :
    vis now (x.bind fun r => if p r then some r else none) = (vis now x).bind fun r => if p r then some r else none := by
  apply vis_bind <;> intro r hv <;> cases p r <;> simp [vis, hv]

theorem selects_valid (q : Query) (l i : Bool) (a : Rec) (h : q.selects l i now a = true) : a.md.valid now = true := by
  simp only [Query.selects, Bool.and_eq_true] at h; exact h.1.1.2

theorem purges_valid (q : Query) (l i : Bool) (a : Rec) (h : q.purges l i now a = true) : a.md.valid now = true := by
  simp only [Query.purges, Bool.and_eq_true] at h; exact h.1.2

theorem purges_eq_selects (q : Query) (l i : Bool) (r : Rec) : q.purges l i now r = q.selects l i now r := by
  simp only [Query.purges, Query.selects, Bool.and_assoc, Bool.and_left_comm]

/-- The storage rewritten record by record (purge, maintenance). -/
theorem Sim.mapStore (hs : Sim cfg o now st m) (g : Rec → Option Rec) {m' : Store}
    (hg : ∀ r r', g r = some r' → r'.key = r.key ∧ (stored cfg.backend r = r → stored cfg.backend r' = r'))
    (hcoh : ∀ k rc, st.cache.get k = some rc → rc.md.valid now = true →
      g (stored cfg.backend rc) = some (stored cfg.backend rc))
    (hview : ∀ k, vis now ((st.store.get k).bind g) = vis now (m'.get k)) (hm' : m'.NodupKeys) :
    Sim cfg o now { st with store := st.store.filterMap g } m' :=
  have hget := Store.get_filterMap hs.nds g (fun r r' h => (hg r r' h).1)
  { view := fun k => by simp only [hget]; exact hview k
    coh := fun k rc hc hv => by simp only [hget, hs.coh k rc hc hv]; exact hcoh k rc hc hv
    fixed := fun k r hr => by
      simp only [hget] at hr
      cases hx : st.store.get k with
      | none => rw [hx] at hr; cases hr
      | some x => rw [hx] at hr; exact (hg x r hr).2 (hs.fixed k x hx)
    nds := Store.nodup_filterMap hs.nds g (fun r r' h => (hg r r' h).1)
    ndm := hm', wc := hs.wc, nc := hs.nc }

theorem ifQuery_sim (hs : Sim cfg o now st m) (q : Query) :
    Refines cfg o now (ifQuery o st q now) (KV.step cfg o m (.query q) now) := by
  simp only [ifQuery, KV.step]
  cases q.check
  · exact ⟨hs, rfl⟩
  · exact ⟨hs, filter_perm_of_view _ (selects_valid q o.loc o.int) hs.view hs.nds hs.ndm⟩

theorem purgeRec_some (cfg : Cfg) (q : Query) (l i : Bool) (r r' : Rec) (h : purgeRec cfg q l i now r = some r') :
    r'.key = r.key ∧ (stored cfg.backend r = r → stored cfg.backend r' = r') := by
  unfold purgeRec at h
  split at h
  · split at h <;> cases h
    exact ⟨stored_key _ _, fun _ => stored_idem _ _⟩
  · cases h; exact ⟨rfl, id⟩

theorem vis_purgeRec (cfg : Cfg) (q : Query) (l i : Bool) (hpos : 0 < now) (x : Option Rec) :
    vis now (x.bind (purgeRec cfg q l i now)) = (vis now x).bind (fun r => if q.purges l i now r then none else some r) := by
  apply vis_bind <;> intro r hv <;> unfold purgeRec
  · split
    · split
      · exact vis_of_invalid (by rw [stored_md]; exact Meta.deleted_invalid hpos)
      · rfl
    · exact vis_of_valid hv
  · split
    · next hp => rw [purges_valid q l i r hp] at hv; cases hv
    · exact vis_of_invalid hv

theorem vis_filter_not_purges (q : Query) (l i : Bool) (x : Option Rec) :
    vis now (x.bind (fun r => if !q.purges l i now r then some r else none)) =
      (vis now x).bind (fun r => if q.purges l i now r then none else some r) := by
  rw [vis_bind_filter]
  congr 1; funext r
  cases q.purges l i now r <;> rfl

theorem ifPurge_sim (hs : Sim cfg o now st m) (hpos : 0 < now) (hcn : o.cache = .none) (q : Query) :
    Refines cfg o now (ifPurge cfg o st q now) (KV.step cfg o m (.purge q) now) := by
  simp only [ifPurge, KV.step, purge]
  cases q.check
  · exact ⟨hs, rfl⟩
  cases cfg.backend.hasPurge
  · exact ⟨hs, rfl⟩
  simp only [Bool.not_true, Bool.false_eq_true, if_false]
  refine ⟨hs.mapStore _ (purgeRec_some cfg q o.loc o.int) (fun k rc hc => ?_) (fun k => ?_) (Store.nodup_filter hs.ndm _),
    (filter_perm_of_view _ (purges_valid q o.loc o.int) hs.view hs.nds hs.ndm).length_eq⟩
  · rw [hs.nc hcn] at hc; cases hc
  · rw [Store.get_filter hs.ndm, vis_purgeRec cfg q _ _ hpos, vis_filter_not_purges, hs.view k]

/-! ### The decision switch of `MaintainRecordStates`, with the comparisons of the source (`PB.Gen.DbTime`) -/

-- the simp set names the generated functions of both backends, each branch of `cases b` uses its half
set_option linter.unusedSimpArgs false in
/-- The source's first case ("expired, not yet marked deleted") only fires on a record `CheckValidity` already
    rejects, and the stamp it is marked with is a deletion stamp (positive). -/
theorem Backend.expiredCase_dead (b : Backend) (m : Meta) (now thr : Int) (sh : Bool)
    (h : b.expiredCase m now thr sh = true) : m.valid now = false ∧ b.expiredMark m now thr > 0 := by
  -- hashmap, bbolt: the generated condition has `expires > 0` and `expires < now`, the second test of
  -- `CheckValidity`, and the stamp is `expires`; fstree, badger: it is `false`. The comparisons are whatever the
  -- generator printed, so the arithmetic is left to `omega` / `grind`.
  cases b <;>
    simp only [Backend.expiredCase, Backend.expiredMark, PB.Gen.DbTime.hashmapExpired, PB.Gen.DbTime.bboltExpired,
      PB.Gen.DbTime.hashmapMark, PB.Gen.DbTime.bboltMark, Meta.valid, Bool.and_eq_true, Bool.or_eq_true,
      Bool.not_eq_true', decide_eq_true_eq, decide_eq_false_iff_not] at h ⊢ <;>
    (try cases h) <;> (constructor <;> (try split) <;> (try split) <;> (first | rfl | omega | grind))

set_option linter.unusedSimpArgs false in
/-- The source's second case (physical removal) only fires on a record that is marked deleted. -/
theorem Backend.removeCase_dead (b : Backend) (m : Meta) (now thr : Int) (sh : Bool)
    (h : b.removeCase m now thr sh = true) : m.deleted > 0 := by
  -- `deleted > 0` is a conjunct of the generated condition
  cases b <;>
    simp only [Backend.removeCase, PB.Gen.DbTime.hashmapRemove, PB.Gen.DbTime.bboltRemove, Bool.and_eq_true, Bool.or_eq_true,
      Bool.not_eq_true', decide_eq_true_eq, decide_eq_false_iff_not] at h <;>
    (first | (cases h; done) | omega | grind)

/-- Maintenance leaves a record alone, or the record was not valid and is removed or replaced by one marked deleted. -/
theorem maintainRec_cases (cfg : Cfg) (thr : Int) (r : Rec) :
    maintainRec cfg now thr r = some r ∨
    (r.md.valid now = false ∧ (maintainRec cfg now thr r = none ∨
      ∃ x, x.md.deleted > 0 ∧ x.key = r.key ∧ maintainRec cfg now thr r = some (stored cfg.backend x))) := by
  unfold maintainRec
  by_cases he : cfg.backend.expiredCase r.md now thr cfg.shadow = true
  · obtain ⟨hv, hm⟩ := Backend.expiredCase_dead _ _ _ _ _ he
    rw [if_pos he]
    refine Or.inr ⟨hv, ?_⟩
    cases cfg.shadow
    · exact Or.inl rfl
    · exact Or.inr ⟨{ r with md := { r.md with deleted := cfg.backend.expiredMark r.md now thr } }, hm, rfl, rfl⟩
  rw [if_neg he]
  by_cases hr : cfg.backend.removeCase r.md now thr cfg.shadow = true
  · exact Or.inr ⟨Meta.deleted_invalid (Backend.removeCase_dead _ _ _ _ _ hr), Or.inl (if_pos hr)⟩
  · exact Or.inl (if_neg hr)

def maintainOne (cfg : Cfg) (now thr : Int) (skip : List String) (r : Rec) : Option Rec :=
  if skip.contains r.key then some r else maintainRec cfg now thr r

theorem maintainSkip_eq (cfg : Cfg) (s : Store) (now thr : Int) (skip : List String) :
    maintainSkip cfg s now thr skip =
      if cfg.backend.maintains then s.filterMap (maintainOne cfg now thr skip) else s := rfl

theorem maintainOne_cases (cfg : Cfg) (thr : Int) (skip : List String) (r : Rec) :
    maintainOne cfg now thr skip r = some r ∨
    (r.md.valid now = false ∧ (maintainOne cfg now thr skip r = none ∨
      ∃ x, x.md.deleted > 0 ∧ x.key = r.key ∧ maintainOne cfg now thr skip r = some (stored cfg.backend x))) := by
  unfold maintainOne
  split
  · exact Or.inl rfl
  · exact maintainRec_cases cfg thr r

theorem maintainOne_some {cfg : Cfg} {thr : Int} {skip : List String} (r r' : Rec)
    (h : maintainOne cfg now thr skip r = some r') :
    r'.key = r.key ∧ (stored cfg.backend r = r → stored cfg.backend r' = r') := by
  rcases maintainOne_cases cfg thr skip r with e | ⟨-, e | ⟨x, -, hk, e⟩⟩ <;> rw [e] at h <;> cases h
  · exact ⟨rfl, id⟩
  · exact ⟨(stored_key _ _).trans hk, fun _ => stored_idem _ _⟩

theorem maintainOne_valid (cfg : Cfg) (thr : Int) (skip : List String) (r : Rec) (hv : r.md.valid now = true) :
    maintainOne cfg now thr skip r = some r :=
  (maintainOne_cases cfg thr skip r).resolve_right fun h => by rw [hv] at h; cases h.1

theorem maintainOne_invalid (cfg : Cfg) (thr : Int) (skip : List String) (r : Rec) (hv : r.md.valid now = false) :
    vis now (maintainOne cfg now thr skip r) = none := by
  rcases maintainOne_cases cfg thr skip r with e | ⟨-, e | ⟨x, hx, -, e⟩⟩ <;> rw [e]
  · exact vis_of_invalid hv
  · rfl
  · exact vis_of_invalid (by rw [stored_md]; exact Meta.deleted_invalid hx)
theorem vis_maintainOne (cfg : Cfg) (thr : Int) (skip : List String) (x : Option Rec) :
    vis now (x.bind (maintainOne cfg now thr skip)) = vis now x := by
  rw [vis_bind _ some (fun r hv => by rw [maintainOne_valid cfg thr skip r hv, vis_of_valid hv])
    (maintainOne_invalid cfg thr skip), Option.bind_fun_some]

theorem maintain_sim (hs : Sim cfg o now st m) (thr : Int) (skip : List String) :
    Sim cfg o now { st with store := maintainSkip cfg st.store now thr skip } m := by
  rw [maintainSkip_eq]
  split
  · exact hs.mapStore _ maintainOne_some
      (fun k rc _ hv => maintainOne_valid cfg thr skip _ (by rw [stored_md]; exact hv))
      (fun k => (vis_maintainOne cfg thr skip _).trans (hs.view k)) hs.ndm
  · exact hs

theorem batch_sim (hs : Sim cfg o now st m) (hc : st.cache = []) (rs : List Rec) :
    Sim cfg o now { st with store := batchApply cfg o now st.store rs } (KV.storeAll cfg.backend o now m rs) := by
  induction rs generalizing st m with
  | nil => exact hs
  | cons r rest ih =>
    have := write_sim hs { r with md := o.apply r.md now } _ [] rfl rfl rfl (fun _ _ h => by cases h) (fun _ => rfl)
    exact (ih this rfl).sub rfl hs.wc (fun _ _ h => by rw [hc] at h; cases h) (fun _ => hc)

theorem ifPutMany_sim (hs : Sim cfg o now st m) (hcn : o.cache = .none) (rs : List Rec) :
    Refines cfg o now (ifPutMany cfg o st rs now) (KV.step cfg o m (.putMany rs) now) := by
  simp only [ifPutMany, KV.step]
  cases o.all
  · exact ⟨hs, rfl⟩
  cases cfg.backend.hasBatch
  · exact ⟨hs, rfl⟩
  · exact ⟨batch_sim hs (hs.nc hcn) rs, trivial⟩

theorem ifInsert_sim (hs : Sim cfg o now st m) (hcn : o.cache = .none) (k attr : String) (p : Prim) :
    Refines cfg o now (ifInsert cfg o st k attr p now) (KV.insert cfg.backend o m k attr p now) := by
  unfold ifInsert KV.insert
  refine onRecord_sim hs k _ _ fun r st1 h1 _ hfix => ?_
  rw [hfix hcn]
  cases setField r.form r.fields attr p with
  | none => exact ⟨h1, rfl⟩
  | some fs =>
    simp only [aliasUpdate_nowc _ _ h1.wc, h1.nc hcn]
    exact ⟨write_sim h1 _ _ _ rfl rfl rfl (fun _ _ h => by cases h) (fun _ => rfl), trivial⟩

theorem step_sim (hs : Sim cfg o now st m) (hpos : 0 < now) (hd : o.cache ≠ .delay) (op : Op) (hsafe : KV.cacheSafe o op) :
    Refines cfg o now (step cfg o st op now) (KV.step cfg o m op now) := by
  cases op with simp only [step]
  | get k => exact ifGet_sim hs k
  | exists_ k => exact ifExists_sim hs k
  | put r => exact ifPut_sim hs hd r false
  | putNew r => exact ifPut_sim hs hd r true
  | delete k => exact ifModify_sim hs k _
  | setAbs k t => exact ifModify_sim hs k _
  | setRel k d => exact ifModify_sim hs k _
  | mkSecret k => exact ifModify_sim hs k _
  | mkCrown k => exact ifModify_sim hs k _
  | insert k a p => exact ifInsert_sim hs hsafe k a p
  | putMany rs => exact ifPutMany_sim hs hsafe rs
  | query q => exact ifQuery_sim hs q
  | purge q => exact ifPurge_sim hs hpos hsafe q
  | maintain thr skip => exact ⟨maintain_sim hs thr skip, trivial⟩
  | flush => simp only [ifFlush, hd, ne_eq, not_false_eq_true, if_true]; exact ⟨hs, trivial⟩
  | clear => exact ⟨hs.sub rfl hs.wc (fun _ _ h => by cases h) (fun _ => rfl), trivial⟩
  | evict k =>
    split
    · rw [evict_nowc cfg st k hs.wc]; exact ⟨hs.dropCache k, trivial⟩
    · exact ⟨hs, trivial⟩

end sim

theorem run_sim {cfg : Cfg} {o : Opts} (hd : o.cache ≠ .delay) :
    ∀ (ops : List (Op × Int)) (t : Int) (st : ISt) (m : Store), Sim cfg o t st m → KV.wellTimed t ops →
      (∀ x ∈ ops, KV.cacheSafe o x.1) →
      KV.outsEq cfg.backend (run cfg o st ops) (KV.run cfg o m ops) := by
  intro ops
  induction ops with
  | nil => intro t st m _ _ _; trivial
  | cons x rest ih =>
    intro t st m hs ⟨hle, hpos, hrest⟩ hsafe
    have h := step_sim (hs.mono hle) hpos hd x.1 (hsafe x (List.mem_cons_self ..))
    exact ⟨h.2, ih x.2 _ _ h.1 hrest (fun y hy => hsafe y (List.mem_cons_of_mem _ hy))⟩

end PB.Db
