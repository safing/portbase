import PB.Model.Config
import PB.Spec.Config
/-
Lemmas for C04 (sequential model `PB.Config`).
-/
namespace PB.Config

/-! ### registry lookups -/

theorem find?_some_mem {l : List Opt} {k : Key} {o : Opt} (h : l.find? (fun p => p.key = k) = some o) :
    o ∈ l ∧ o.key = k :=
  ⟨List.mem_of_find?_eq_some h, by simpa using List.find?_some h⟩

theorem find?_setOptIn_same {o o' : Opt} {l : List Opt} (h : l.find? (fun p => p.key = o'.key) = some o) :
    (setOptIn o' l).find? (fun p => p.key = o'.key) = some o' := by
  induction l with
  | nil => cases h
  | cons p rest ih => unfold setOptIn; split <;> simp_all

theorem find?_setOptIn_other (o' : Opt) {k : Key} (hk : k ≠ o'.key) (l : List Opt) :
    (setOptIn o' l).find? (fun o => o.key = k) = l.find? (fun o => o.key = k) := by
  induction l with
  | nil => rfl
  | cons p rest ih => unfold setOptIn; split <;> simp_all [List.find?_cons, hk.symm]

theorem setOptIn_self {o : Opt} {l : List Opt} (h : l.find? (fun p => p.key = o.key) = some o) : setOptIn o l = l := by
  induction l with
  | nil => rfl
  | cons p rest ih => simp only [setOptIn, List.find?_cons] at h ⊢; grind

theorem setOptIn_keys (o' : Opt) (l : List Opt) : (setOptIn o' l).map (·.key) = l.map (·.key) := by
  induction l with
  | nil => rfl
  | cons p rest ih => simp only [setOptIn]; split <;> simp [*]

theorem mem_setOptIn {o' p : Opt} {l : List Opt} (h : p ∈ setOptIn o' l) : p = o' ∨ p ∈ l := by
  induction l with
  | nil => cases h
  | cons q rest ih => simp only [setOptIn] at h; grind

theorem find_mapOpts (st : St) (f : Opt → Opt) (hf : ∀ o, (f o).key = o.key) (k : Key) :
    ({ st with opts := st.opts.map f } : St).find k = (st.find k).map f := by
  unfold St.find; rw [List.find?_map]; simp [Function.comp_def, hf]

/-! ### validateValue accepts exactly the valid values -/

theorem pvEq_str (p : PV) (s : String) : pvEq p (.str s) = (p == .s s) := by
  rw [Bool.eq_iff_iff]; cases p <;> simp [pvEq]

theorem pvEq_bool (p : PV) (b : Bool) : pvEq p (.bool b) = (p == .b b) := by
  rw [Bool.eq_iff_iff]; cases p <;> simp [pvEq]

theorem pvEq_int (p : PV) {k : IKind} {n : Int} (hf : k.fits n = true) : pvEq p (.int k n) = (p == .i n) := by
  rw [Bool.eq_iff_iff]; cases p <;> simp [pvEq]; rintro rfl; exact hf

theorem pvEq_flt (p : PV) (w neg : Bool) (mag : Nat) :
    pvEq p (.flt w neg mag false) = (p == .i (fltInt neg mag)) := by
  rw [Bool.eq_iff_iff]; cases p <;> simp [pvEq]

theorem isAllowed_eq {v : Val} {q : PV} (h : ∀ p, pvEq p v = (p == q)) (pvs : Option (List PV)) :
    isAllowed pvs v = match pvs with | none => true | some l => l.contains q := by
  cases pvs <;> simp [isAllowed, h, -List.contains_eq_mem, List.any_beq']

theorem ite_error_eq_ok {ε α} {b : Prop} [Decidable b] {e : ε} {r : Except ε α} {c : α} :
    (if b then .error e else r) = .ok c ↔ ¬ b ∧ r = .ok c := by
  split <;> simp [*]

theorem vfCheck_eq_ok {o : Opt} {c' c : Cache} : vfCheck o c' = .ok c ↔ c' = c ∧ vfOk o.vf o.ty c' = true := by
  unfold vfCheck; split <;> simp [*]

theorem entriesCheck_ok_iff (o : Opt) (ss : List String) :
    entriesCheck o ss = .ok () ↔ ∀ e ∈ ss, o.rx.matches e = true ∧ isAllowed o.pvs (.str e) = true := by
  induction ss with
  | nil => simp [entriesCheck]
  | cons e rest ih => simp [entriesCheck, ite_error_eq_ok, ih, and_assoc]

theorem Rx.matches_of_isNone {rx : Rx} (h : rx.isNone = true) (e : String) : rx.matches e = true := by
  cases rx <;> simp [Rx.isNone] at h <;> simp [Rx.matches]

theorem valid_iff_of_canon {o : Opt} {v : Val} {c' : Cache} (hc : canon o.ty v = some c') (c : Cache) :
    Valid o v c ↔ c' = c ∧ regexOK o c' = true ∧ allowedOK o c' = true ∧ vfOk o.vf o.ty c' = true := by
  unfold Valid
  rw [hc]
  constructor
  · rintro ⟨h, hr⟩; cases h; exact ⟨rfl, hr⟩
  · rintro ⟨rfl, hr⟩; exact ⟨rfl, hr⟩

/-- Where no pattern is compiled the entry loop is skipped; by `RegOK` it would have passed. -/
theorem strsBody_ok_iff (o : Opt) (ho : RegOK o) (hty : o.ty = .strs) (ss : List String) (c : Cache) :
    strsBody o ss = .ok c ↔
      { a := ss } = c ∧ regexOK o { a := ss } = true ∧ allowedOK o { a := ss } = true ∧ vfOk o.vf o.ty { a := ss } = true := by
  have hent : regexOK o { a := ss } = true ∧ allowedOK o { a := ss } = true ↔ entriesCheck o ss = .ok () := by
    rw [entriesCheck_ok_iff]
    cases hp : o.pvs <;> simp [regexOK, allowedOK, hty, hp, isAllowed_eq (pvEq_str · _), forall_and]
  have hnone : o.rx.isNone = true → entriesCheck o ss = .ok () := by
    intro hn
    have hp : o.pvs = none := by
      cases hp : o.pvs with
      | none => rfl
      | some l => simp [RegOK, hp, hn] at ho
    simp [entriesCheck_ok_iff, Rx.matches_of_isNone hn, isAllowed, hp]
  have hbody : strsBody o ss = .ok c ↔ entriesCheck o ss = .ok () ∧ vfCheck o { a := ss } = .ok c := by
    unfold strsBody
    rw [if_neg (not_not_intro hty)]
    split
    · next hn => exact (and_iff_right (hnone hn)).symm
    · cases entriesCheck o ss <;> simp
  rw [hbody, ← hent, vfCheck_eq_ok]
  exact ⟨fun ⟨⟨hR, hA⟩, he, hV⟩ => ⟨he, hR, hA, hV⟩, fun ⟨he, hR, hA, hV⟩ => ⟨⟨hR, hA⟩, he, hV⟩⟩

theorem canon_strs (ty : OptType) (ss : List String) :
    canon ty (.strs ss) = if ty = .strs then some { a := ss } else none := by
  cases ty <;> rfl

theorem canon_anys (ty : OptType) (l : List (Option String)) :
    canon ty (.anys l) = if ty = .strs then (allStrings l).map (fun ss => { a := ss }) else none := by
  cases ty <;> rfl

theorem validateStrs_of_ne {o : Opt} (hty : o.ty ≠ .strs) (ss : List String) : ∃ e, validateStrs o ss = .error e := by
  unfold validateStrs strsBody
  rw [if_pos hty]
  split <;> exact ⟨_, rfl⟩

theorem validate_strs (o : Opt) (ho : RegOK o) (ss : List String) (c : Cache) :
    validate o (.strs ss) = .ok c ↔ Valid o (.strs ss) c := by
  by_cases hty : o.ty = .strs
  · rw [valid_iff_of_canon (by rw [canon_strs, if_pos hty]), ← strsBody_ok_iff o ho hty]
    simp [validate, hty]
  · obtain ⟨e, he⟩ := validateStrs_of_ne hty ss
    simp [show validate o (.strs ss) = validateStrs o ss from rfl, he, Valid, canon_strs, hty]

theorem validate_anys (o : Opt) (ho : RegOK o) (l : List (Option String)) (c : Cache) :
    validate o (.anys l) = .ok c ↔ Valid o (.anys l) c := by
  by_cases hty : o.ty = .strs
  · cases hl : allStrings l with
    | none => simp [validate, Valid, canon_anys, hty, hl]
    | some ss =>
      have hb := strsBody_ok_iff o ho hty ss
      rw [valid_iff_of_canon (by rw [canon_anys, if_pos hty, hl]; rfl), ← hb c]
      simp only [validate, validateStrs, hty, hl]
      cases hr : strsBody o ss with
      | error e => simp
      | ok c' =>
        -- the second call of the validation function sees the value the first one accepted
        have hV : vfOk o.vf o.ty c' = true := by obtain ⟨rfl, -, -, hV⟩ := (hb c').mp hr; exact hV
        simp [vfCheck, hV]
  · simp only [Valid, canon_anys, hty, validate]
    cases allStrings l with
    | none => simp [ite_error_eq_ok]
    | some ss => obtain ⟨e, he⟩ := validateStrs_of_ne hty ss; simp [he, ite_error_eq_ok]

attribute [local simp] validate Valid canon regexOK allowedOK intBody ite_error_eq_ok vfCheck_eq_ok in
theorem validate_ok_iff_valid (o : Opt) (ho : RegOK o) (v : Val) (hv : v.WF) (c : Cache) :
    validate o v = .ok c ↔ Valid o v c := by
  -- where the type fits both sides are the same checks, on the literal value and on `c`, and `literal = c` is a
  -- conjunct: `grind` substitutes; elsewhere both sides are false
  cases v with
  | strs ss => exact validate_strs o ho ss c
  | anys l => exact validate_anys o ho l c
  | str s =>
    cases hty : o.ty
    case str => simp [hty, isAllowed_eq (pvEq_str · s)]; grind
    all_goals simp [hty]
  | bool b =>
    cases hty : o.ty
    case bool => simp [hty, isAllowed_eq (pvEq_bool · b)]; grind
    all_goals simp [hty]
  | int k n =>
    cases hty : o.ty
    case int => simp [hty, isAllowed_eq (pvEq_int · hv)]; grind
    all_goals simp [hty]
  | flt w neg mag half =>
    cases hty : o.ty <;> cases half
    case int.false => simp [hty, isAllowed_eq (pvEq_flt · w neg mag)]; grind
    all_goals simp [hty]
  | _ => cases hty : o.ty <;> simp [hty]

/-! ### a validated value survives the trip through config.json -/

theorem allStrings_map_some (l : List String) : allStrings (l.map some) = some l := by
  induction l with
  | nil => rfl
  | cons a rest ih => simp [allStrings, ih]

theorem fltInt_natAbs (n : Int) : fltInt (decide (n < 0)) n.natAbs = n := by
  unfold fltInt
  by_cases h : n < 0 <;> simp [h] <;> omega

theorem canon_jsonVal (ty : OptType) (v : Val) (c : Cache) (h : canon ty v = some c) :
    canon ty (jsonVal ty c) = some c := by
  unfold canon at h
  split at h
  case h_3 l =>
    cases hl : allStrings l <;> simp [hl] at h
    subst h; simp [jsonVal, canon, allStrings_map_some]
  all_goals cases h <;> simp [jsonVal, canon, allStrings_map_some, fltInt_natAbs]

theorem jsonVal_WF (ty : OptType) (c : Cache) : (jsonVal ty c).WF := by
  cases ty <;> exact trivial

theorem migrate_idem : ∀ (mg : Nat) (v : Val), migrate mg (migrate mg v) = migrate mg v
  | 1, v => by simp only [migrate]; split <;> simp_all
  | 2, v => by rcases v with _|_|_|_|_|_|_|(_|_)|_|_ <;> rfl
  | 0, _ | _ + 3, _ => rfl

theorem migrate_WF (mg : Nat) (v : Val) (h : v.WF) : (migrate mg v).WF := by
  unfold migrate
  split
  · split <;> simp_all [Val.WF]
  · split <;> simp_all [Val.WF]
  · exact h

/-- Migrations only look at strings and bools, which the file stores as they are. -/
theorem jsonVal_eq_or_fixed {ty : OptType} {w : Val} {c : Cache} (h : canon ty w = some c) :
    jsonVal ty c = w ∨ ∀ mg, migrate mg (jsonVal ty c) = jsonVal ty c := by
  unfold canon at h
  split at h
  case h_1 | h_6 => cases h; exact .inl rfl
  case h_7 => cases h
  all_goals right; intro mg; unfold migrate; split <;> simp [jsonVal]

theorem check_json_idem (o : Opt) (ho : RegOK o) (v : Val) (hv : v.WF) (c : Cache) (h : check o v = .ok c) :
    check o (jsonVal o.ty c) = .ok c := by
  unfold check at h ⊢
  have hval := (validate_ok_iff_valid o ho _ (migrate_WF o.mg v hv) c).mp h
  have hfix : migrate o.mg (jsonVal o.ty c) = jsonVal o.ty c := by
    rcases jsonVal_eq_or_fixed hval.1 with e | e
    · rw [e, migrate_idem]
    · exact e _
  rw [hfix]
  exact (validate_ok_iff_valid o ho _ (jsonVal_WF _ _) c).mpr ⟨canon_jsonVal o.ty _ c hval.1, hval.2⟩

/-! ### updating one option in the registry -/

theorem check_static (a b : Opt) (h : SameStatic a b) (v : Val) : check a v = check b v := by
  obtain ⟨_, h2, _, h4, h5, h6, h7, _⟩ := h
  have e : ∀ ss, entriesCheck a ss = entriesCheck b ss := by
    intro ss; induction ss with
    | nil => rfl
    | cons x r ih => simp [entriesCheck, h4, h5, ih]
  unfold check validate validateStrs strsBody intBody vfCheck
  simp only [h2, h4, h5, h6, h7, e]

theorem regOK_static (a b : Opt) (h : SameStatic a b) (hb : RegOK b) : RegOK a := by
  obtain ⟨_, _, _, h4, h5, _⟩ := h
  unfold RegOK at *; rw [h4, h5]; exact hb

theorem sameStatic_user (o : Opt) (u : Option Cache) : SameStatic { o with user := u } o :=
  ⟨rfl, rfl, rfl, rfl, rfl, rfl, rfl, rfl⟩

theorem sameStatic_dflt (o : Opt) (u : Option Cache) : SameStatic { o with dflt := u } o :=
  ⟨rfl, rfl, rfl, rfl, rfl, rfl, rfl, rfl⟩

theorem updateGate_eq (st : St) : updateGate st = { st with gate := (updateGate st).gate } := by
  unfold updateGate; split <;> rfl

@[simp] theorem updateGate_opts (st : St) : (updateGate st).opts = st.opts := by rw [updateGate_eq]
@[simp] theorem updateGate_gen (st : St) : (updateGate st).gen = st.gen := by rw [updateGate_eq]
@[simp] theorem updateGate_file (st : St) : (updateGate st).file = st.file := by rw [updateGate_eq]
@[simp] theorem updateGate_find (st : St) (k : Key) : (updateGate st).find k = st.find k := by simp [St.find]

theorem updateGate_gate {st : St} {o : Opt} (h : st.find rlKey = some o) :
    (updateGate st).gate = levelOf (layered o).s := by
  simp [updateGate, h]

theorem updateGate_self (st : St) (h : WF st) : updateGate st = st := by
  obtain ⟨r, hr1, _, _, hr4⟩ := h.rl
  rw [updateGate_eq, updateGate_gate hr1, ← hr4]

theorem putOpt_eq (st : St) (o' : Opt) :
    putOpt st o' = { st with opts := setOptIn o' st.opts, gate := (putOpt st o').gate } := by
  unfold putOpt; split
  · rw [updateGate_eq]
  · rfl

@[simp] theorem putOpt_opts (st : St) (o' : Opt) : (putOpt st o').opts = setOptIn o' st.opts := by
  rw [putOpt_eq]
@[simp] theorem putOpt_gen (st : St) (o' : Opt) : (putOpt st o').gen = st.gen := by rw [putOpt_eq]
@[simp] theorem putOpt_file (st : St) (o' : Opt) : (putOpt st o').file = st.file := by rw [putOpt_eq]

theorem putOpt_find_same {st : St} {o : Opt} (o' : Opt) (h : st.find o'.key = some o) :
    (putOpt st o').find o'.key = some o' := by
  unfold St.find; rw [putOpt_opts]; exact find?_setOptIn_same h

theorem putOpt_find_other (st : St) (o' : Opt) {k : Key} (hk : k ≠ o'.key) : (putOpt st o').find k = st.find k := by
  unfold St.find; rw [putOpt_opts]; exact find?_setOptIn_other o' hk _

theorem putOpt_gate_rl {st : St} {o o' : Opt} (h : st.find o'.key = some o) (hk : o'.key = rlKey) :
    (putOpt st o').gate = levelOf (layered o').s := by
  unfold putOpt
  rw [if_pos hk]
  exact updateGate_gate (hk ▸ find?_setOptIn_same h)

theorem putOpt_gate_other (st : St) {o' : Opt} (hk : o'.key ≠ rlKey) : (putOpt st o').gate = st.gate := by
  unfold putOpt; rw [if_neg hk]

theorem wf_putOpt {st : St} (h : WF st) {o o' : Opt} (hf : st.find o'.key = some o) (hs : SameStatic o' o)
    (hu : ∀ c, o'.user = some c → check o (jsonVal o.ty c) = .ok c) : WF (putOpt st o') := by
  have hm := (find?_some_mem hf).1
  have hmem : ∀ p ∈ (putOpt st o').opts, p = o' ∨ p ∈ st.opts := fun p hp => mem_setOptIn (putOpt_opts st o' ▸ hp)
  obtain ⟨r, hr1, hr2, hr3, hr4⟩ := h.rl
  refine ⟨by rw [putOpt_opts, setOptIn_keys]; exact h.nodup, ?_, ?_, ?_, by rw [putOpt_file]; exact h.fileWF⟩
  · intro p hp
    rcases hmem p hp with rfl | hp
    · exact regOK_static _ _ hs (h.reg o hm)
    · exact h.reg p hp
  · by_cases hk : o'.key = rlKey
    · obtain rfl : o = r := Option.some.inj ((hk ▸ hf).symm.trans hr1)
      exact ⟨o', hk ▸ putOpt_find_same o' hf, hs.2.1 ▸ hr2, hs.2.2.1 ▸ hr3, putOpt_gate_rl hf hk⟩
    · exact ⟨r, (putOpt_find_other st o' (Ne.symm hk)).trans hr1, hr2, hr3, (putOpt_gate_other st hk).trans hr4⟩
  · intro p hp c hc
    rcases hmem p hp with rfl | hp
    · exact hs.2.1 ▸ (check_static _ o hs _).trans (hu c hc)
    · exact h.uvalid p hp c hc

theorem putOpt_self {st : St} (h : WF st) {o : Opt} (hf : st.find o.key = some o) : putOpt st o = st := by
  unfold putOpt
  rw [setOptIn_self hf]
  split
  · exact updateGate_self st h
  · rfl

theorem effective_rl0 (gate : Nat) (o : Opt) (h : o.rl = 0) : effective gate o = layered o := by
  unfold effective layered
  cases hu : o.user <;> cases hd : o.dflt <;> simp [h]

theorem effRL_eq_gate (st : St) (h : WF st) : effRL st = st.gate := by
  obtain ⟨r, hr1, hr2, hr3, hr4⟩ := h.rl
  unfold effRL get getCache
  simp [hr1, GVal.ty, hr2, Cache.proj, effective_rl0 _ r hr3, hr4]

/-! ### signal and save -/

@[simp] theorem signal_find (st : St) (k : Key) : (signal st).find k = st.find k := rfl

theorem save_eq (st : St) : save st = { st with file := (save st).file } := by
  unfold save; split <;> rfl

@[simp] theorem save_opts (st : St) : (save st).opts = st.opts := by rw [save_eq]
@[simp] theorem save_gate (st : St) : (save st).gate = st.gate := by rw [save_eq]
@[simp] theorem save_gen (st : St) : (save st).gen = st.gen := by rw [save_eq]
@[simp] theorem save_persist (st : St) : (save st).persist = st.persist := by rw [save_eq]
@[simp] theorem save_find (st : St) (k : Key) : (save st).find k = st.find k := by simp [St.find]

theorem wf_signal (st : St) (h : WF st) : WF (signal st) := ⟨h.nodup, h.reg, h.rl, h.uvalid, h.fileWF⟩

theorem mem_foldl_putLeaf (e : Key × Val) : ∀ (m t : List (Key × Val)), e ∈ m.foldl putLeaf t → e ∈ t ∨ e ∈ m
  | [], t, h => Or.inl h
  | kv :: rest, t, h => by
    rcases mem_foldl_putLeaf e rest (putLeaf t kv) h with h1 | h1
    · unfold putLeaf at h1
      rcases List.mem_append.mp h1 with h2 | h2
      · exact Or.inl (List.mem_filter.mp h2).1
      · simp at h2; exact Or.inr (h2 ▸ List.mem_cons_self)
    · exact Or.inr (List.mem_cons_of_mem _ h1)

theorem mem_expand {e : Key × Val} {m : List (Key × Val)} (h : e ∈ expand m) : e ∈ m := by
  rcases mem_foldl_putLeaf e m [] h with h | h
  · cases h
  · exact h

theorem userEntries_WF (st : St) : ∀ e ∈ userEntries st, e.2.WF := by
  intro e he
  obtain ⟨o, _, ho⟩ := List.mem_filterMap.mp he
  obtain ⟨c, _, rfl⟩ := Option.map_eq_some_iff.mp ho
  exact jsonVal_WF _ _

theorem wf_save (st : St) (h : WF st) : WF (save st) := by
  unfold save; split
  · refine ⟨h.nodup, h.reg, h.rl, h.uvalid, ?_⟩
    intro t ht e he
    simp at ht
    subst ht
    exact userEntries_WF st e (mem_expand he)
  · exact h

/-! ### every call keeps the state well-formed -/

theorem wf_writeUser {st : St} (h : WF st) (k : Key) (v : Val) (hv : v.WF) : WF (writeUser st k v).1 := by
  unfold writeUser
  cases hf : st.find k with
  | none => exact h
  | some o =>
    obtain ⟨hm, rfl⟩ := find?_some_mem hf
    dsimp only
    split
    · exact wf_putOpt h hf (sameStatic_user o _) (fun _ hc => nomatch hc)
    · cases hc : check o v with
      | error e => exact wf_putOpt h hf (sameStatic_user o o.user) (h.uvalid o hm)
      | ok c =>
        refine wf_putOpt h hf (sameStatic_user o _) ?_
        rintro _ ⟨⟩
        exact check_json_idem o (h.reg o hm) v hv c hc

theorem wf_writeDflt {st : St} (h : WF st) (k : Key) (v : Val) : WF (writeDflt st k v).1 := by
  unfold writeDflt
  cases hf : st.find k with
  | none => exact h
  | some o =>
    obtain ⟨hm, rfl⟩ := find?_some_mem hf
    have hput : ∀ u, WF (putOpt st { o with dflt := u }) := fun u =>
      wf_putOpt h hf (sameStatic_dflt o u) (h.uvalid o hm)
    dsimp only
    split
    · exact hput none
    · cases check o v with
      | error e => exact hput o.dflt
      | ok c => exact hput (some c)

theorem wf_setUser {st : St} (h : WF st) (k : Key) (v : Val) (hv : v.WF) : WF (setUser st k v).1 := by
  have hw := wf_writeUser h k v hv
  unfold setUser
  split
  · next heq => rw [heq] at hw; exact wf_save _ (wf_signal _ hw)
  · next heq => rw [heq] at hw; exact hw

theorem wf_setDflt {st : St} (h : WF st) (k : Key) (v : Val) : WF (setDflt st k v).1 := by
  have hw := wf_writeDflt h k v
  unfold setDflt
  split
  · next heq => rw [heq] at hw; exact wf_signal _ hw
  · next heq => rw [heq] at hw; exact hw

theorem lookup_mem {m : List (Key × Val)} {k : Key} {v : Val} (h : lookup m k = some v) : (k, v) ∈ m := by
  obtain ⟨e, he, rfl⟩ := Option.map_eq_some_iff.mp h
  have hk : e.1 = k := by simpa using List.find?_some he
  exact hk ▸ List.mem_of_find?_eq_some he

theorem replOne_some {m : List (Key × Val)} {o : Opt} {c : Cache} (h : replOne m o = some c) :
    ∃ v, lookup m o.key = some v ∧ check o v = .ok c := by
  unfold replOne at h
  split at h
  · cases h
  · next v hl =>
    split at h
    · next hc => cases h; exact ⟨v, hl, hc⟩
    · cases h

theorem wf_mapOpts {st : St} (h : WF st) (f : Opt → Opt) (hs : ∀ o, SameStatic (f o) o)
    (hu : ∀ o ∈ st.opts, ∀ c, (f o).user = some c → check o (jsonVal o.ty c) = .ok c) :
    WF (updateGate { st with opts := st.opts.map f }) := by
  obtain ⟨r, hr1, hr2, hr3, _⟩ := h.rl
  have hfind : ({ st with opts := st.opts.map f } : St).find rlKey = some (f r) :=
    (find_mapOpts st f (fun o => (hs o).1) rlKey).trans (congrArg (Option.map f) hr1)
  have hmem : ∀ p ∈ (updateGate { st with opts := st.opts.map f }).opts, ∃ o ∈ st.opts, f o = p := by
    simp
  refine ⟨?_, ?_, ⟨f r, (updateGate_find _ _).trans hfind, (hs r).2.1 ▸ hr2, (hs r).2.2.1 ▸ hr3, updateGate_gate hfind⟩,
    ?_, by rw [updateGate_file]; exact h.fileWF⟩
  · simp only [updateGate_opts, List.map_map, Function.comp_def, (hs _).1]; exact h.nodup
  · intro p hp
    obtain ⟨o, ho, rfl⟩ := hmem p hp
    exact regOK_static _ _ (hs o) (h.reg o ho)
  · intro p hp c hc
    obtain ⟨o, ho, rfl⟩ := hmem p hp
    exact (hs o).2.1 ▸ (check_static _ o (hs o) _).trans (hu o ho c hc)

theorem wf_replaceUser {st : St} (h : WF st) (m : List (Key × Val)) (hm : ∀ e ∈ m, e.2.WF) :
    WF (replaceUser st m).1 := by
  refine wf_signal _ (wf_mapOpts h _ (fun o => sameStatic_user o _) ?_)
  intro o ho c hc
  obtain ⟨v, hl, hck⟩ := replOne_some hc
  exact check_json_idem o (h.reg o ho) v (hm _ (lookup_mem hl)) c hck

theorem wf_replaceDflt {st : St} (h : WF st) (m : List (Key × Val)) : WF (replaceDflt st m).1 :=
  wf_signal _ (wf_mapOpts h _ (fun o => sameStatic_dflt o _) h.uvalid)

theorem replaceUser_find (st : St) (m : List (Key × Val)) (k : Key) :
    (replaceUser st m).1.find k = (st.find k).map fun o => { o with user := replOne m o } := by
  simp only [replaceUser, signal_find, updateGate_find]
  exact find_mapOpts st (fun o => { o with user := replOne m o }) (fun _ => rfl) k

theorem replaceDflt_find (st : St) (m : List (Key × Val)) (k : Key) :
    (replaceDflt st m).1.find k = (st.find k).map fun o => { o with dflt := replOne m o } := by
  simp only [replaceDflt, signal_find, updateGate_find]
  exact find_mapOpts st (fun o => { o with dflt := replOne m o }) (fun _ => rfl) k

theorem replErr_eq_some {m : List (Key × Val)} {o : Opt} {k : Key} {e : VErr} :
    replErr m o = some (k, e) ↔ o.key = k ∧ ∃ v, lookup m k = some v ∧ check o v = .error e := by
  unfold replErr
  constructor
  · intro h
    split at h
    · cases h
    · next v hl =>
      split at h <;> cases h
      exact ⟨rfl, v, hl, ‹_›⟩
  · rintro ⟨rfl, v, hl, hc⟩
    simp [hl, hc]

theorem load_fst (st : St) (b : Bool) :
    (load st b).1 = st ∨ ∃ t, st.file = .tree t ∧ (load st b).1 = (replaceUser st (flatten t)).1 := by
  unfold load
  split
  · exact .inl rfl
  · split
    · exact .inl rfl
    · exact .inl rfl
    · next t heq =>
      refine .inr ⟨t, heq, ?_⟩
      dsimp only
      split <;> rfl

theorem wf_load {st : St} (h : WF st) (b : Bool) : WF (load st b).1 := by
  rcases load_fst st b with e | ⟨t, ht, e⟩ <;> rw [e]
  · exact h
  · exact wf_replaceUser h (flatten t) (h.fileWF t ht)

theorem wf_apply {st : St} (h : WF st) (op : Op) (hop : op.WF) : WF (apply st op) := by
  cases op with
  | set k v => exact wf_setUser h k v hop
  | setd k v => exact wf_setDflt h k v
  | rep m => exact wf_replaceUser h m hop
  | repd m => exact wf_replaceDflt h m
  | save => exact wf_save st h
  | load b => exact wf_load h b
  | wfile f => exact ⟨h.nodup, h.reg, h.rl, h.uvalid, fun t ht => by subst ht; exact hop⟩

theorem run_invariant {P : St → Prop} (hP : ∀ st op, WF st → P st → P (apply st op)) (ops : List Op) :
    ∀ st, WF st → P st → (∀ op ∈ ops, op.WF) → P (run st ops) ∧ WF (run st ops) := by
  induction ops with
  | nil => exact fun st h hp _ => ⟨hp, h⟩
  | cons op rest ih =>
    intro st h hp hops
    exact ih (apply st op) (wf_apply h op (hops op List.mem_cons_self)) (hP st op h hp)
      (fun o ho => hops o (List.mem_cons_of_mem _ ho))

theorem wf_run (ops : List Op) (st : St) (h : WF st) (hops : ∀ op ∈ ops, op.WF) : WF (run st ops) :=
  (run_invariant (P := fun _ => True) (fun _ _ _ _ => trivial) ops st h trivial hops).2

/-! ### Register and the initial state -/

theorem find?_insertOpt (o : Opt) (k : Key) (l : List Opt) :
    (insertOpt o l).find? (fun p => p.key = k) = if o.key = k then some o else l.find? (fun p => p.key = k) := by
  induction l with
  | nil => simp [insertOpt]
  | cons p rest ih => simp only [insertOpt, List.find?_cons]; grind

theorem find?_insertOpt_same (o : Opt) : ∀ (l : List Opt),
    (insertOpt o l).find? (fun p => p.key = o.key) = some o
  | l => by rw [find?_insertOpt, if_pos rfl]

theorem mem_insertOpt {o p : Opt} {l : List Opt} (h : p ∈ insertOpt o l) : p = o ∨ p ∈ l := by
  induction l with
  | nil => simpa [insertOpt] using h
  | cons q rest ih => simp only [insertOpt] at h; grind

theorem insertOpt_nodup (o : Opt) (l : List Opt) (h : (l.map (·.key)).Nodup) : ((insertOpt o l).map (·.key)).Nodup := by
  induction l with
  | nil => simp [insertOpt]
  | cons p rest ih =>
    simp only [insertOpt]
    split
    · simp_all
    · simp only [List.map_cons, List.nodup_cons, List.mem_map] at h ⊢
      refine ⟨?_, ih h.2⟩
      rintro ⟨q, hq, hqk⟩
      rcases mem_insertOpt hq with rfl | hq
      · simp_all
      · exact h.1 ⟨q, hq, hqk⟩

theorem mkOpt_props {key : Key} {ty : OptType} {rl rxi : Nat} {pvs : Option (List PV)} {vf mg : Nat} {dv : Val} {o : Opt}
    (h : mkOpt key ty rl rxi pvs vf mg dv = .ok o) : RegOK o ∧ o.user = none ∧ o.key = key := by
  unfold mkOpt at h
  split at h
  · cases h
  · split at h <;> cases h
    refine ⟨fun hp => ?_, rfl, rfl⟩
    show (mkRx rxi pvs).isNone = false
    unfold mkRx
    split
    · rfl
    · cases pvs with
      | none => cases hp
      | some l => rfl

theorem wf_register (st : St) (h : WF st) (o : Opt) (hreg : RegOK o) (hu : o.user = none) (hk : o.key ≠ rlKey) :
    WF (register st o) := by
  obtain ⟨r, hr1, hr⟩ := h.rl
  refine ⟨insertOpt_nodup o st.opts h.nodup, ?_, ⟨r, ?_, hr⟩, ?_, h.fileWF⟩
  · intro p hp
    rcases mem_insertOpt hp with rfl | hp
    · exact hreg
    · exact h.reg p hp
  · exact (find?_insertOpt o rlKey _).trans ((if_neg hk).trans hr1)
  · intro p hp c hc
    rcases mem_insertOpt hp with rfl | hp
    · rw [hu] at hc; cases hc
    · exact h.uvalid p hp c hc

theorem wf_init (persist : Bool) : WF (init persist) := by
  have hmem : ∀ o ∈ (init persist).opts, o = elOpt ∨ o = rlOpt := by simp [init]
  refine ⟨by simp [init, elOpt, rlOpt, elKey, rlKey], ?_, ⟨rlOpt, by rfl, rfl, rfl, by rfl⟩, ?_, fun t ht => nomatch ht⟩
  · intro o ho
    rcases hmem o ho with rfl | rfl <;> exact fun _ => rfl
  · intro o ho c hc
    rcases hmem o ho with rfl | rfl <;> cases hc

/-! ### Expand / Flatten, saved user layer, perspectives -/

theorem conflicts_comm (p q : Key) : conflicts p q = conflicts q p := by
  unfold conflicts; exact Bool.or_comm _ _

theorem foldl_putLeaf_append : ∀ (m t : List (Key × Val)), PrefixFree ((t ++ m).map (·.1)) → m.foldl putLeaf t = t ++ m
  | [], t, _ => by simp
  | kv :: rest, t, h => by
    have hput : putLeaf t kv = t ++ [kv] := by
      unfold putLeaf
      rw [List.filter_eq_self.mpr]
      intro e he
      simp only [PrefixFree, List.map_append, List.pairwise_append] at h
      simp [h.2.2 e.1 (List.mem_map_of_mem he) kv.1 (by simp)]
    rw [List.foldl_cons, hput, foldl_putLeaf_append rest _ (by simpa using h)]
    simp

theorem expand_eq_self (m : List (Key × Val)) (h : PrefixFree (m.map (·.1))) : expand m = m :=
  foldl_putLeaf_append m [] h

theorem find?_filterMap_key {β : Type} (key : β → Key) (F : Opt → Option β) (hF : ∀ o e, F o = some e → key e = o.key) :
    ∀ (l : List Opt), (l.map (·.key)).Nodup → ∀ o ∈ l, (l.filterMap F).find? (fun e => key e = o.key) = F o
  | [], _, o, ho => nomatch ho
  | p :: rest, hnd, o, ho => by
    simp only [List.map_cons, List.nodup_cons, List.mem_map] at hnd
    rw [List.filterMap_cons]
    rcases List.mem_cons.mp ho with rfl | ho'
    · cases hFo : F o with
      | some e => simp [hF o e hFo]
      | none =>
        simp only [List.find?_eq_none, List.mem_filterMap, decide_eq_true_eq]
        rintro e ⟨o', ho', hFo'⟩ hek
        exact hnd.1 ⟨o', ho', (hF o' e hFo').symm.trans hek⟩
    · have ih := find?_filterMap_key key F hF rest hnd.2 o ho'
      cases hFp : F p with
      | none => exact ih
      | some e =>
        have : ¬ key e = o.key := fun h => hnd.1 ⟨o, ho', ((hF p e hFp).symm.trans h).symm⟩
        simp [this, ih]

theorem lookup_userEntries {st : St} (h : WF st) {o : Opt} (ho : o ∈ st.opts) :
    lookup (userEntries st) o.key = o.user.map (jsonVal o.ty) := by
  unfold lookup userEntries
  rw [find?_filterMap_key Prod.fst _ _ st.opts h.nodup o ho]
  · cases o.user <;> rfl
  · intro o e he
    obtain ⟨c, _, rfl⟩ := Option.map_eq_some_iff.mp he
    rfl

theorem pEntry_key {m : List (Key × Val)} {o : Opt} {e : POpt} (h : pEntry m o = some e) : e.key = o.key := by
  unfold pEntry at h
  split at h
  · cases h
  · split at h <;> cases h
    rfl

theorem userEntries_keys_sublist (st : St) : ((userEntries st).map (·.1)).Sublist (st.opts.map (·.key)) := by
  unfold userEntries
  induction st.opts with
  | nil => simp
  | cons p rest ih =>
    cases hu : p.user with
    | none => simpa [List.filterMap_cons, hu] using ih.cons _
    | some c => simpa [List.filterMap_cons, hu] using ih

theorem replaceUser_userEntries (st : St) (h : WF st) : replaceUser st (userEntries st) = (signal st, []) := by
  have hone : ∀ o ∈ st.opts, replOne (userEntries st) o = o.user ∧ replErr (userEntries st) o = none := by
    intro o ho
    unfold replOne replErr
    rw [lookup_userEntries h ho]
    cases hu : o.user with
    | none => simp
    | some c => simp [h.uvalid o ho c hu]
  have hopts : st.opts.map (fun o => { o with user := replOne (userEntries st) o }) = st.opts :=
    (List.map_congr_left (g := id) fun o ho => by rw [(hone o ho).1]; rfl).trans (List.map_id _)
  have herrs : st.opts.filterMap (replErr (userEntries st)) = [] :=
    List.filterMap_eq_nil_iff.mpr fun o ho => (hone o ho).2
  unfold replaceUser
  simp only [hopts, herrs]
  rw [show ({ st with opts := st.opts } : St) = st from rfl, updateGate_self st h]

theorem load_save (st : St) (h : WF st) (hp : PrefixFree (st.opts.map (·.key))) (hpers : st.persist = true) (b : Bool) :
    load (save st) b = (signal (save st), .ok []) := by
  have hfile : (save st).file = .tree (userEntries (save st)) := by
    unfold save
    rw [if_pos hpers, expand_eq_self _ (hp.sublist (userEntries_keys_sublist st))]
    rfl
  unfold load
  rw [save_persist, hpers, hfile]
  simp [flatten, replaceUser_userEntries (save st) (wf_save st h)]

/-! ### getter closures along histories -/

theorem get_eq_of (st st' : St) (h1 : st'.opts = st.opts) (h2 : st'.gate = st.gate) (k : Key) (fb : GVal) :
    get st' k fb = get st k fb := by
  unfold get getCache St.find
  rw [h1, h2]

theorem setUser_outcome {st : St} (h : WF st) (k : Key) (v : Val) :
    ((setUser st k v).2 = .ok () ∧ (setUser st k v).1.gen = st.gen + 1) ∨
    ((∃ e, (setUser st k v).2 = .error e) ∧ (setUser st k v).1 = st) := by
  unfold setUser writeUser
  cases hf : st.find k with
  | none => exact .inr ⟨⟨_, rfl⟩, rfl⟩
  | some o =>
    obtain ⟨-, rfl⟩ := find?_some_mem hf
    by_cases hn : v = .nil
    · simp [hn, signal]
    · cases hc : check o v <;> simp [hn, hc, signal, putOpt_self h hf]

theorem setDflt_outcome {st : St} (h : WF st) (k : Key) (v : Val) :
    ((setDflt st k v).2 = .ok () ∧ (setDflt st k v).1.gen = st.gen + 1) ∨
    ((∃ e, (setDflt st k v).2 = .error e) ∧ (setDflt st k v).1 = st) := by
  unfold setDflt writeDflt
  cases hf : st.find k with
  | none => exact .inr ⟨⟨_, rfl⟩, rfl⟩
  | some o =>
    obtain ⟨-, rfl⟩ := find?_some_mem hf
    by_cases hn : v = .nil
    · simp [hn, signal]
    · cases hc : check o v <;> simp [hn, hc, signal, putOpt_self h hf]

theorem replaceUser_gen (st : St) (m : List (Key × Val)) : (replaceUser st m).1.gen = st.gen + 1 := by
  simp [replaceUser, signal]

theorem replaceDflt_gen (st : St) (m : List (Key × Val)) : (replaceDflt st m).1.gen = st.gen + 1 := by
  simp [replaceDflt, signal]

/-- Every call either hands out a new validity flag or leaves everything a getter reads untouched. -/
theorem apply_gen_or_same (st : St) (h : WF st) (op : Op) :
    (apply st op).gen = st.gen + 1 ∨
    ((apply st op).gen = st.gen ∧ (apply st op).opts = st.opts ∧ (apply st op).gate = st.gate) := by
  have same : ∀ {s : St}, s = st → s.gen = st.gen ∧ s.opts = st.opts ∧ s.gate = st.gate := fun e => e ▸ ⟨rfl, rfl, rfl⟩
  cases op with
  | set k v => exact (setUser_outcome h k v).imp (·.2) (same ·.2)
  | setd k v => exact (setDflt_outcome h k v).imp (·.2) (same ·.2)
  | rep m => exact .inl (replaceUser_gen st m)
  | repd m => exact .inl (replaceDflt_gen st m)
  | save => exact .inr ⟨save_gen st, save_opts st, save_gate st⟩
  | wfile f => exact .inr ⟨rfl, rfl, rfl⟩
  | load b =>
    rcases load_fst st b with e | ⟨t, _, e⟩
    · exact .inr (same e)
    · exact .inl ((congrArg St.gen e).trans (replaceUser_gen st (flatten t)))

theorem run_gen_le {st : St} (h : WF st) (ops : List Op) (hops : ∀ op ∈ ops, op.WF) : st.gen ≤ (run st ops).gen :=
  (run_invariant (P := fun s => st.gen ≤ s.gen)
    (fun s op hs hp => by rcases apply_gen_or_same s hs op with e | ⟨e, -, -⟩ <;> omega) ops st h (Nat.le_refl _) hops).1

theorem cinv_apply (st : St) (h : WF st) (op : Op) (cl : Closure) (hc : CInv st cl) : CInv (apply st op) cl := by
  rcases apply_gen_or_same st h op with e | ⟨e1, e2, e3⟩
  · exact ⟨by rw [e]; exact Nat.le_succ_of_le hc.1, fun hf => by have := hc.1; omega⟩
  · exact ⟨e1 ▸ hc.1, fun hf => (get_eq_of st _ e2 e3 _ _).symm ▸ hc.2 (hf.trans e1)⟩

theorem cinv_mk (st : St) (k : Key) (fb : GVal) : CInv st (mkClosure st k fb) := ⟨Nat.le_refl _, fun _ => rfl⟩

theorem call_current (st : St) (cl : Closure) (hc : CInv st cl) :
    (cl.call st).2 = get st cl.key cl.fb ∧ CInv st (cl.call st).1 ∧
      (cl.call st).1.key = cl.key ∧ (cl.call st).1.fb = cl.fb := by
  unfold Closure.call
  split
  · next hf => exact ⟨hc.2 hf, hc, rfl, rfl⟩
  · exact ⟨rfl, ⟨Nat.le_refl _, fun _ => rfl⟩, rfl, rfl⟩

end PB.Config
