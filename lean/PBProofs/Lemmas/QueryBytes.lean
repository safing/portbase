import PB.Model.QueryBytes
/-
The byte-level tokenizer / escaper of database/query (C11): the decoder sees the bytes after a lead byte only through
their prefix of bytes ≥ 0x80 (`decode1_eq`), which `escapeString` leaves alone, so escaping commutes with decoding (`units_E`).
-/
namespace PB.Query.B
open PB.Query

theorem decode1_ascii (b : Nat) (rest : BStr) (h : b < 0x80) : decode1 (b :: rest) = (b, 1) := by
  simp [decode1, h]

/-- The first `k` bytes, if they exist and are all ≥ 0x80 (what the decoder can consume after a lead byte). -/
def hiPrefix : Nat → BStr → Option BStr
  | 0, _ => some []
  | _ + 1, [] => none
  | k + 1, b :: rest => if 0x80 ≤ b then (hiPrefix k rest).map (b :: ·) else none

/-- Number of bytes a lead byte asks for after itself. -/
def need (b0 : Nat) : Nat :=
  if b0 < 0xC2 then 0 else if b0 < 0xE0 then 1 else if b0 < 0xF0 then 2 else if b0 < 0xF5 then 3 else 0

/-- The decoder's answer on a lead byte ≥ 0x80 as a function of the `need b0` high bytes after it (if there are). -/
def decodeSeq (b0 : Nat) : Option BStr → Nat × Nat
  | some [b1] =>
    if b1 < lo2 b0 ∨ hi2 b0 < b1 then (runeError, 1) else ((b0 % 32) * 64 + b1 % 64, 2)
  | some [b1, b2] =>
    if b1 < lo2 b0 ∨ hi2 b0 < b1 ∨ isCont b2 = false then (runeError, 1)
    else ((b0 % 16) * 4096 + (b1 % 64) * 64 + b2 % 64, 3)
  | some [b1, b2, b3] =>
    if b1 < lo2 b0 ∨ hi2 b0 < b1 ∨ isCont b2 = false ∨ isCont b3 = false then (runeError, 1)
    else ((b0 % 8) * 262144 + (b1 % 64) * 4096 + (b2 % 64) * 64 + b3 % 64, 4)
  | _ => (runeError, 1)

theorem need_cases (b0 : Nat) :
    ((b0 < 0xC2 ∨ 0xF5 ≤ b0) ∧ need b0 = 0) ∨ (0xC2 ≤ b0 ∧ b0 < 0xE0 ∧ need b0 = 1) ∨
    (0xE0 ≤ b0 ∧ b0 < 0xF0 ∧ need b0 = 2) ∨ (0xF0 ≤ b0 ∧ b0 < 0xF5 ∧ need b0 = 3) := by
  unfold need; (repeat' split) <;> omega

theorem lo2_ge (b0 : Nat) : 0x80 ≤ lo2 b0 := by unfold lo2; split <;> (try split) <;> omega

/-- The decoder looks at the following bytes only through `hiPrefix (need b0)`: a byte < 0x80 (or the end of the
    input) at any of these positions makes the lead byte an invalid unit, whatever that byte is. -/
theorem decode1_eq (b0 : Nat) (rest : BStr) (h : 0x80 ≤ b0) :
    decode1 (b0 :: rest) = decodeSeq b0 (hiPrefix (need b0) rest) := by
  -- all that is used of `lo2`, `hi2`: a byte < 0x80 fails the range test of the second byte
  have hlo := lo2_ge b0
  rcases need_cases b0 with ⟨h1, hn⟩ | ⟨h1, h2, hn⟩ | ⟨h1, h2, hn⟩ | ⟨h1, h2, hn⟩ <;> rw [hn]
  · simp only [decode1, hiPrefix, decodeSeq]; grind
  · rcases rest with _ | ⟨b1, r1⟩ <;> simp only [decode1, hiPrefix, decodeSeq] <;> grind
  · rcases rest with _ | ⟨b1, _ | ⟨b2, r2⟩⟩ <;> simp only [decode1, hiPrefix, decodeSeq, isCont] <;> grind
  · rcases rest with _ | ⟨b1, _ | ⟨b2, _ | ⟨b3, r3⟩⟩⟩ <;> simp only [decode1, hiPrefix, decodeSeq, isCont] <;> grind

theorem hiPrefix_length : ∀ (k : Nat) (s p : BStr), hiPrefix k s = some p → p.length = k
  | 0, _, p, h => by simp [hiPrefix] at h; subst h; rfl
  | k + 1, [], _, h => by simp [hiPrefix] at h
  | k + 1, b :: rest, p, h => by
    simp only [hiPrefix] at h
    split at h
    · cases hp : hiPrefix k rest with
      | none => simp [hp] at h
      | some q => simp [hp] at h; subst h; simp [hiPrefix_length k rest q hp]
    · cases h

/-- A unit that starts with a byte ≥ 0x80: the rune seen is not ASCII (U+FFFD or a multi-byte rune); the width is
    1 (invalid), or the whole sequence, and then the bytes after the lead byte are all ≥ 0x80. -/
theorem decode1_hi (b0 : Nat) (rest : BStr) (h : 0x80 ≤ b0) :
    0x80 ≤ (decode1 (b0 :: rest)).1 ∧
    ((decode1 (b0 :: rest)).2 - 1 = 0 ∨
      ((decode1 (b0 :: rest)).2 - 1 = need b0 ∧ (hiPrefix (need b0) rest).isSome = true)) := by
  rw [decode1_eq b0 rest h]
  cases hp : hiPrefix (need b0) rest with
  | none => simp [decodeSeq, runeError]
  | some p =>
    have hl := hiPrefix_length _ _ _ hp
    have hn := need_cases b0
    -- `p.length = need b0` fixes the branch of `decodeSeq` and the range of the lead byte, hence the bound on the rune
    rcases p with _ | ⟨b1, _ | ⟨b2, _ | ⟨b3, _ | ⟨b4, r⟩⟩⟩⟩ <;> simp only [decodeSeq] <;> (try split) <;>
      grind [runeError, lo2, hi2]

theorem rune_hi (b0 : Nat) (rest : BStr) (h : 0x80 ≤ b0) : 0x80 ≤ (decode1 (b0 :: rest)).1 :=
  (decode1_hi b0 rest h).1

/-- An escaped body followed by `z`. -/
def E (t z : BStr) : BStr := escBodyB t ++ z

/-- What may follow an escaped body: nothing, or an ASCII byte (the closing quote). -/
def TailOK (z : BStr) : Prop := z = [] ∨ ∃ a y, z = a :: y ∧ a < 0x80

theorem E_nil (z : BStr) : E [] z = z := rfl

theorem E_cons_esc (b : Nat) (rest z : BStr) (h : b = 0x5c ∨ b = 0x22) :
    E (b :: rest) z = 0x5c :: b :: E rest z := by simp [E, escBodyB, h]

theorem E_cons_keep (b : Nat) (rest z : BStr) (h : ¬ (b = 0x5c ∨ b = 0x22)) :
    E (b :: rest) z = b :: E rest z := by simp [E, escBodyB, h]

/-- Escaping does not change what the decoder can consume after a lead byte: high bytes are copied, and where the
    original has a byte < 0x80 or ends, the escaped text has a byte < 0x80 or ends. -/
theorem hiPrefix_E (z : BStr) (hz : TailOK z) : ∀ (k : Nat) (rest : BStr), hiPrefix k (E rest z) = hiPrefix k rest
  | 0, _ => by simp [hiPrefix]
  | k + 1, [] => by
    rcases hz with hz | ⟨a, y, hz, ha⟩
    · subst hz; simp [E_nil, hiPrefix]
    · subst hz
      have : ¬ 0x80 ≤ a := by omega
      simp [E_nil, hiPrefix, this]
  | k + 1, b :: rest => by
    by_cases hb : b = 0x5c ∨ b = 0x22
    · rw [E_cons_esc b rest z hb]
      have : ¬ 0x80 ≤ b := by rcases hb with hb | hb <;> omega
      simp [hiPrefix, this]
    · rw [E_cons_keep b rest z hb]
      simp [hiPrefix, hiPrefix_E z hz k rest]

theorem take_drop_E (z : BStr) : ∀ (k : Nat) (rest : BStr), (hiPrefix k rest).isSome = true →
    (E rest z).take k = rest.take k ∧ (E rest z).drop k = E (rest.drop k) z
  | 0, _, _ => by simp
  | k + 1, [], h => by simp [hiPrefix] at h
  | k + 1, b :: rest, h => by
    simp only [hiPrefix] at h
    by_cases hb : 0x80 ≤ b
    · simp only [hb, if_true, Option.isSome_map] at h
      have hne : ¬ (b = 0x5c ∨ b = 0x22) := by omega
      rw [E_cons_keep b rest z hne]
      have := take_drop_E z k rest h
      simp [this.1, this.2]
    · simp [hb] at h

theorem units_nil : units [] = [] := by rw [units]

theorem units_cons (b : Nat) (rest : BStr) :
    units (b :: rest) =
      ⟨b :: rest.take ((decode1 (b :: rest)).2 - 1), (decode1 (b :: rest)).1⟩ ::
        units (rest.drop ((decode1 (b :: rest)).2 - 1)) := by
  rw [units]

theorem units_ascii (b : Nat) (rest : BStr) (h : b < 0x80) : units (b :: rest) = ⟨[b], b⟩ :: units rest := by
  rw [units_cons, decode1_ascii b rest h]; simp

theorem flat_units (s : BStr) : flat (units s) = s := by
  induction hn : s.length using Nat.strongRecOn generalizing s with
  | ind n ih =>
    cases s with
    | nil => simp [units_nil, flat]
    | cons b rest =>
      rw [units_cons]
      simp only [flat]
      rw [ih _ _ _ rfl]
      · simp
      · subst hn; simp [List.length_drop]; omega

def bsU : U := ⟨[0x5c], 0x5c⟩

/-- `escBodyB` on the level of decode units. -/
def escU : List U → List U
  | [] => []
  | u :: rest => if u.r = 0x5c ∨ u.r = 0x22 then bsU :: u :: escU rest else u :: escU rest

/-- Escaping commutes with decoding: the units of an escaped text are the units of the text, each backslash and
    quote unit preceded by a backslash unit — no byte of the text is re-grouped by the inserted backslashes. -/
theorem units_E (z : BStr) (hz : TailOK z) (t : BStr) : units (E t z) = escU (units t) ++ units z := by
  induction hn : t.length using Nat.strongRecOn generalizing t with
  | ind n ih =>
    cases t with
    | nil => simp [E_nil, units_nil, escU]
    | cons b rest =>
      by_cases hlo : b < 0x80
      · have ihr := ih rest.length (by subst hn; simp) rest rfl
        rw [units_ascii b rest hlo]
        by_cases hb : b = 0x5c ∨ b = 0x22
        · rw [E_cons_esc b rest z hb, units_ascii _ _ (by omega), units_ascii b _ hlo, ihr]
          simp [escU, hb, bsU]
        · rw [E_cons_keep b rest z hb, units_ascii b _ hlo, ihr]
          simp [escU, hb]
      · have hhi : 0x80 ≤ b := by omega
        have hb : ¬ (b = 0x5c ∨ b = 0x22) := by omega
        rw [E_cons_keep b rest z hb, units_cons b (E rest z), units_cons b rest]
        have hd : decode1 (b :: E rest z) = decode1 (b :: rest) := by
          rw [decode1_eq b _ hhi, decode1_eq b _ hhi, hiPrefix_E z hz]
        rw [hd]
        have hr := rune_hi b rest hhi
        have hne : ¬ ((decode1 (b :: rest)).1 = 0x5c ∨ (decode1 (b :: rest)).1 = 0x22) := by omega
        have htd : (E rest z).take ((decode1 (b :: rest)).2 - 1) = rest.take ((decode1 (b :: rest)).2 - 1) ∧
            (E rest z).drop ((decode1 (b :: rest)).2 - 1) = E (rest.drop ((decode1 (b :: rest)).2 - 1)) z := by
          rcases (decode1_hi b rest hhi).2 with hw | ⟨hw, hs⟩
          · rw [hw]; simp
          · rw [hw]; exact take_drop_E z _ rest hs
        rw [htd.1, htd.2]
        rw [ih _ _ _ rfl]
        · simp [escU, hne]
        · subst hn; simp [List.length_drop]; omega

theorem flat_append (a b : List U) : flat (a ++ b) = flat a ++ flat b := by
  induction a with
  | nil => rfl
  | cons u r ih => simp [flat, ih]

theorem tailOK_nil : TailOK [] := Or.inl rfl
theorem tailOK_quote : TailOK [0x22] := Or.inr ⟨0x22, [], rfl, by decide⟩

theorem units_escBody (t : BStr) : units (escBodyB t) = escU (units t) := by
  have := units_E [] tailOK_nil t
  simpa [E, units_nil] using this

theorem flat_escU_units (t : BStr) : flat (escU (units t)) = escBodyB t := by
  rw [← units_escBody, flat_units]

theorem unescU_cons_ne (u : U) (r : List U) (h : u.r ≠ 0x5c) : unescU (u :: r) = u.src ++ unescU r := by
  cases r <;> simp [unescU, h]

theorem unescU_bs_cons (u d : U) (r : List U) (h : u.r = 0x5c) : unescU (u :: d :: r) = d.src ++ unescU r := by
  simp [unescU, h]

theorem unescU_escU (us : List U) : unescU (escU us) = flat us := by
  induction us with
  | nil => simp [escU, unescU, flat]
  | cons u r ih =>
    by_cases h : u.r = 0x5c ∨ u.r = 0x22
    · simp only [escU, h, if_true]
      rw [unescU_bs_cons bsU u _ rfl, ih]; rfl
    · have h1 : u.r ≠ 0x5c := fun e => h (Or.inl e)
      simp only [escU, h, if_false]
      rw [unescU_cons_ne u _ h1, ih]; rfl

theorem trimQuoteB_escBody (t : BStr) : trimQuoteB (escBodyB t) = escBodyB t := by
  cases t with
  | nil => rfl
  | cons b r =>
    by_cases h : b = 0x5c ∨ b = 0x22
    · simp [escBodyB, h, trimQuoteB]
    · have h1 : b ≠ 0x5c := fun e => h (Or.inl e)
      have h2 : b ≠ 0x22 := fun e => h (Or.inr e)
      simp [escBodyB, trimQuoteB, h1, h2]

theorem prep_escBodyB (t : BStr) : prepTokenB (escBodyB t) = t := by
  rw [prepTokenB, trimQuoteB_escBody, units_escBody, unescU_escU, flat_units]

def qU : U := ⟨[0x22], 0x22⟩

theorem lexU_skip (m : ModeB) (u : U) (rest : List U) :
    lexU true m (u :: rest) = lexU false (m.push u) rest := by
  cases m <;> simp [lexU]
theorem lexU_quote_close (acc : BStr) (u : U) (rest : List U) (h : u.r = 0x22) :
    lexU false (.quote acc) (u :: rest) = (prepTokenB acc :: ·) <$> lexU false .idle rest := by
  simp [lexU, h]
theorem lexU_quote_char (acc : BStr) (u : U) (rest : List U) (h : u.r ≠ 0x22) :
    lexU false (.quote acc) (u :: rest) = lexU (decide (u.r = 0x5c)) (.quote (acc ++ u.src)) rest := by
  simp [lexU, h]
theorem lexU_idle_quote (u : U) (rest : List U) (h : u.r = 0x22) :
    lexU false .idle (u :: rest) = lexU false (.quote []) rest := by
  simp [lexU, h, isSepR]
theorem lexU_idle_char (u : U) (rest : List U) (h : isSepR u.r = false) (h2 : u.r ≠ 0x22) :
    lexU false .idle (u :: rest) = lexU (decide (u.r = 0x5c)) (.word u.src) rest := by
  simp [lexU, h, h2]
theorem lexU_word_char (acc : BStr) (u : U) (rest : List U) (h : isSepR u.r = false) (h2 : u.r ≠ 0x22) :
    lexU false (.word acc) (u :: rest) = lexU (decide (u.r = 0x5c)) (.word (acc ++ u.src)) rest := by
  simp [lexU, h, h2]

/-- Inside quotes the escaped body is consumed unit by unit up to the closing quote; the snippet is the source
    bytes in between. -/
theorem lexU_quote_scan (us : List U) (acc : BStr) (q : U) (hq : q.r = 0x22) (rest : List U) :
    lexU false (.quote acc) (escU us ++ q :: rest) =
      (prepTokenB (acc ++ flat (escU us)) :: ·) <$> lexU false .idle rest := by
  induction us generalizing acc with
  | nil => simp [escU, flat, lexU_quote_close acc q rest hq]
  | cons u r ih =>
    by_cases h : u.r = 0x5c ∨ u.r = 0x22
    · simp only [escU, h, if_true, List.cons_append]
      rw [lexU_quote_char acc bsU _ (by decide)]
      simp only [bsU, decide_true, lexU_skip, ModeB.push]
      rw [ih]; simp [flat]
    · have h1 : u.r ≠ 0x5c := fun e => h (Or.inl e)
      have h2 : u.r ≠ 0x22 := fun e => h (Or.inr e)
      simp only [escU, h, if_false, List.cons_append]
      rw [lexU_quote_char acc u _ h2]
      simp only [h1, decide_false]
      rw [ih]; simp [flat]

theorem not_special {r : Nat} (h : isSpecialB r = false) : isSepR r = false ∧ r ≠ 0x5c ∧ r ≠ 0x22 := by
  simp only [isSpecialB, Bool.or_eq_false_iff, decide_eq_false_iff_not] at h
  simp only [isSepR, Bool.or_eq_false_iff, decide_eq_false_iff_not]
  omega

theorem special_hi {r : Nat} (h : 0x80 ≤ r) : isSpecialB r = false := by
  simp only [isSpecialB, Bool.or_eq_false_iff, decide_eq_false_iff_not]
  omega

theorem lexU_word_scan (us : List U) (acc : BStr) (h : ∀ u ∈ us, isSpecialB u.r = false) :
    lexU false (.word acc) us = .ok [prepTokenB (acc ++ flat us)] := by
  induction us generalizing acc with
  | nil => simp [lexU, flat]
  | cons u r ih =>
    obtain ⟨hsep, hbs, hq⟩ := not_special (h u (by simp))
    rw [lexU_word_char acc u r hsep hq]
    simp only [hbs, decide_false]
    rw [ih _ (fun v hv => h v (by simp [hv]))]
    simp [flat]

/-- The units of a text without special bytes see no special rune: an ASCII unit sees its byte, every other unit
    sees U+FFFD or a multi-byte rune. -/
theorem units_noSpecial (t : BStr) (h : t.any isSpecialB = false) : ∀ u ∈ units t, isSpecialB u.r = false := by
  induction hn : t.length using Nat.strongRecOn generalizing t with
  | ind n ih =>
    cases t with
    | nil => simp [units_nil]
    | cons b rest =>
      simp only [List.any_cons, Bool.or_eq_false_iff] at h
      intro u hu
      rw [units_cons] at hu
      rcases List.mem_cons.mp hu with hu | hu
      · subst hu
        by_cases hlo : b < 0x80
        · simpa [decode1_ascii b rest hlo] using h.1
        · exact special_hi (rune_hi b rest (by omega))
      · refine ih _ ?_ _ ?_ rfl u hu
        · subst hn; simp [List.length_drop]; omega
        · rw [List.any_eq_false] at h ⊢
          intro x hx
          exact h.2 x (List.mem_of_mem_drop hx)

theorem unescU_plain (us : List U) (h : ∀ u ∈ us, u.r ≠ 0x5c) : unescU us = flat us := by
  induction us with
  | nil => rfl
  | cons u r ih =>
    rw [unescU_cons_ne u r (h u (by simp)), ih (fun v hv => h v (by simp [hv]))]; rfl

theorem prepTokenB_plain (t : BStr) (h : t.any isSpecialB = false) : prepTokenB t = t := by
  have ht : trimQuoteB t = t := by
    cases t with
    | nil => rfl
    | cons b r =>
      simp only [List.any_cons, Bool.or_eq_false_iff] at h
      simp [trimQuoteB, (not_special h.1).2.2]
  rw [prepTokenB, ht, unescU_plain _ (fun u hu => (not_special (units_noSpecial t h u hu)).2.1), flat_units]

theorem lex_escB (t : BStr) : lexBytes (escB t) = .ok [t] := by
  unfold lexBytes escB
  by_cases h : t = [] ∨ t.any isSpecialB = true
  · simp only [h, if_true]
    have hE : 0x22 :: escBodyB t ++ [0x22] = 0x22 :: E t [0x22] := by simp [E]
    rw [hE, units_ascii _ _ (by decide), units_E _ tailOK_quote, units_ascii _ _ (by decide), units_nil]
    rw [lexU_idle_quote _ _ rfl, lexU_quote_scan (units t) [] ⟨[0x22], 0x22⟩ rfl []]
    simp only [lexU, List.nil_append, flat_escU_units, prep_escBodyB]
    rfl
  · have hne : t ≠ [] := fun e => h (Or.inl e)
    have hs : t.any isSpecialB = false := by
      cases hx : t.any isSpecialB with
      | false => rfl
      | true => exact absurd (Or.inr hx) h
    simp only [h, if_false]
    have hall := units_noSpecial t hs
    cases hu : units t with
    | nil =>
      have := flat_units t
      rw [hu] at this
      exact absurd this.symm hne
    | cons u r =>
      rw [hu] at hall
      obtain ⟨hsep, hbs, hq⟩ := not_special (hall u (by simp))
      rw [lexU_idle_char u r hsep hq]
      simp only [hbs, decide_false]
      rw [lexU_word_scan r u.src (fun v hv => hall v (by simp [hv]))]
      have : u.src ++ flat r = t := by
        have := flat_units t
        rw [hu] at this
        exact this
      rw [this, prepTokenB_plain t hs]

end PB.Query.B
