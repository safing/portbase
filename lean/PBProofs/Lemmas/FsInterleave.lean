import PB.Model.FsInterleave
import PB.Spec.FsCrash
/- Interleavings of two writers: the enumeration is complete; an exploration that merges equal states. -/
namespace PB.FsAtomic

theorem interleavings_nil_right (a : List Call) : interleavings a [] = [a] := by
  cases a <;> rfl

theorem interleavings_cons_cons (x y : Call) (a b : List Call) :
    interleavings (x :: a) (y :: b) = (interleavings a (y :: b)).map (x :: ·) ++ (interleavings (x :: a) b).map (y :: ·) := by
  rfl

/-- `interleavings` is complete for `Interleave`. -/
theorem interleave_mem {a b t : List Call} (h : Interleave a b t) : t ∈ interleavings a b := by
  induction h with
  | nil => simp [interleavings]
  | @left c a b t _ ih =>
    cases b with
    | nil => rw [interleavings_nil_right] at ih ⊢; simp at ih ⊢; exact ih
    | cons y b' => rw [interleavings_cons_cons]; exact List.mem_append_left _ (List.mem_map.2 ⟨t, ih, rfl⟩)
  | @right c a b t _ ih =>
    cases a with
    | nil => simp only [interleavings] at ih ⊢; simp at ih ⊢; exact ih
    | cons x a' => rw [interleavings_cons_cons]; exact List.mem_append_right _ (List.mem_map.2 ⟨t, ih, rfl⟩)

theorem Interleave.length_eq {a b t : List Call} (h : Interleave a b t) : t.length = a.length + b.length := by
  induction h with
  | nil => rfl
  | left c _ ih => simp only [List.length_cons, ih]; omega
  | right c _ ih => simp only [List.length_cons, ih]; omega

theorem Interleave.nil_left : ∀ b : List Call, Interleave [] b b
  | [] => .nil
  | c :: b => .right c (nil_left b)

theorem Interleave.append_left {a b t : List Call} (p : List Call) (h : Interleave a b t) :
    Interleave (p ++ a) b (p ++ t) := by
  induction p with
  | nil => exact h
  | cons c p ih => exact .left c ih

theorem Interleave.append_right {a b t : List Call} (p : List Call) (h : Interleave a b t) :
    Interleave a (p ++ b) (p ++ t) := by
  induction p with
  | nil => exact h
  | cons c p ih => exact .right c ih

section Explore
variable {σ : Type} [DecidableEq σ] (f : σ → Call → σ) (ok : σ → Bool) (a b : List Call)

/-- `(i, j, s)`: `i` calls of `a` and `j` calls of `b` made, state `s`. -/
def succs (c : Nat × Nat × σ) : List (Nat × Nat × σ) :=
  (a[c.1]?.map fun x => (c.1 + 1, c.2.1, f c.2.2 x)).toList ++
  (b[c.2.1]?.map fun y => (c.1, c.2.1 + 1, f c.2.2 y)).toList

/-- Breadth-first; interleavings meeting at one point in one state are followed once. -/
def explore : Nat → List (Nat × Nat × σ) → Bool
  | 0, cs => cs.all fun c => ok c.2.2
  | n + 1, cs => explore n (cs.flatMap (succs f a b)).eraseDups

theorem drop_eq_cons {α : Type} {l r : List α} {i : Nat} {x : α} (h : l.drop i = x :: r) :
    l[i]? = some x ∧ l.drop (i + 1) = r := by
  constructor
  · rw [← List.head?_drop, h]; rfl
  · rw [← List.tail_drop, h]; rfl

theorem explore_sound {t ra rb : List Call} (h : Interleave ra rb t) :
    ∀ {cs : List (Nat × Nat × σ)} {i j : Nat} {s : σ}, explore f ok a b t.length cs = true → (i, j, s) ∈ cs →
      a.drop i = ra → b.drop j = rb → ok (t.foldl f s) = true := by
  induction h with
  | nil => intro cs i j s he hc _ _; exact List.all_eq_true.1 he _ hc
  | left c _ ih =>
    intro cs i j s he hc ha hb
    obtain ⟨hx, ha'⟩ := drop_eq_cons ha
    refine ih he (List.mem_eraseDups.2 (List.mem_flatMap.2 ⟨_, hc, ?_⟩)) ha' hb
    simp [succs, hx]
  | right c _ ih =>
    intro cs i j s he hc ha hb
    obtain ⟨hy, hb'⟩ := drop_eq_cons hb
    refine ih he (List.mem_eraseDups.2 (List.mem_flatMap.2 ⟨_, hc, ?_⟩)) ha hb'
    simp [succs, hy]

end Explore

deriving instance DecidableEq for FS, Chk

def tmpF2 : Path := ["R", "tmp", ".f#2"]

def oneChunk : List Seg := [⟨1, 0, 5000⟩]

/-- Runs that made the same calls differ only by the order of the `open`s (inode numbers) and of the renames. -/
theorem renameio_pair_explored :
    ([none, some (([⟨0, 0, 100⟩] : Content), 0o644)].all fun old =>
      explore (chkStep destF (baseOld old) (some (.file (written oneChunk), []))) (·.ok)
        (publishSeq tmpF destF 6 0o644 oneChunk) (publishSeq tmpF2 destF 7 0o600 oneChunk) 12
        [(0, 0, chkInit (baseFS old) destF (baseOld old) (some (.file (written oneChunk), [])))]) = true := by
  decide +kernel

end PB.FsAtomic
