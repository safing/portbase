import PB.Model.FsWriters
import PBProofs.Lemmas.FsAtomic
/- Soundness of the exhaustive exploration `checkAll` of a writer program (C17). -/
namespace PB.FsAtomic

/-- If the exploration succeeds then for EVERY pattern of failing calls and EVERY stopping point the checker
    accepts the calls made and all of them create only allowed names. -/
theorem checkAll_sound (dest : Path) (old new : Obs) (tmp : Path → Bool) :
    ∀ (p : Prog) (k : Chk) (n : Nat), checkAll dest old new tmp p k n = true →
    ∀ fails : List Bool,
      (chkRun dest old new k (runProg p k.s (oracleOf n fails))).ok = true ∧
      onlyTemp dest tmp (runProg p k.s (oracleOf n fails)) = true := by
  intro p
  induction p with
  | ret f => exact fun k n h fails => by cases fails <;> exact ⟨h, rfl⟩
  | probeDir _ _ ih | probeExists _ _ ih | probeMode _ _ _ ih => exact fun k n h fails => ih _ k n h fails
  | sys r kont ih =>
    intro k n h fails
    simp only [checkAll, Bool.and_eq_true] at h
    obtain ⟨⟨hk, hinj⟩, hnat⟩ := h
    match fails with
    | [] => exact ⟨hk, rfl⟩
    | true :: fs => exact ih _ k (n + 1) hinj fs
    | false :: fs =>
      simp only [oracleOf, runProg, Bool.false_eq_true, if_false]
      split at hnat
      · rename_i s' hex
        simp only [Bool.and_eq_true] at hnat
        have := ih _ _ (n + 1) hnat.2 fs
        rw [show (chkStep dest old new k _).s = s' from congrArg Prod.fst hex] at this
        -- `okCall dest tmp c` is `onlyTemp dest tmp [c]`
        exact ⟨this.1, by rw [onlyTemp_cons, Bool.and_eq_true]; exact ⟨hnat.1, this.2⟩⟩
      · exact ih _ k (n + 1) hnat fs

end PB.FsAtomic
