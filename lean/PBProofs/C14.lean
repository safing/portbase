import PBProofs.Lemmas.Subs
import PBProofs.Lemmas.SubsConc
import PBProofs.Lemmas.HooksConc
/-
C14 — Subscriptions deliver every matching write in order; hooks fire as registered.
Property theorems (helper lemmas: PBProofs/Lemmas/Subs.lean, SubsConc.lean, HooksConc.lean).

Part A: sequential histories of one database (model `PB.Subs`) — all queries (arbitrary key/record predicates),
all hook functions, all privilege / flag combinations, all storages of the model.
Part B: interleavings of any number of writers, `Subscribe` and `Cancel` calls (model `PB.SubsConc`).
Part C: interleavings of hook runners with `RegisterHook` and `RegisteredHook.Cancel` (model `PB.HooksConc`).
-/
namespace PB.C14
open PB.Subs

/-! ## A.1 Subscriptions: what a feed is offered -/

/-- **Exact delivery.** After any history, every listed subscription has been offered exactly the successful
    writes / deletes / pushed updates since it was subscribed that match its query and that its subscriber may
    see — each once, in order, nothing else; a cancelled subscription exactly those up to its `Cancel`. -/
theorem delivery_exact (cfg : Cfg) (ops : List Op) :
    (∀ s ∈ (run (St.init cfg) ops).1.subs,
        s.attempts.map (·.1) = ((run (St.init cfg) ops).1.writes.drop s.since).filter s.visible) ∧
    (∀ p ∈ (run (St.init cfg) ops).1.closed,
        p.1.attempts.map (·.1) = (((run (St.init cfg) ops).1.writes.take p.2).drop p.1.since).filter p.1.visible) :=
  (run_induct Inv (fun _ op => Inv_step op) ops _ (Inv_init cfg)).exact

/-- What is in a feed buffer (and what the subscriber has already read from it) are exactly the accepted
    attempts, in order: nothing else is ever delivered. -/
theorem feed_holds_only_accepted_attempts (cfg : Cfg) (ops : List Op) :
    ∀ s ∈ (run (St.init cfg) ops).1.allSubs, ∃ consumed, consumed ++ s.buf = accepted s := by
  have h := run_induct Inv (fun _ op => Inv_step op) ops _ (Inv_init cfg)
  intro s hs
  simp only [St.allSubs, List.mem_append, List.mem_map] at hs
  rcases hs with hs | ⟨p, hp, rfl⟩
  · exact (h.1 s hs).2.2.2
  · exact (h.2 p hp).2.2.2

/-- One loop iteration of `notifySubscribers`: an attempt is made iff the record matches the query and the
    subscriber may see it; it is accepted iff the buffer (size regenerated from the source) has room. -/
theorem offer_exact (s : Sub) (r : Rec) :
    (s.offer r).attempts = (if s.visible r then s.attempts ++ [(r, decide (s.buf.length < PB.Gen.Subs.feedCap))] else s.attempts) ∧
    (s.offer r).buf = (if s.visible r ∧ s.buf.length < PB.Gen.Subs.feedCap then s.buf ++ [r] else s.buf) := by
  unfold Sub.offer
  split
  split
  all_goals simp [*]

/-- **The buffer proviso is per subscription.** `notifySubscribers` makes one independent loop iteration for every
    listed subscription, whatever happened at the subscriptions before it in the list — in particular a *full*
    feed of an earlier subscription (its `default:` branch) does not end the loop: the subscriptions after it are
    offered the record all the same, and each decides on its *own* buffer. (Stated over the loop as it is written,
    `notifyLoop`, with the `return`/`break` shape of its three paths regenerated from the source.) -/
theorem notify_offers_every_subscription_independently (r : Rec) (pre post : List Sub) (s : Sub) :
    notifyLoop r (pre ++ s :: post) = pre.map (·.offer r) ++ s.offer r :: post.map (·.offer r) := by
  simp [notifyLoop_eq_map]

/-- … hence: a record that is for `s` is buffered for `s` iff `s`'s own buffer has room, no matter how full the
    feeds of the subscriptions listed before or after it are. -/
theorem full_feed_of_another_subscription_does_not_matter (st : St) (r : Rec) (pre post : List Sub) (s : Sub)
    (hl : st.subs = pre ++ s :: post) (hv : s.visible r = true) (hroom : s.buf.length < PB.Gen.Subs.feedCap) :
    (notify st r).subs = pre.map (·.offer r) ++ { s with buf := s.buf ++ [r], attempts := s.attempts ++ [(r, true)] } ::
      post.map (·.offer r) := by
  rw [notify_subs, hl]
  simp [Sub.offer, hv, hroom]

/-- "May see" is `Meta.CheckPermission` as regenerated from the source: crown jewels need a local subscriber,
    secrets an internal one. -/
theorem visible_iff (s : Sub) (r : Rec) :
    s.visible r = true ↔ (s.loc = true ∨ r.md.cj = false) ∧ (s.int = true ∨ r.md.secret = false) ∧ s.q.matches r = true := by
  simp [Sub.visible, permitted, PB.Gen.Subs.checkPermission, and_assoc]

/-- `Subscription.Cancel` removes exactly its own list entry (the first with its identity) and closes it;
    every other subscription stays listed, in order. A second `Cancel` finds nothing and does nothing. -/
theorem cancel_moves_exactly_its_own_entry (st : St) (id : Nat) :
    (∀ s rest, removeSub id st.subs = some (s, rest) →
        s.id = id ∧ (step st (.cancel id)).1.subs = rest ∧ rest.length + 1 = st.subs.length ∧
        (step st (.cancel id)).1.closed = st.closed ++ [(s, st.writes.length)]) ∧
    (removeSub id st.subs = none → (step st (.cancel id)).1.subs = st.subs ∧ (step st (.cancel id)).1.closed = st.closed) := by
  constructor
  · intro s rest h
    obtain ⟨pre, post, hl, rfl, h2, _⟩ := removeSub_spec id st.subs s rest h
    simp only [step, h]
    exact ⟨h2, trivial, by simp [hl]; omega, trivial⟩
  · intro h
    simp [step, h]

/-- **After cancel returns nothing is delivered any more:** no operation ever changes the attempts of a cancelled
    subscription (or un-cancels it); the cancelled list only grows at its end. -/
theorem cancel_silences (st : St) (op : Op) :
    (st.closed.map (fun p => (p.1.id, p.1.attempts, p.2))) <+:
      ((step st op).1.closed.map (fun p => (p.1.id, p.1.attempts, p.2))) := by
  have hw := step_wrote st op
  cases op with
  | cancel id =>
    simp only [step]
    split
    · exact List.prefix_refl _
    · simp
  | subscribe | regHook => simp only [step]; split <;> exact List.prefix_refl _
  | cancelHook => exact List.prefix_refl _
  | drain =>
    simp only [step, List.map_map]
    exact List.prefix_refl _
  | drainOne id =>
    simp only [step, List.map_map, Function.comp_def, apply_ite Sub.id, apply_ite Sub.attempts, ite_self]
    exact List.prefix_refl _
  | put | modify | get | exists_ | push | flush | putMany => rw [(Wrote.frame hw).2.2.2]; exact List.prefix_refl _

/-! ## A.2 Every successful write is delivered, failed ones are not -/

/-- `Delivered st st' w`: going from `st` to `st'`, exactly the record `w` was recorded as written and offered to
    every listed subscription (one loop iteration each, in list order); nothing else changed for subscribers. -/
def Delivered (st st' : St) (w : Rec) : Prop :=
  st'.writes = st.writes ++ [w] ∧ st'.subs = st.subs.map (·.offer w) ∧ st'.closed = st.closed

/-- `Controller.Put`: success ⇒ the record handed to the subscribers is the one now in the storage (or the key is
    gone after an immediate delete) and it is what the pre-put chain produced, in the form the storage returned;
    failure ⇒ nothing at all changed. -/
theorem controller_put_delivers_iff_successful (st : St) (r : Rec) :
    match (ctrlPut st r).2.res with
    | .ok _ => ∃ w, Delivered st (ctrlPut st r).1 w ∧
        (if (!st.cfg.shadow && w.md.deleted) = true then sGet (ctrlPut st r).1.store w.key = none
         else sGet (ctrlPut st r).1.store w.key = some w) ∧
        (w = thread r (ctrlPut st r).2.calls ∨ w = st.cfg.putForm (thread r (ctrlPut st r).2.calls))
    | .error _ => (ctrlPut st r).1 = st := by
  obtain ⟨hcalls, ⟨e, he, h⟩ | ⟨r', same, store', w, h1, hw, hok, h⟩⟩ := ctrlPut_spec st r
  · rw [he]; exact h
  · rw [hok, h, hcalls]
    obtain ⟨hform, hget⟩ := storeWrite_ok hw
    rw [runRec_result _ _ _ st.hooks r true r' same h1] at hform
    exact ⟨w, ⟨rfl, notify_subs _ w, rfl⟩, hget, hform⟩

/-- Interface writes that go to the controller (`Put`, `PutNew` without delayed writes): delivered iff successful. -/
theorem put_delivers_iff_successful_partial (st : St) (o : Opts) (r : Rec) (isNew : Bool) (hnd : o.delayed = false) :
    match (step st (.put o r isNew)).2.res with
    | .ok _ => ∃ w, Delivered st (step st (.put o r isNew)).1 w
    | .error _ => (step st (.put o r isNew)).1 = st := by
  simp only [step, ifacePut, putPrepared, hnd, Bool.false_eq_true, if_false]
  by_cases hden : putDenied st o r.key = true
  · simp only [hden, if_true]
  · simp only [hden, Bool.false_eq_true, if_false]
    have := controller_put_delivers_iff_successful st (applyOpts o (newForm r isNew))
    split at this
    · exact this.imp fun _ h => h.1
    · exact this

/-- The statement without the proviso is false on the code: a `Put` through an interface with `DelayCachedWrites`
    succeeds without the controller — no subscriber is notified (and no pre-put hook runs). -/
theorem put_delivers_full_statement_REFUTED :
    ¬ (∀ (st : St) (o : Opts) (r : Rec) (isNew : Bool),
        (step st (.put o r isNew)).2.res = .ok none → ∃ w, Delivered st (step st (.put o r isNew)).1 w) := by
  intro h
  obtain ⟨w, hw, _⟩ := h (St.init ⟨.hashmap, false⟩) { loc := true, int := true, delayed := true } ⟨"k", 0, "", {}⟩ false rfl
  -- `hw`: the write history, still empty, ends with `w`
  nomatch hw

/-- `Interface.PutMany` is the other write that does not reach the subscribers (nor the pre-put hooks): the batch goes
    to the storage directly — documented on `PutMany` itself ("omits … Hooks, Subscriptions"). Recorded as a finding
    against the statement's "through any interface". -/
theorem putmany_delivers_full_statement_REFUTED :
    ¬ (∀ (st : St) (o : Opts) (r : Rec),
        (step st (.putMany o [r])).2.res = .ok none → sGet (step st (.putMany o [r])).1.store r.key = some (applyOpts o r) →
        ∃ w, Delivered st (step st (.putMany o [r])).1 w) := by
  intro h
  obtain ⟨w, hw, _⟩ := h (St.init ⟨.hashmap, false⟩) { loc := true, int := true } ⟨"k", 0, "", {}⟩ rfl rfl
  nomatch hw

/-- … what it does do: nothing for an interface without all permissions; otherwise the storage is written and
    nothing else — no feed, no hook call. -/
theorem putmany_writes_storage_only (st : St) (o : Opts) (rs : List Rec) :
    (step st (.putMany o rs)).2.calls = [] ∧ (step st (.putMany o rs)).1.subs = st.subs ∧
    (step st (.putMany o rs)).1.writes = st.writes ∧ (step st (.putMany o rs)).1.closed = st.closed ∧
    (o.all = false → (step st (.putMany o rs)).1 = st ∧ (step st (.putMany o rs)).2.res = .error .denied) := by
  simp only [step]
  by_cases ha : o.all = true <;> simp [ha]

/-- In-place modifications (`Delete`, `MakeSecret`, `MakeCrownJewel`, `SetAbsoluteExpiry`, `InsertValue`):
    delivered iff successful; a failed one delivers nothing. -/
theorem modify_delivers_iff_successful (st : St) (o : Opts) (key : String) (m : Mod) :
    match (step st (.modify o key m)).2.res with
    | .ok _ => ∃ w, Delivered st (step st (.modify o key m)).1 w
    | .error _ => (step st (.modify o key m)).1.subs = st.subs ∧ (step st (.modify o key m)).1.writes = st.writes ∧
        (step st (.modify o key m)).1.closed = st.closed := by
  simp only [step, ifaceModify]
  generalize ifaceGetRec st o key = p
  obtain ⟨cs, _ | ⟨r, same⟩⟩ := p
  · exact ⟨rfl, rfl, rfl⟩
  · -- an aliasing storage already holds the changed record: other storage content, same subscribers
    obtain ⟨s, e⟩ : ∃ s, (if (st.cfg.aliasing && same) = true then { st with store := sPut st.store r.key (m.run o r) }
        else st) = { st with store := s } := by
      split
      · exact ⟨_, rfl⟩
      · exact ⟨st.store, rfl⟩
    simp only [e]
    have := controller_put_delivers_iff_successful { st with store := s } (m.run o r)
    split at this
    · exact this.imp fun _ h => h.1
    · rw [this]; exact ⟨rfl, rfl, rfl⟩

/-- `PushUpdate` of an injected database: delivered, unconditionally. -/
theorem push_delivers (st : St) (r : Rec) : Delivered st (step st (.push r)).1 r := ⟨rfl, notify_subs st r, rfl⟩

/-- Everything that is not a write delivers nothing: `Get`, `Exists`, hook (un)registration, flushing the delayed-write cache. -/
theorem non_writes_deliver_nothing (st : St) (op : Op)
    (h : (∃ o k, op = .get o k) ∨ (∃ o k, op = .exists_ o k) ∨ (∃ hk, op = .regHook hk) ∨ (∃ id, op = .cancelHook id) ∨ op = .flush) :
    (step st op).1.subs = st.subs ∧ (step st op).1.writes = st.writes ∧ (step st op).1.closed = st.closed := by
  rcases h with ⟨o, k, rfl⟩ | ⟨o, k, rfl⟩ | ⟨hk, rfl⟩ | ⟨id, rfl⟩ | rfl
  · exact ⟨rfl, rfl, rfl⟩
  · exact ⟨rfl, rfl, rfl⟩
  · simp only [step]; split <;> exact ⟨rfl, rfl, rfl⟩
  · exact ⟨rfl, rfl, rfl⟩
  · exact ⟨rfl, rfl, rfl⟩

/-- `Interface.Exists` is a get operation: it makes exactly the hook calls `Get` makes, changes nothing, and answers
    yes iff `Get` succeeds or is refused for lack of permission, no iff `Get` finds nothing; a veto is handed on. -/
theorem exists_is_a_get (st : St) (o : Opts) (key : String) :
    (step st (.exists_ o key)).2.calls = (step st (.get o key)).2.calls ∧ (step st (.exists_ o key)).1 = st ∧
    (step st (.exists_ o key)).2.flag =
      (match (step st (.get o key)).2.res with
       | .ok _ => some true
       | .error .notfound => some false
       | .error .denied => some true
       | .error _ => none) ∧
    (∀ c, (step st (.get o key)).2.res = .error (.veto c) → (step st (.exists_ o key)).2.res = .error (.veto c)) := by
  simp only [step, ifaceExists, ifaceGet]
  cases hg : ifaceGetRec st o key with
  | mk cs v =>
    cases v with
    | ok p => simp
    | error e => cases e <;> simp

/-! ## A.3 Hooks -/

/-- **Only registered hooks, only in declared phases, only on matching arguments.** Every hook call an operation
    makes is a call of a hook in the controller's list, in a phase that hook declares, with a key (pre-get) or
    record (post-get, pre-put) its query matches, and records what the hook's own method returned. -/
theorem hook_calls_sound (st : St) (op : Op) : ∀ c ∈ (step st op).2.calls, CallFrom st.hooks c :=
  step_calls_from st op

/-- **Exactly the matching ones, record phases.** When the hooks before `h` have run without veto and left the
    record `r1`, then `h` is called iff it declares the phase and its query matches `r1` — with `r1` as argument —
    and its result decides how the loop goes on: veto ends it with the hook's error, replace hands the new record on. -/
theorem hook_called_iff_matching (ph : Phase) (uses : Hook → Bool) (f : Hook → Rec → HookRes)
    (pre post : List Hook) (h : Hook) (r : Rec) (same : Bool) (cs1 : List Call) (r1 : Rec) (s1 : Bool)
    (hpre : runRec ph uses f pre r same = (cs1, .ok (r1, s1))) :
    runRec ph uses f (pre ++ h :: post) r same =
      if uses h && h.q.matches r1 then
        match f h r1 with
        | .veto c => (cs1 ++ [⟨h.id, ph, r1.key, some r1, .veto c⟩], .error c)
        | .pass => (cs1 ++ ⟨h.id, ph, r1.key, some r1, .pass⟩ :: (runRec ph uses f post r1 s1).1, (runRec ph uses f post r1 s1).2)
        | .replace r' =>
          (cs1 ++ ⟨h.id, ph, r1.key, some r1, .replace r'⟩ :: (runRec ph uses f post r' false).1,
           (runRec ph uses f post r' false).2)
      else (cs1 ++ (runRec ph uses f post r1 s1).1, (runRec ph uses f post r1 s1).2) := by
  rw [runRec_append, hpre]
  simp only [runRec]
  split
  · cases f h r1 <;> rfl
  · rfl

/-- After a veto nobody is called any more, and the veto is what the loop returns. -/
theorem hooks_after_veto_not_called (ph : Phase) (uses : Hook → Bool) (f : Hook → Rec → HookRes)
    (pre post : List Hook) (r : Rec) (same : Bool) (cs1 : List Call) (c : Nat)
    (hpre : runRec ph uses f pre r same = (cs1, .error c)) :
    runRec ph uses f (pre ++ post) r same = (cs1, .error c) := by
  rw [runRec_append, hpre]

/-- The same for the pre-get phase (matching by key). -/
theorem pre_get_hook_called_iff_matching (pre post : List Hook) (h : Hook) (key : String) (cs1 : List Call)
    (hpre : runPreGet pre key = (cs1, none)) :
    runPreGet (pre ++ h :: post) key =
      if h.usesPreGet && h.q.keyOk key then
        match h.preGet key with
        | some c => (cs1 ++ [⟨h.id, .preGet, key, none, .veto c⟩], some c)
        | none => (cs1 ++ ⟨h.id, .preGet, key, none, .pass⟩ :: (runPreGet post key).1, (runPreGet post key).2)
      else (cs1 ++ (runPreGet post key).1, (runPreGet post key).2) := by
  rw [runPreGet_append, hpre]
  simp only [runPreGet]
  split
  · cases h.preGet key <;> rfl
  · rfl

theorem pre_get_after_veto_not_called (pre post : List Hook) (key : String) (cs1 : List Call) (c : Nat)
    (hpre : runPreGet pre key = (cs1, some c)) : runPreGet (pre ++ post) key = (cs1, some c) := by
  rw [runPreGet_append, hpre]

/-- Hooks are called in registration order, each at most once per phase of an operation. -/
theorem hook_calls_in_registration_order (ph : Phase) (uses : Hook → Bool) (f : Hook → Rec → HookRes)
    (hs : List Hook) (r : Rec) (same : Bool) (key : String) :
    ((runRec ph uses f hs r same).1.map (·.hook)).Sublist (hs.map (·.id)) ∧
    ((runPreGet hs key).1.map (·.hook)).Sublist (hs.map (·.id)) := by
  constructor
  · -- the branches of `runRec`: no hook left, veto, pass / replace (both go on with the rest), hook skipped
    fun_induction runRec ph uses f hs r same with
    | case1 => simp
    | case2 => simp
    | case3 _ _ _ _ _ _ _ _ e ih | case4 _ _ _ _ _ _ _ _ _ e ih => rw [e] at ih; exact ih.cons_cons _
    | case5 _ _ _ _ _ ih => exact ih.cons _
  · fun_induction runPreGet hs key with
    | case1 => simp
    | case2 => simp
    | case3 _ _ _ _ _ _ _ e ih => rw [e] at ih; exact ih.cons_cons _
    | case4 _ _ _ _ ih => exact ih.cons _

/-- **Replace.** Each hook gets what the previous call left (the operation's record for the first one), and
    without a veto the loop returns the record threaded through all calls. -/
theorem hook_replace_is_handed_on (ph : Phase) (uses : Hook → Bool) (f : Hook → Rec → HookRes) (hs : List Hook)
    (r : Rec) (same : Bool) :
    (∀ pre c post, (runRec ph uses f hs r same).1 = pre ++ c :: post → c.arg = some (thread r pre)) ∧
    (∀ r' s', (runRec ph uses f hs r same).2 = .ok (r', s') → r' = thread r (runRec ph uses f hs r same).1) := by
  refine ⟨?_, runRec_result ph uses f hs r same⟩
  fun_induction runRec ph uses f hs r same with
  | case1 => simp
  | case2 => intro pre; cases pre <;> simp [thread]
  | case3 _ _ _ _ _ _ _ _ e ih | case4 _ _ _ _ _ _ _ _ _ e ih =>
    rw [e] at ih
    intro pre c post h
    cases pre with
    | nil => cases h; rfl
    | cons p ps => obtain ⟨rfl, h'⟩ := List.cons.inj h; exact ih ps c post h'
  | case5 _ _ _ _ _ ih => exact ih

/-- **Veto.** The loop fails iff its last call vetoed, with that hook's error code; no earlier call vetoed. -/
theorem hook_veto_is_last_and_returned (ph : Phase) (uses : Hook → Bool) (f : Hook → Rec → HookRes) (hs : List Hook)
    (r : Rec) (same : Bool) :
    match (runRec ph uses f hs r same).2 with
    | .error c => ∃ pre last, (runRec ph uses f hs r same).1 = pre ++ [last] ∧ last.res = .veto c ∧
        ∀ x ∈ pre, ∀ c', x.res ≠ .veto c'
    | .ok _ => ∀ x ∈ (runRec ph uses f hs r same).1, ∀ c', x.res ≠ .veto c' := by
  fun_induction runRec ph uses f hs r same with
  | case1 => simp
  | case2 => exact ⟨[], _, rfl, rfl, by simp⟩
  | case3 _ _ _ _ _ _ _ res e ih | case4 _ _ _ _ _ _ _ _ res e ih =>
    rw [e] at ih
    cases res with
    | error c =>
      obtain ⟨pre, last, rfl, e2, e3⟩ := ih
      exact ⟨_ :: pre, last, rfl, e2, List.forall_mem_cons.2 ⟨by simp, e3⟩⟩
    | ok v => exact List.forall_mem_cons.2 ⟨by simp, ih⟩
  | case5 _ _ _ _ _ ih => exact ih

/-- **Veto leaves everything unchanged — `Put`/`PutNew`.** A vetoed put changes nothing: storage, feeds, lists. -/
theorem veto_leaves_state_put (st : St) (o : Opts) (r : Rec) (isNew : Bool) (c : Nat) (hnd : o.delayed = false)
    (h : (step st (.put o r isNew)).2.res = .error (.veto c)) : (step st (.put o r isNew)).1 = st := by
  have := put_delivers_iff_successful_partial st o r isNew hnd
  rw [h] at this
  exact this

/-- **Veto leaves the storage unchanged — in-place modifications, storages that do not hand out their own
    objects** (bbolt, injected, registry): the whole state is unchanged, whichever hook (pre-get, post-get,
    pre-put) vetoed. -/
theorem veto_leaves_storage_partial (st : St) (o : Opts) (key : String) (m : Mod) (e : Err)
    (hna : st.cfg.aliasing = false) (h : (step st (.modify o key m)).2.res = .error e) :
    (step st (.modify o key m)).1 = st := by
  simp only [step, ifaceModify, hna, Bool.false_and, Bool.false_eq_true, if_false] at h ⊢
  generalize ifaceGetRec st o key = p at h ⊢
  obtain ⟨cs, _ | ⟨r, same⟩⟩ := p
  · rfl
  · have := controller_put_delivers_iff_successful st (m.run o r)
    rw [h] at this
    exact this

/-- The unrestricted statement is false on the code: on the hashmap storage the interface modifies the record
    object the storage handed out *before* `Controller.Put` runs the pre-put hooks, so a vetoed `Delete` leaves the
    stored record marked deleted. -/
theorem veto_leaves_storage_full_statement_REFUTED :
    ¬ (∀ (st : St) (o : Opts) (key : String) (m : Mod) (c : Nat),
        (step st (.modify o key m)).2.res = .error (.veto c) →
        (step st (.modify o key m)).1.store = st.store) := by
  intro h
  let hk : Hook := { id := 0, q := ⟨false, fun _ => true, fun _ => true⟩, usesPreGet := false, usesPostGet := false,
                     usesPrePut := true, preGet := fun _ => none, postGet := fun _ => .pass, prePut := fun _ => .veto 3 }
  let st : St := { cfg := ⟨.hashmap, true⟩, store := [("k", ⟨"k", 1, "x", {}⟩)], hooks := [hk] }
  exact absurd (h st { loc := true, int := true } "k" .del 3 rfl) (by decide)

/-- **Cancelled hooks are never called again.** With distinct hook identities, after `RegisteredHook.Cancel`
    no operation of any later history calls that hook (unless a hook with this identity is registered anew). -/
theorem hook_cancel_effective (id : Nat) : ∀ (ops : List Op) (st : St),
    id ∉ st.hooks.map (·.id) → (∀ hk, Op.regHook hk ∈ ops → hk.id ≠ id) →
    ∀ out ∈ (run st ops).2, ∀ c ∈ out.calls, c.hook ≠ id := by
  intro ops
  induction ops with
  | nil => intro st _ _ out ho; nomatch ho
  | cons op ops ih =>
    intro st hnot hreg out ho c hc
    rcases List.mem_cons.1 ho with rfl | ho
    · obtain ⟨hk, hm, he, _⟩ := step_calls_from st op c hc
      exact fun hcid => hnot (List.mem_map.2 ⟨hk, hm, he ▸ hcid⟩)
    · refine ih _ (fun hm => ?_) (fun hk hm => hreg hk (.tail _ hm)) out ho c hc
      obtain ⟨h, hm', rfl⟩ := List.mem_map.1 hm
      rcases step_hooks_mem st op h hm' with hm' | rfl
      · exact hnot (List.mem_map.2 ⟨h, hm', rfl⟩)
      · exact hreg h (.head _) rfl

/-- `RegisteredHook.Cancel` removes exactly its own entry: afterwards its identity is gone from the list (so, by
    `hook_cancel_effective`, it is never called again), every other hook stays registered, in order. -/
theorem hook_cancel_removes_exactly_its_own_entry (st : St) (id : Nat) (hn : (st.hooks.map (·.id)).Nodup) :
    id ∉ (step st (.cancelHook id)).1.hooks.map (·.id) ∧
    (∀ h ∈ st.hooks, h.id ≠ id → h ∈ (step st (.cancelHook id)).1.hooks) ∧
    ((step st (.cancelHook id)).1.hooks).Sublist st.hooks := by
  simp only [step, removeHook_eq]
  refine ⟨?_, fun h hm hne => (List.mem_eraseP_of_neg (by simpa using hne)).2 hm, List.eraseP_sublist⟩
  have : (· == id) ∘ (·.id) = fun h : Hook => h.id == id := rfl
  rw [← this, ← List.eraseP_map, ← List.erase_eq_eraseP']
  exact hn.not_mem_erase


/-! ## A.4 One hook value, several registrations

A registration (`RegisteredHook`, `Hook` in the model) is a list entry with its own identity and its own query; the
hook value it was made with (`obj`, with its methods) may be shared by any number of them. All hook theorems above
quantify over list entries, i.e. over registrations. The ones here say it in so many words. -/

/-- **`RegisterHook` always makes a new entry.** With a well-formed query it appends the registration to the list and
    succeeds — whatever is registered already, in particular other registrations of the same hook value, with the
    same or with another query. (The statement shape of `RegisterHook` — lock, append, return the new registration,
    nothing else — is regenerated from the source; anything else fails the extraction.) -/
theorem register_hook_makes_its_own_entry (st : St) (h : Hook) (hq : h.q.bad = false) :
    PB.Gen.Subs.registerHookAlwaysAppends = true ∧
    (step st (.regHook h)).1.hooks = st.hooks ++ [h] ∧ (step st (.regHook h)).2.res = .ok none ∧
    (∀ g ∈ st.hooks, g ∈ (step st (.regHook h)).1.hooks) := by
  have e : step st (.regHook h) = ({ st with hooks := st.hooks ++ [h] }, {}) := by simp [step, hq]
  rw [e]
  exact ⟨rfl, rfl, rfl, fun g hg => List.mem_append_left _ hg⟩

/-- **Each registration of a hook value is called by its own query.** `h1` and `h2` are two registrations of the same
    hook value (`h1.obj = h2.obj`; any queries), `h1` before `h2` in the list. Whether `h2` is called depends on `h2`'s
    own query and the record as the hooks before it left it (`r1`) — not on whether `h1`'s query matched, was called,
    or replaced the record: called iff `h2` declares the phase and `h2.q` matches `r1`, a veto of that call ends the
    operation with the hook's error. -/
theorem registrations_of_one_hook_value_are_called_independently (ph : Phase) (uses : Hook → Bool)
    (f : Hook → Rec → HookRes) (pre mid post : List Hook) (h1 h2 : Hook) (_hobj : h1.obj = h2.obj)
    (r : Rec) (same : Bool) (cs1 : List Call) (r1 : Rec) (s1 : Bool)
    (hpre : runRec ph uses f (pre ++ h1 :: mid) r same = (cs1, .ok (r1, s1))) :
    runRec ph uses f (pre ++ h1 :: mid ++ h2 :: post) r same =
      if uses h2 && h2.q.matches r1 then
        match f h2 r1 with
        | .veto c => (cs1 ++ [⟨h2.id, ph, r1.key, some r1, .veto c⟩], .error c)
        | .pass => (cs1 ++ ⟨h2.id, ph, r1.key, some r1, .pass⟩ :: (runRec ph uses f post r1 s1).1, (runRec ph uses f post r1 s1).2)
        | .replace r' =>
          (cs1 ++ ⟨h2.id, ph, r1.key, some r1, .replace r'⟩ :: (runRec ph uses f post r' false).1,
           (runRec ph uses f post r' false).2)
      else (cs1 ++ (runRec ph uses f post r1 s1).1, (runRec ph uses f post r1 s1).2) := by
  have := hook_called_iff_matching ph uses f (pre ++ h1 :: mid) post h2 r same cs1 r1 s1 hpre
  simpa [List.append_assoc] using this

/-- … the same for the pre-get phase (by key). -/
theorem registrations_of_one_hook_value_are_called_independently_pre_get (pre mid post : List Hook) (h1 h2 : Hook)
    (_hobj : h1.obj = h2.obj) (key : String) (cs1 : List Call)
    (hpre : runPreGet (pre ++ h1 :: mid) key = (cs1, none)) :
    runPreGet (pre ++ h1 :: mid ++ h2 :: post) key =
      if h2.usesPreGet && h2.q.keyOk key then
        match h2.preGet key with
        | some c => (cs1 ++ [⟨h2.id, .preGet, key, none, .veto c⟩], some c)
        | none => (cs1 ++ ⟨h2.id, .preGet, key, none, .pass⟩ :: (runPreGet post key).1, (runPreGet post key).2)
      else (cs1 ++ (runPreGet post key).1, (runPreGet post key).2) := by
  have := pre_get_hook_called_iff_matching (pre ++ h1 :: mid) post h2 key cs1 hpre
  simpa [List.append_assoc] using this

/-- **Cancelling one registration leaves the other registrations of that hook value alone.** With distinct
    registration identities: after `Cancel` of `h1`, `h1` is out of the list, every other registration — also one of
    the same hook value, with the same query object or another — is still registered, in the same order. -/
theorem cancel_of_one_registration_keeps_the_others_of_that_hook_value (st : St) (h1 h2 : Hook)
    (hn : (st.hooks.map (·.id)).Nodup) (_m1 : h1 ∈ st.hooks) (m2 : h2 ∈ st.hooks) (_hobj : h1.obj = h2.obj)
    (hne : h2.id ≠ h1.id) :
    h1.id ∉ (step st (.cancelHook h1.id)).1.hooks.map (·.id) ∧ h2 ∈ (step st (.cancelHook h1.id)).1.hooks ∧
    ((step st (.cancelHook h1.id)).1.hooks).Sublist st.hooks := by
  obtain ⟨a, b, c⟩ := hook_cancel_removes_exactly_its_own_entry st h1.id hn
  exact ⟨a, b h2 m2 hne, c⟩

/-- Non-vacuity: one guard hook value (vetoes every put it is asked about) registered for the prefix `a/` and again
    for `b/`. A put below `b/` is vetoed by the second registration and stores nothing; after the *second*
    registration is cancelled a put below `a/` is still vetoed (first registration) and one below `b/` goes through. -/
example :
    let guard (id : Nat) (pre : String) : Hook :=
      { id := id, obj := 7, q := ⟨false, fun k => k.startsWith pre, fun _ => true⟩, usesPreGet := false, usesPostGet := false,
        usesPrePut := true, preGet := fun _ => none, postGet := fun _ => .pass, prePut := fun _ => .veto 3 }
    let li : Opts := { loc := true, int := true }
    let ops : List Op := [.regHook (guard 0 "a/"), .regHook (guard 1 "b/"), .put li ⟨"b/x", 1, "foo", {}⟩ false,
      .cancelHook 1, .put li ⟨"a/x", 1, "foo", {}⟩ false, .put li ⟨"b/y", 2, "foo", {}⟩ false]
    (run (St.init ⟨.hashmap, false⟩) ops).2.map (·.res) =
      [.ok none, .ok none, .error (.veto 3), .ok none, .error (.veto 3), .ok none] ∧
    (run (St.init ⟨.hashmap, false⟩) ops).1.store.map (·.1) = ["b/y"] ∧
    (run (St.init ⟨.hashmap, false⟩) ops).1.hooks.map (·.id) = [0] := by
  simp [run, step, St.init, ifacePut, putDenied, Opts.all, newForm, applyOpts, putPrepared, ctrlPut, runPrePut, runRec,
    Query.matches, storeWrite, Cfg.putForm, notify, notifyLoop, removeHook, sPut, sErase]

/-! ## A.5 The runtime registry as injected database

`runtime.Registry`: providers are registered (`Register` hands out one push function per provider), the registry is
injected as a database (`InjectAsDatabase`), interfaces subscribe, providers push — in any order the callers like.
`rstep` / `rrun` are the registry in front of its database; `St.initReg` a fresh registry. -/

/-- Once injected, the database operations on a registry are the controller's: everything in part A holds for them. -/
theorem registry_db_operations_are_the_controllers (st : St) (op : Op) (hi : st.injected = true) :
    rstep st (.db op) = step st op := rstep_db_injected op hi

/-- **A push after injection is delivered, whatever the order of `Register` and `InjectAsDatabase` was.** For every
    registered provider — registered before or after the injection (`p.injAtReg` is arbitrary) — a call of its push
    function on an injected registry is a `PushUpdate` on the controller: the record is recorded as written and offered
    to every listed subscription (`Delivered`), whatever its key is (inside or outside the provider's own prefix). -/
theorem registry_push_delivers_once_injected (st : St) (id : Nat) (p : Prov) (r : Rec)
    (hp : st.provs.find? (·.id == id) = some p) (hi : st.injected = true) :
    Delivered st (rstep st (.push id r)).1 r ∧ (rstep st (.push id r)).1 = (step st (.push r)).1 := by
  have h : (rstep st (.push id r)).1 = notify st r := by
    simp [rstep, hp, pushTarget, PB.Gen.Subs.pushReadsControllerAtPush, hi]
  rw [h]
  exact ⟨push_delivers st r, rfl⟩

/-- … over histories: take any sequence of registry calls from a fresh registry in which `InjectAsDatabase` occurs
    somewhere — before or after the `Register` of the provider, before or after earlier pushes, with any database
    operations in between. Afterwards a push of any registered provider is delivered to every listed subscription. -/
theorem registry_push_delivered_whatever_the_order (ops : List ROp) (id : Nat) (p : Prov) (r : Rec)
    (hinj : ROp.inject ∈ ops) (hp : (rrun St.initReg ops).1.provs.find? (·.id == id) = some p) :
    Delivered (rrun St.initReg ops).1 (rstep (rrun St.initReg ops).1 (.push id r)).1 r :=
  (registry_push_delivers_once_injected _ id p r hp (rrun_inject_mem ops _ hinj)).1

/-- Injection is permanent and happens at most once: a second `InjectAsDatabase` answers `ErrInjected` and changes
    nothing; no later call of any kind takes the controller away again; providers stay registered. -/
theorem registry_injection_is_permanent (st : St) (ops : List ROp) (hi : st.injected = true) :
    (rrun st ops).1.injected = true ∧ rstep st .inject = (st, { res := .error .injected }) ∧
    (∀ op p, p ∈ st.provs → p ∈ (rstep st op).1.provs) :=
  ⟨rrun_injected_mono ops st hi, by simp [rstep, hi], fun op _ hp => rstep_provs_mono op hp⟩

/-- **Before the injection nothing can be lost:** there is no controller, so `Subscribe`, `RegisterHook` and every
    read or write through an interface fail and change nothing; hence in every state a fresh registry reaches while
    it is not injected there is no subscription (active or cancelled) and no hook — and a push then reaches nobody
    and changes nothing. -/
theorem registry_not_injected_has_no_subscribers (ops : List ROp) (hn : (rrun St.initReg ops).1.injected = false) :
    (rrun St.initReg ops).1.subs = [] ∧ (rrun St.initReg ops).1.closed = [] ∧ (rrun St.initReg ops).1.hooks = [] ∧
    (∀ id r, (rstep (rrun St.initReg ops).1 (.push id r)).1 = (rrun St.initReg ops).1) ∧
    (∀ op, (rstep (rrun St.initReg ops).1 (.db op)).1 = (rrun St.initReg ops).1) := by
  have hq := rrun_induct Quiet (fun _ op => Quiet_rstep op) ops _ Quiet_initReg hn
  refine ⟨hq.1, hq.2.1, hq.2.2.1, ?_, fun op => (rstep_db_not_injected op hn).1⟩
  intro id r
  simp only [rstep]
  split
  · rfl
  · simp [pushTarget, PB.Gen.Subs.pushReadsControllerAtPush, hn]

/-- **Exact delivery for the registry's database,** over all histories of registry calls and database operations from
    a fresh registry: every listed subscription has been offered exactly the successful writes and the pushes — of
    all providers — made since it was subscribed that match its query and that its subscriber may see, each once, in
    order; a cancelled one exactly those up to its `Cancel`. -/
theorem registry_delivery_exact (ops : List ROp) :
    (∀ s ∈ (rrun St.initReg ops).1.subs,
        s.attempts.map (·.1) = ((rrun St.initReg ops).1.writes.drop s.since).filter s.visible) ∧
    (∀ p ∈ (rrun St.initReg ops).1.closed,
        p.1.attempts.map (·.1) = (((rrun St.initReg ops).1.writes.take p.2).drop p.1.since).filter p.1.visible) :=
  (rrun_induct Inv (fun _ op => Inv_rstep op) ops _ Inv_initReg).exact

/-- `Registry.Register` as written: refused (`ErrKeyTaken`, nothing changes) when a provider sits on a prefix of the
    new key or on the key itself, or — for a new prefix — anywhere below it; otherwise the provider is added, and
    nothing else changes: subscriptions, hooks, storage and the injection state are untouched. -/
theorem registry_register (st : St) (id : Nat) (key : String) :
    (provTaken st.provs key = true → rstep st (.register id key) = (st, { res := .error .taken })) ∧
    (provTaken st.provs key = false →
      (rstep st (.register id key)).1 = { st with provs := st.provs ++ [⟨id, key, st.injected⟩] } ∧
      (rstep st (.register id key)).2.res = .ok none) := by
  constructor <;> intro h <;> simp [rstep, h]

/-- Non-vacuity: the provider is registered first, the registry injected afterwards (the order `runtime`'s own module
    does not use); a subscriber on everything, one push through the early provider's function — also for a key
    outside the provider's prefix — : both are in the feed. And a subscription attempt before the injection fails. -/
example :
    let q : Query := ⟨false, fun _ => true, fun _ => true⟩
    let li : Opts := { loc := true, int := true }
    let ops : List ROp := [.register 0 "a/", .db (.subscribe 9 li q), .push 0 ⟨"a/x", 1, "foo", {}⟩, .inject,
      .db (.subscribe 0 li q), .push 0 ⟨"a/x", 2, "foo", {}⟩, .push 0 ⟨"zz", 3, "bar", {}⟩]
    (rrun St.initReg ops).1.subs.map (fun s => (s.id, s.buf)) = [(0, [⟨"a/x", 2, "foo", {}⟩, ⟨"zz", 3, "bar", {}⟩])] ∧
    (rrun St.initReg ops).2.map (·.res) = [.ok none, .error .notinjected, .ok none, .ok none, .ok none, .ok none, .ok none] := by
  simp [rrun, rstep, step, St.initReg, provTaken, longestPrefix, isPrefixKey, pushTarget, PB.Gen.Subs.pushReadsControllerAtPush,
    notify, notifyLoop, PB.Gen.Subs.notifySentExits, Sub.visible, permitted,
    PB.Gen.Subs.checkPermission, Query.matches, PB.Gen.Subs.feedCap]

/-! ## A.6 Databases whose storage is read-only (`dstep`): a pushed update does not ask the storage whether it accepts writes

`Controller.PushUpdate`'s guards are regenerated from the source (`PB.Gen.Subs.pushUpdateSkipsReadOnly`): with a guard
on `ReadOnly()` (the pair of guards `Put` has) the push theorems and the example below do not go through. -/

/-- A push is `notifySubscribers`, whatever the storage answers to `ReadOnly()`: on every database — writable
    or read-only, of every storage kind — `PushUpdate` is the same step, and it is delivered. -/
theorem push_delivered_whatever_the_storage_says_about_read_only (st : St) (r : Rec) :
    dstep st (.push r) = (notify st r, {}) ∧ Delivered st (dstep st (.push r)).1 r := by
  have h : dstep st (.push r) = (notify st r, {}) := by
    simp [dstep, pushDropped, PB.Gen.Subs.pushUpdateSkipsReadOnly, step]
  exact ⟨h, h ▸ push_delivers st r⟩

/-- Corollary: two databases in the same state that differ only in their storage (kind, shadow-delete, and with
    it the `ReadOnly()` answer): a push leaves the same subscriptions, feeds and write history in both. -/
theorem push_delivery_independent_of_read_only (st : St) (cfg cfg' : Cfg) (r : Rec) :
    (dstep { st with cfg := cfg } (.push r)).1.subs = (dstep { st with cfg := cfg' } (.push r)).1.subs ∧
    (dstep { st with cfg := cfg } (.push r)).1.writes = (dstep { st with cfg := cfg' } (.push r)).1.writes ∧
    (dstep { st with cfg := cfg } (.push r)).1.closed = (dstep { st with cfg := cfg' } (.push r)).1.closed := by
  rw [(push_delivered_whatever_the_storage_says_about_read_only { st with cfg := cfg } r).1,
    (push_delivered_whatever_the_storage_says_about_read_only { st with cfg := cfg' } r).1]
  exact ⟨rfl, rfl, rfl⟩

/-- On a read-only database every listed subscription whose subscriber may see a pushed record matching its query
    gets a send attempt for it, accepted iff its buffer has room. -/
theorem read_only_push_offers_to_every_subscription (st : St) (r : Rec) (_hro : st.cfg.readOnly = true) :
    (dstep st (.push r)).1.subs = st.subs.map (·.offer r) :=
  (push_delivered_whatever_the_storage_says_about_read_only st r).2.2.1

/-- On a read-only database every write through an interface is refused with `ErrReadOnly` before a hook runs or
    anything changes (`PutMany`: after its permission check) — there is no successful write that would have to be
    delivered; subscriptions, hooks and reads are those of any database. -/
theorem read_only_refuses_writes (st : St) (hro : st.cfg.readOnly = true) :
    (∀ o r isNew, dstep st (.put o r isNew) = (st, { res := .error .readonly })) ∧
    (∀ o key m, dstep st (.modify o key m) = (st, { res := .error .readonly })) ∧
    (∀ o rs, (dstep st (.putMany o rs)).1 = st ∧ (dstep st (.putMany o rs)).2.calls = [] ∧
      (dstep st (.putMany o rs)).2.res = .error (if o.all then .readonly else .denied)) ∧
    (∀ id o q, dstep st (.subscribe id o q) = step st (.subscribe id o q)) ∧
    (∀ id, dstep st (.cancel id) = step st (.cancel id)) ∧
    (∀ h, dstep st (.regHook h) = step st (.regHook h)) ∧
    (∀ o key, dstep st (.get o key) = step st (.get o key)) :=
  ⟨fun o r isNew => by simp [dstep, hro], fun o key m => by simp [dstep, hro],
    fun o rs => by cases ha : o.all <;> simp [dstep, hro, ha, step],
    fun _ _ _ => rfl, fun _ => rfl, fun _ => rfl, fun _ _ => rfl⟩

/-- A writable database: `dstep` is `step` — everything proved about `step` / `run` holds for it. -/
theorem writable_dstep_is_step (st : St) (hw : st.cfg.readOnly = false) (op : Op) : dstep st op = step st op := by
  cases op <;> simp [dstep, hw, pushDropped]

/-- Exact delivery over all histories of a database of any storage kind, read-only ones included: every
    subscription has been offered exactly the successful writes and the pushed updates since it was subscribed that
    match its query and that its subscriber may see, in order; and every push made is in that history. -/
theorem delivery_exact_read_only_included (cfg : Cfg) (ops : List Op) :
    (∀ s ∈ (drun (St.init cfg) ops).1.subs,
        s.attempts.map (·.1) = ((drun (St.init cfg) ops).1.writes.drop s.since).filter s.visible) ∧
    (∀ p ∈ (drun (St.init cfg) ops).1.closed,
        p.1.attempts.map (·.1) = (((drun (St.init cfg) ops).1.writes.take p.2).drop p.1.since).filter p.1.visible) ∧
    (∀ r, (dstep (drun (St.init cfg) ops).1 (.push r)).1.writes = (drun (St.init cfg) ops).1.writes ++ [r]) := by
  have h := (drun_induct Inv (fun _ op => Inv_dstep op) ops _ (Inv_init cfg)).exact
  exact ⟨h.1, h.2, fun r => by rw [(push_delivered_whatever_the_storage_says_about_read_only _ r).1]; rfl⟩

/-- Non-vacuity: a push-only database (`storage.InjectBase` as it comes), two subscribers — one with all privileges, one
    with none —, a refused `Put`, then pushes of a live, a secret and a deleted-marked record and one outside the query:
    the privileged feed holds the three matching ones in order, the other the two it may see; the `Put` delivered nothing. -/
example :
    let q : Query := ⟨false, fun k => k.startsWith "a/", fun _ => true⟩
    let li : Opts := { loc := true, int := true }
    let no : Opts := { loc := false, int := false }
    let ops : List Op := [.subscribe 0 li q, .subscribe 1 no q, .put li ⟨"a/x", 9, "foo", {}⟩ false,
      .push ⟨"a/x", 1, "foo", {}⟩, .push ⟨"a/x", 2, "foo", { secret := true }⟩, .push ⟨"b/x", 3, "bar", {}⟩,
      .push ⟨"a/y", 4, "baz", { deleted := true }⟩]
    (St.init ⟨.pushonly, false⟩).cfg.readOnly = true ∧
    (drun (St.init ⟨.pushonly, false⟩) ops).1.subs.map (fun s => (s.id, s.buf.map (·.n))) = [(0, [1, 2, 4]), (1, [1, 4])] ∧
    ((drun (St.init ⟨.pushonly, false⟩) ops).2.map (·.res)).take 3 = [.ok none, .ok none, .error .readonly] := by
  simp [drun, dstep, step, St.init, Cfg.readOnly, pushDropped, PB.Gen.Subs.pushUpdateSkipsReadOnly, notify, notifyLoop,
    PB.Gen.Subs.notifySentExits, PB.Gen.Subs.notifySkipExits, Sub.visible, permitted, PB.Gen.Subs.checkPermission,
    PB.Gen.Subs.feedCap, Query.matches]

/-- Sequential non-vacuity: a subscriber that may not see secrets, a replacing pre-put hook, one visible and one
    secret write: exactly the visible one (as replaced) is offered and buffered. -/
example :
    let q : Query := ⟨false, fun k => k.startsWith "a", fun r => r.n > 3⟩
    let hk : Hook := { id := 0, q := ⟨false, fun _ => true, fun _ => true⟩, usesPreGet := false, usesPostGet := false,
                       usesPrePut := true, preGet := fun _ => none, postGet := fun _ => .pass,
                       prePut := fun r => .replace { r with n := 7 } }
    let li : Opts := { loc := true, int := true }
    let ops : List Op := [.subscribe 0 { loc := true, int := false } q, .regHook hk,
      .put li ⟨"a/x", 1, "foo", {}⟩ false, .put li ⟨"a/y", 1, "foo", { secret := true }⟩ false, .cancel 0,
      .put li ⟨"a/z", 1, "foo", {}⟩ false]
    (run (St.init ⟨.hashmap, false⟩) ops).1.closed.map (fun p => (p.1.buf, p.2)) = [([⟨"a/x", 7, "foo", {}⟩], 2)] ∧
    (run (St.init ⟨.hashmap, false⟩) ops).1.writes.length = 3 := by
  simp [run, step, St.init, ifacePut, putDenied, Opts.all, newForm, applyOpts, putPrepared, ctrlPut, runPrePut, runRec,
    Query.matches, storeWrite, Cfg.putForm, notify, notifyLoop, PB.Gen.Subs.notifySentExits, PB.Gen.Subs.notifySkipExits, Sub.visible, permitted, PB.Gen.Subs.checkPermission,
    PB.Gen.Subs.feedCap, removeSub, sPut, sErase]

/-- Non-vacuity of the per-subscription proviso: the first listed subscription has a full feed, the one subscribed
    after it an empty one; one matching write: refused for the first, buffered for the second. -/
example :
    let q : Query := ⟨false, fun _ => true, fun _ => true⟩
    let r : Rec := ⟨"a/x", 1, "foo", {}⟩
    let full : Sub := ⟨0, true, true, q, List.replicate PB.Gen.Subs.feedCap r, 0, []⟩
    let fresh : Sub := ⟨1, true, true, q, [], 0, []⟩
    (notifyLoop r [full, fresh]).map (fun s => (s.id, s.buf.length, s.attempts)) =
      [(0, PB.Gen.Subs.feedCap, [(r, false)]), (1, 1, [(r, true)])] := by
  have hpos : 0 < PB.Gen.Subs.feedCap := by decide
  simp [notifyLoop_eq_map, Sub.offer, Sub.visible, permitted, PB.Gen.Subs.checkPermission, Query.matches, hpos]

/-! ## B. Interleavings of writers, `Subscribe` and `Cancel` (any number of each)

`Reach wants st`: `st` is reachable from the initial state by atomic steps of the lock protocol.
Ghost fields give the statement its words: `activeAtStart w i` — subscription `i` had been added when write `w`
began; `cancelReq i` — some `Cancel` of `i` has been called; `doneAtStart w2 w1` — write `w1` had returned when
`w2` began; `log` — all send attempts `(writer, subscription, accepted)` in temporal order. -/

open PB.SubsConc in
/-- **No panic, ever:** in every reachable state nothing has sent on a closed feed or closed a feed twice, and every
    subscription still in the controller's list has an open feed (so the next send cannot panic either). -/
theorem no_send_on_closed (wants : Nat → Nat → Bool) (st : CSt) (h : Reach wants st) :
    st.panicked = false ∧ ∀ i ∈ st.subs, st.closed i = false :=
  ⟨(inv_reach h).noPanic, fun i hi => ((inv_reach h).subsOpen i hi).2⟩

open PB.SubsConc in
/-- The lock protocol holds: a canceller in its locked section excludes every notifier and every other canceller;
    what a notifier still has to visit is still listed. -/
theorem lock_protocol (wants : Nat → Nat → Bool) (st : CSt) (h : Reach wants st) :
    (∀ c, (st.cpc c).inCS = true → st.rd = [] ∧ ∀ c', (st.cpc c').inCS = true → c' = c) ∧
    (∀ w i, i ∈ remOf (st.wpc w) → i ∈ st.subs ∧ st.closed i = false) := by
  have hi := inv_reach h
  exact ⟨fun c hc => ⟨hi.wlRd (hi.csWl c hc), fun c' hc' => hi.csUnique c' c hc' hc⟩,
    fun w i hr => ⟨hi.remSubs w i hr, (hi.subsOpen i (hi.remSubs w i hr)).2⟩⟩

open PB.SubsConc in
/-- **After cancel returns the feed is closed** — also for a `Cancel` that found the subscription already removed
    by a concurrent `Cancel`. -/
theorem cancel_returns_closed (wants : Nat → Nat → Bool) (st : CSt) (h : Reach wants st) (c : Nat)
    (hc : st.cpc c = .done) : st.closed (st.ctarget c) = true :=
  (inv_reach h).doneClosed c (Or.inr hc)

open PB.SubsConc in
/-- **… and concurrent writes no longer deliver to it:** once a feed is closed it stays closed and no step adds a
    send attempt for it (and, by `no_send_on_closed`, no step panics). -/
theorem closed_feed_silent (wants : Nat → Nat → Bool) (st st' : CSt) (a : Act) (h : Reach wants st)
    (hs : step wants st a = some st') (i : Nat) (hc : st.closed i = true) :
    st'.closed i = true ∧ st'.panicked = false ∧
    st'.log.filter (fun e => e.2.1 == i) = st.log.filter (fun e => e.2.1 == i) := by
  refine ⟨step_closed_mono hs i hc, (inv_reach (Reach.step a h hs)).noPanic, ?_⟩
  rcases step_log hs with e | ⟨w, j, rem, b, _, hw, e⟩
  · rw [e]
  · have hopen := (inv_reach h).head_open hw
    have hne : j ≠ i := fun e' => by rw [e', hc] at hopen; simp at hopen
    rw [e, List.filter_append]
    simp [hne]

open PB.SubsConc in
/-- **Exactly once.** A write that began after subscription `i` was added and returned before any `Cancel` of `i`
    was called has made exactly one send attempt to `i` if its record is for `i`, none otherwise — in every
    interleaving with other writers, subscribers and cancels. -/
theorem write_attempted_exactly_once (wants : Nat → Nat → Bool) (st : CSt) (h : Reach wants st) (w i : Nat)
    (hdone : st.wpc w = .done) (hact : st.activeAtStart w i = true) (hnc : st.cancelReq i = false) :
    (entries st.log w).count i = if wants w i then 1 else 0 := by
  have hd := dinv_reach h
  have hl := hd.logSnap w
  unfold LogOk at hl
  rw [hdone] at hl
  rw [hl]
  exact count_filter_nodup (wants w) (st.snap w) i (hd.snapNodup w) (hd.snapAct w i (Or.inr hdone) hact hnc)

open PB.SubsConc in
/-- **Other records are never delivered:** every send attempt is for a subscription the writer's record matches and
    whose subscriber may see it, and that was in the controller's list when the writer took the read lock; a writer
    attempts each subscription at most once. -/
theorem attempts_only_matching_and_listed (wants : Nat → Nat → Bool) (st : CSt) (h : Reach wants st) :
    (∀ e ∈ st.log, wants e.1 e.2.1 = true) ∧
    (∀ w i, i ∈ entries st.log w → i ∈ st.snap w) ∧
    (∀ w, (entries st.log w).Nodup) := by
  have hd := dinv_reach h
  -- a writer's attempts: the wanted ones among the part of its snapshot it has visited
  have key : ∀ w, ∃ pre, pre <+: st.snap w ∧ entries st.log w = pre.filter (wants w) := by
    intro w
    have hl := hd.logSnap w
    unfold LogOk at hl
    split at hl
    · exact ⟨[], List.nil_prefix, hl⟩
    · exact ⟨[], List.nil_prefix, hl⟩
    · obtain ⟨pre, h1, h2⟩ := hl
      exact ⟨pre, h1 ▸ List.prefix_append _ _, h2⟩
    · exact ⟨_, List.prefix_refl _, hl⟩
  refine ⟨hd.sound, fun w i hi => ?_, fun w => ?_⟩ <;> obtain ⟨pre, hp, he⟩ := key w
  · rw [he] at hi
    exact hp.subset (List.mem_filter.mp hi).1
  · rw [he]
    exact ((hd.snapNodup w).sublist hp.sublist).filter _

open PB.SubsConc in
/-- What is in a feed, after what the subscriber already read, is exactly the sequence of accepted attempts for it,
    in the order they were made (feeds are FIFO; an attempt is accepted iff the buffer had room — `step`). -/
theorem feed_is_accepted_attempts_in_order (wants : Nat → Nat → Bool) (st : CSt) (h : Reach wants st) (i : Nat) :
    st.consumed i ++ st.buf i = acceptedBy st.log i :=
  (dinv_reach h).feed i

open PB.SubsConc in
/-- **Writes that do not overlap in time are delivered in their order:** if write `w1` had returned when `w2`
    began, every attempt of `w1` precedes every attempt of `w2` in the log — hence in every feed. -/
theorem nonoverlapping_writes_in_order (wants : Nat → Nat → Bool) (st : CSt) (h : Reach wants st) (w1 w2 : Nat)
    (hstarted : st.wpc w2 ≠ .idle) (hbefore : st.doneAtStart w2 w1 = true) :
    (∃ l1 l2, st.log = l1 ++ l2 ∧ (∀ e ∈ l1, e.1 ≠ w2) ∧ (∀ e ∈ l2, e.1 ≠ w1)) ∧
    (∀ i, ∃ f1 f2, st.consumed i ++ st.buf i = f1 ++ f2 ∧ w2 ∉ f1 ∧ w1 ∉ f2) := by
  have hd := dinv_reach h
  have hb := hd.before w2 hstarted
  have ha := (hd.after w2 w1 hstarted hbefore).2
  refine ⟨⟨st.log.take (st.mark w2), st.log.drop (st.mark w2), (List.take_append_drop _ _).symm, hb, ha⟩, ?_⟩
  intro i
  have notin : ∀ (l : List (Nat × Nat × Bool)) (w : Nat), (∀ e ∈ l, e.1 ≠ w) → w ∉ acceptedBy l i := by
    intro l w hl hm
    obtain ⟨e, he, he2⟩ := List.mem_map.mp hm
    exact hl e (List.mem_filter.mp he).1 he2
  refine ⟨acceptedBy (st.log.take (st.mark w2)) i, acceptedBy (st.log.drop (st.mark w2)) i, ?_, ?_, ?_⟩
  · rw [hd.feed i]
    unfold acceptedBy
    rw [← List.map_append, ← List.filter_append, List.take_append_drop]
  · exact notin _ _ hb
  · exact notin _ _ ha

open PB.SubsConc in
/-- `Cancel` before the fix (entry found by comparing query pointers): two subscriptions from one
    query object, cancel the second — the first is removed, the second's feed is closed but stays listed, and the
    next matching writer sends on a closed channel. The protocol above is that of the fixed code. -/
theorem pinned_cancel_by_query_pointer_REFUTED :
    ((runActs (fun _ _ => true) [.add 0, .add 1] {}).map (fun s => buggyCancel (fun _ => 7) s 1)).bind
      (fun s => (runActs (fun _ _ => true) [.wStore 5, .wRLock 5, .wVisit 5] s).map (fun s' => (s.subs, s.closed 1, s'.panicked)))
      = some ([1], true, true) := by
  decide

open PB.SubsConc in
/-- A reachable run in which a write is delivered and the subscription is then cancelled while a second writer is
    between its storage write and its notification: the second write is not delivered, nothing panics. -/
example : ∃ st, Reach (fun _ _ => true) st ∧ st.buf 0 = [1] ∧ st.closed 0 = true ∧ st.wpc 2 = .done ∧ st.panicked = false ∧
    st.log = [(1, 0, true)] :=
  let acts : List Act := [.add 0, .wStore 1, .wRLock 1, .wVisit 1, .wRUnlock 1, .wStore 2, .cEnter 0 0, .cLock 0, .cRemove 0,
    .cClose 0, .cUnlock 0, .wRLock 2, .wRUnlock 2]
  ⟨(runActs (fun _ _ => true) acts {}).get rfl, reach_runActs acts {} _ Reach.init (Option.some_get _).symm, by decide⟩

/-! ## C. Interleavings of hook runners with `RegisterHook` and `RegisteredHook.Cancel` (any number of each)

Model `PB.HooksConc`: `runPreGetHooks` / `runPostGetHooks` / `runPrePutHooks` against `Cancel`, lock-granular. The
locking is the regenerated one (`LockCfg.code`: is `hooksLock` held while the hooks are called — per phase —, does
`Cancel` take it exclusively). Ghost fields: `calls` — every call begin `(runner, hook)` in temporal order;
`cancelReturned h` — a `Cancel` of `h` has returned; `late` — call begins made although `cancelReturned` was set. -/

open PB.HooksConc in
/-- **A hook is no longer called once its cancel returned** — in every interleaving of any number of gets / puts
    (in all three phases), registrations and cancels: no call of a hook *begins* after a `Cancel` of that hook has
    returned (`late` stays empty in every reachable state), and a step taken when `Cancel` of `h` has returned adds
    no call of `h`. A call that is in progress when `Cancel` is called is finished first: `Cancel` cannot enter its
    locked section before (`hook_lock_protocol`). -/
theorem hook_not_called_after_cancel_returned (phaseOf : Nat → Phase) (applies : Nat → Nat → Bool) (st : HSt)
    (h : Reach LockCfg.code phaseOf applies st) :
    st.late = [] ∧
    ∀ (a : Act) (st' : HSt) (k : Nat), step LockCfg.code phaseOf applies st a = some st' → st.cancelReturned k = true →
      st'.calls.filter (fun e => e.2 == k) = st.calls.filter (fun e => e.2 == k) := by
  have hi := inv_reach LockCfg.code_sound h
  refine ⟨hi.noLate, ?_⟩
  intro a st' k hs hk
  rcases step_calls hs with e | ⟨g, j, rem, _, hg, e⟩
  · rw [e]
  · have hj : j ∈ st.hooks := hi.pendHooks g j (by rw [hg]; simp [pendOf])
    have hne : j ≠ k := fun e' => (hi.retOut k hk).1 (e' ▸ hj)
    rw [e, List.filter_append]
    simp [hne]

open PB.HooksConc in
/-- The lock protocol of `hooksLock`: a `Cancel` in its locked section excludes every runner that is in its loop
    (between `RLock` and `RUnlock`, in particular inside a hook call) and every other `Cancel`; what a runner is
    calling or still has to call is registered. -/
theorem hook_lock_protocol (phaseOf : Nat → Phase) (applies : Nat → Nat → Bool) (st : HSt)
    (h : Reach LockCfg.code phaseOf applies st) :
    (∀ x, (st.xpc x).inCS = true → (∀ g, inLoop (st.rpc g) = false) ∧ ∀ y, (st.xpc y).inCS = true → y = x) ∧
    (∀ g k, k ∈ pendOf (st.rpc g) → k ∈ st.hooks ∧ st.cancelReturned k = false) := by
  have hi := inv_reach LockCfg.code_sound h
  refine ⟨fun x hx => ⟨fun g => ?_, fun y hy => hi.csUnique y x hy hx⟩, fun g k hk => ⟨hi.pendHooks g k hk,
    Bool.eq_false_iff.2 fun hr => (hi.retOut k hr).1 (hi.pendHooks g k hk)⟩⟩
  -- the exclusive lock is held, so there is no reader; the runners in their loop are the readers
  simpa [hi.wlRd (hi.csWl x hx)] using hi.rdIff g

open PB.HooksConc in
/-- When `RegisteredHook.Cancel` has returned the hook is out of the controller's list (also for a `Cancel` that found
    it already removed by a concurrent `Cancel`), and stays out: hook identities are not registered twice. -/
theorem hook_cancel_returns_removed (phaseOf : Nat → Phase) (applies : Nat → Nat → Bool) (st : HSt)
    (h : Reach LockCfg.code phaseOf applies st) :
    (∀ x, st.xpc x = .done → st.cancelReturned (st.xtarget x) = true) ∧
    (∀ k, st.cancelReturned k = true → k ∉ st.hooks) := by
  have hi := inv_reach LockCfg.code_sound h
  exact ⟨hi.doneRet, fun k hk => (hi.retOut k hk).1⟩

open PB.HooksConc in
/-- **Called exactly by the operations inside its registration.** An operation phase (runner `g`) that took the read
    lock after hook `k` was registered, that has returned, whose loop was not ended by a veto, and with no `Cancel`
    of `k` called so far, has called `k` exactly once if `k` applies to it (declares the phase, matches the key /
    record) and not at all otherwise — in every interleaving with other operations, registrations and cancels.
    And whatever a runner calls, at any time, are hooks that apply to it, from the list it read under the lock, each
    at most once, in list order. -/
theorem hook_called_exactly_once_inside_registration (phaseOf : Nat → Phase) (applies : Nat → Nat → Bool) (st : HSt)
    (h : Reach LockCfg.code phaseOf applies st) (g k : Nat)
    (hdone : st.rpc g = .done) (hnv : st.vetoed g = false) (hreg : st.madeAtLock g k = true) (hnc : st.cancelReq k = false) :
    (callsOf st.calls g).count k = (if applies g k then 1 else 0) ∧
    (callsOf st.calls g).Sublist ((st.snap g).filter (applies g)) := by
  have hd := dinv_reach LockCfg.code_sound h
  have hl := hd.logSnap g
  unfold LogOk at hl
  rw [hdone] at hl
  simp only [hnv, Bool.false_eq_true, if_false] at hl
  rw [hl]
  exact ⟨PB.SubsConc.count_filter_nodup (applies g) (st.snap g) k (hd.snapNodup g)
    (hd.snapLive g k (by rw [hdone]; simp) hreg hnc), List.Sublist.refl _⟩

open PB.HooksConc in
/-- In every reachable state, what a runner has called so far is a prefix of the applicable hooks of the list it read
    under the lock (so: only applicable hooks, in registration order, none twice). -/
theorem hook_calls_are_applicable_in_order (phaseOf : Nat → Phase) (applies : Nat → Nat → Bool) (st : HSt)
    (h : Reach LockCfg.code phaseOf applies st) (g : Nat) :
    callsOf st.calls g <+: (st.snap g).filter (applies g) ∧ (callsOf st.calls g).Nodup := by
  have hd := dinv_reach LockCfg.code_sound h
  have key : callsOf st.calls g <+: (st.snap g).filter (applies g) := by
    have hl := hd.logSnap g
    unfold LogOk at hl
    split at hl
    · rw [hl.1]; exact List.nil_prefix
    · split at hl
      · exact hl.2
      · obtain ⟨pre, h1, h2⟩ := hl
        rw [h2, h1, List.filter_append]
        exact List.prefix_append _ _
    · next k rem _ =>
      obtain ⟨_, _, pre, h1, h2⟩ := hl
      rw [h2, h1, List.append_cons pre k rem, List.filter_append (pre ++ [k]) rem]
      exact List.prefix_append _ _
    · split at hl
      · exact hl
      · rw [hl]; exact List.prefix_refl _
  exact ⟨key, ((hd.snapNodup g).filter _).sublist key.sublist⟩

open PB.HooksConc in
/-- Why the lock has to be held during the calls: if a runner gives up the read lock after it has looked at the list
    and calls the hooks afterwards (`callsUnderLock = false` for its phase), a hook is called after its `Cancel`
    returned — two hooks on one key, the get is inside the first hook's `PreGet` while the second is cancelled. -/
theorem hook_calls_without_the_lock_REFUTED :
    ((runActs ⟨fun _ => false, true⟩ (fun _ => .preGet) (fun _ _ => true)
        [.reg 1, .reg 2, .rLock 0, .rRelease 0, .rCallBegin 0, .xEnter 0 2, .xLock 0, .xRemove 0, .xUnlock 0,
         .rCallEnd 0 false, .rCallBegin 0] {}).map (fun s => (s.cancelReturned 2, s.calls, s.late)))
      = some (true, [(0, 1), (0, 2)], [(0, 2)]) := by
  decide

open PB.HooksConc in
/-- … and why `Cancel` needs the lock exclusively: with the read lock only, it returns while a runner is still in its
    loop over the list it read before. -/
theorem hook_cancel_with_shared_lock_REFUTED :
    ((runActs ⟨fun _ => true, false⟩ (fun _ => .prePut) (fun _ _ => true)
        [.reg 1, .reg 2, .rLock 0, .rCallBegin 0, .xEnter 0 2, .xLock 0, .xRemove 0, .xUnlock 0,
         .rCallEnd 0 false, .rCallBegin 0] {}).map (fun s => (s.cancelReturned 2, s.late)))
      = some (true, [(0, 2)]) := by
  decide

open PB.HooksConc in
/-- A reachable run of the hook protocol: the get is inside hook 1's call when `Cancel` of hook 2 is called; `Cancel`
    can only lock after the runner has called hook 2 as well and unlocked; a second runner afterwards calls hook 1
    only. Nothing is late. -/
example : ∃ st, Reach LockCfg.code (fun _ => .preGet) (fun _ _ => true) st ∧ st.calls = [(0, 1), (0, 2), (1, 1)] ∧
    st.cancelReturned 2 = true ∧ st.hooks = [1] ∧ st.late = [] ∧ st.rpc 1 = .done :=
  let acts : List Act := [.reg 1, .reg 2, .rLock 0, .rCallBegin 0, .xEnter 0 2, .rCallEnd 0 false, .rCallBegin 0,
    .rCallEnd 0 false, .rUnlock 0, .xLock 0, .xRemove 0, .xUnlock 0, .rLock 1, .rCallBegin 1, .rCallEnd 1 false, .rUnlock 1]
  ⟨(runActs LockCfg.code (fun _ => .preGet) (fun _ _ => true) acts {}).get rfl,
    reach_runActs acts {} _ Reach.init (Option.some_get _).symm, by decide⟩

end PB.C14
