import PBProofs.Lemmas.Updater
import PBProofs.Lemmas.UpdaterNames
import PBProofs.Lemmas.UpdaterHistory
import PB.Gen.Updater
/-
C19 — The updater selects the prescribed version and never purges what is needed.
Property theorems only (lemmas, `VerNodup`, `ResInv`, `Ex.*` …: PBProofs/Lemmas/Updater*.lean; the declarative
selection order is PB/Spec/Updater.lean).
-/
namespace PB.C19
open PB PB.Updater PB.Updater.Spec

/-! ### "Newest" is well defined -/

/-- The order on version numbers (go-version's `Compare` on `x.y.z(-alpha)`) is a strict total order:
    irreflexive, transitive, and two versions neither of which is older are equal. -/
theorem version_order_strict_total (a b c : Ver) :
    a.lt a = false ∧ (a.lt b = true → b.lt c = true → a.lt c = true) ∧ (a.lt b = false → b.lt a = false → a = b) :=
  ⟨Ver.lt_irrefl a, Ver.lt_trans a b c, Ver.lt_total a b⟩

/-! ### Selection = the documented order -/

/-- `selectVersion` (sort newest first, then the cascade) selects a version the documented order prescribes,
    for every list of versions with pairwise different version numbers, all flags and every index setting;
    it selects nothing only when there are no versions. -/
theorem select_prescribed (fl : Flags) (r : Res) (hn : VerNodup r.versions) :
    match (r.selectVersion fl).selected with
    | none => r.versions = []
    | some v => ∃ rv, rv ∈ r.versions ∧ rv.ver = v ∧ Prescribed fl r.index r.versions rv := by
  simp only [Res.selectVersion]
  cases h : selectFrom fl r.index (sortDesc r.versions) with
  | none =>
    have hp := (sortDesc_perm r.versions).symm
    rw [selectFrom_eq_none_iff.mp h] at hp
    exact hp.eq_nil
  | some rv =>
    have hP := (selectFrom_eq_some_iff hn (sortDesc_perm _) (sortDesc_sorted _)).mp h
    exact ⟨rv, hP.mem, rfl, hP⟩

/-- The documented order determines the version: the specification is a function of the *set* of versions. -/
theorem prescribed_unique (fl : Flags) (idx : Option Bool) (vs : List RV) (hn : VerNodup vs) (a b : RV)
    (ha : Prescribed fl idx vs a) (hb : Prescribed fl idx vs b) : a = b :=
  ha.unique hn hb

/-- The result does not depend on how `sort.Sort` orders the slice: the cascade applied to *any* newest-first
    arrangement of the same versions picks the same version (covers unstable sorting algorithms). -/
theorem select_sort_independent (fl : Flags) (idx : Option Bool) (vs s s' : List RV) (hn : VerNodup vs)
    (hp : s.Perm vs) (hs : Sorted s) (hp' : s'.Perm vs) (hs' : Sorted s') :
    selectFrom fl idx s = selectFrom fl idx s' :=
  Option.ext fun _ => (selectFrom_eq_some_iff hn hp hs).trans (selectFrom_eq_some_iff hn hp' hs').symm

/-- Outside dev mode a blacklisted version is prescribed (hence selected) only as the last resort:
    the current release is not selectable, nothing selectable qualifies in steps 3 and 4, and it is the newest version. -/
theorem blacklisted_only_as_last_resort (fl : Flags) (idx : Option Bool) (vs : List RV) (rv : RV)
    (hdev : fl.dev = false) (h : Prescribed fl idx vs rv) (hbl : rv.bl = true) :
    LastResort fl idx vs ∧ Newest (fun _ => True) vs rv := by
  cases h with
  | dev h1 => simp [hdev] at h1
  | current _ _ h3 => have := selectable_not_bl h3; simp [hbl] at this
  | newestSelectable _ _ _ h4 => have := selectable_not_bl h4.2.1; simp [hbl] at this
  | newestStable _ _ _ h4 => have := selectable_not_bl h4.2.1.2; simp [hbl] at this
  | fallback _ h2 h3 h4 h5 => exact ⟨⟨h2, h3, h4⟩, h5⟩

/-! ### Purge -/

/-- Purge neither removes a file of the active version, the selected version or the newest stable version,
    nor drops such a version from the list — for every `keep`, all flags, every order of the list. -/
theorem purge_keeps_required (r : Res) (keep : Int) (hn : VerNodup r.versions) (v : Ver) (hreq : Required r v) :
    (∀ k, (v, k) ∈ r.disk → (v, k) ∈ (r.purge keep).disk) ∧
    (∀ rv ∈ r.versions, rv.ver = v → rv ∈ (r.purge keep).versions) := by
  rcases purge_shape r keep with ⟨l', hp, he⟩ | ⟨i, hi, hlt, he⟩
  · rw [he]; exact ⟨fun k h => h, fun rv h _ => hp.mem_iff.mpr h⟩
  · rw [he]
    constructor
    · intro k hk
      refine mem_purge_disk.mpr ⟨hk, ?_⟩
      intro g hg _ hgv
      have h1 := required_before_boundary hn hi hreq (List.mem_of_mem_drop hg) hgv
      exact pairwise_cut (verNodup_sortDesc hn) _ (mem_take_mono (keepOf keep) h1) hg rfl
    · intro rv hrv hrvv
      exact mem_take_mono (keepOf keep) (required_before_boundary hn hi hreq (mem_sortDesc.mpr hrv) hrvv)

/-- Whenever Purge removes anything (an entry or a file), at least `max keep 2` *further* versions — none of them
    active, selected or the newest stable one — stay listed (and, by `purge_removes_only_unlisted`, keep their files). -/
theorem purge_keeps_further (r : Res) (keep : Int) (hn : VerNodup r.versions)
    (hpurged : (r.purge keep).versions.length ≠ r.versions.length ∨ (r.purge keep).disk ≠ r.disk) :
    ∃ further : List RV, further.length = keepOf keep ∧ 2 ≤ keepOf keep ∧ (keep ≥ 2 → keepOf keep = keep.toNat) ∧
      further.Sublist (r.purge keep).versions ∧ ∀ e ∈ further, ¬Required r e.ver := by
  rcases purge_shape r keep with ⟨l', hp, he⟩ | ⟨i, hi, hlt, he⟩
  · rw [he] at hpurged
    rcases hpurged with h | h
    · exact absurd hp.length_eq h
    · exact absurd rfl h
  · rw [he]
    refine ⟨((sortDesc r.versions).take (i + keepOf keep)).drop i, ?_, ?_, ?_, List.drop_sublist _ _, ?_⟩
    · rw [List.length_drop, List.length_take, Nat.min_eq_left (Nat.le_of_lt hlt), Nat.add_sub_cancel_left]
    · exact two_le_keepOf keep
    · exact keepOf_of_ge
    · intro e he hreq
      have he' : e ∈ (sortDesc r.versions).drop i := by
        rw [List.drop_take] at he
        exact List.mem_of_mem_take he
      have h1 := required_before_boundary hn hi hreq (List.mem_of_mem_drop he') rfl
      exact pairwise_cut (verNodup_sortDesc hn) i h1 he' rfl

/-- Purge removes only files of versions it also drops from the list; it never adds files or entries and leaves
    the selected and active version untouched. -/
theorem purge_removes_only_unlisted (r : Res) (keep : Int) (hn : VerNodup r.versions) :
    (∀ rv ∈ (r.purge keep).versions, ∀ k, (rv.ver, k) ∈ r.disk → (rv.ver, k) ∈ (r.purge keep).disk) ∧
    (∀ rv ∈ (r.purge keep).versions, rv ∈ r.versions) ∧
    (∀ fk ∈ (r.purge keep).disk, fk ∈ r.disk) ∧
    (r.purge keep).selected = r.selected ∧ (r.purge keep).active = r.active := by
  rcases purge_shape r keep with ⟨l', hp, he⟩ | ⟨i, hi, hlt, he⟩
  · rw [he]; exact ⟨fun _ _ _ h => h, fun rv h => hp.mem_iff.mp h, fun _ h => h, rfl, rfl⟩
  · rw [he]
    exact ⟨fun rv hrv k hk => purge_disk_of_kept (verNodup_sortDesc hn) hrv hk,
      fun rv h => mem_sortDesc.mp (List.mem_of_mem_take h), fun fk h => (mem_purge_disk.mp h).1, rfl, rfl⟩

/-- After a purge the resource lists as available only versions whose file is on disk
    (if that was the case before: Purge itself never breaks it). -/
theorem purge_listing_sound (r : Res) (keep : Int) (hn : VerNodup r.versions) (h : ListingSound r) :
    ListingSound (r.purge keep) := by
  intro rv hrv ha
  have hp := purge_removes_only_unlisted r keep hn
  exact hp.1 rv hrv 0 (h rv (hp.2.1 rv hrv) ha)

/-- Everything Purge drops is older than everything it keeps. -/
theorem purge_drops_only_older (r : Res) (keep : Int) (hn : VerNodup r.versions) (g e : RV)
    (hg : g ∈ r.versions) (hgone : g ∉ (r.purge keep).versions) (he : e ∈ (r.purge keep).versions) :
    g.ver.lt e.ver = true := by
  rcases purge_shape r keep with ⟨l', hp, hpe⟩ | ⟨i, hi, hlt, hpe⟩
  · rw [hpe] at hgone; exact absurd (hp.mem_iff.mpr hg) hgone
  · rw [hpe] at hgone he
    have hgs : g ∈ (sortDesc r.versions).take (i + keepOf keep) ++ (sortDesc r.versions).drop (i + keepOf keep) := by
      rw [List.take_append_drop]; exact mem_sortDesc.mpr hg
    rcases List.mem_append.mp hgs with h | h
    · exact absurd h hgone
    · have h1 := pairwise_cut (sortDesc_sorted r.versions) _ he h
      have h2 := pairwise_cut (verNodup_sortDesc hn) _ he h
      cases hlt' : g.ver.lt e.ver
      · exact absurd (Ver.lt_total _ _ h1 hlt') h2
      · rfl

/-- While any version is blacklisted, Purge does nothing at all. -/
theorem purge_paused_by_blacklist (r : Res) (keep : Int) (rv : RV) (hrv : rv ∈ r.versions) (hbl : rv.bl = true) :
    r.purge keep = r := by
  unfold Res.purge
  have : r.versions.any (·.bl) = true := List.any_eq_true.mpr ⟨rv, hrv, hbl⟩
  simp [this]

/-! ### Blacklist -/

/-- The last non-blacklisted version cannot be blacklisted: `Blacklist` succeeds only if at least two
    non-blacklisted (non-dev) versions exist, at least one is left afterwards, a refusal changes nothing, and a
    resource that has a non-blacklisted version always keeps one. -/
theorem cannot_blacklist_last (fl : Flags) (r : Res) (version : Str) :
    ((r.blacklist fl version).2 = none →
      2 ≤ validCount r.versions ∧ 1 ≤ validCount (r.blacklist fl version).1.versions) ∧
    (validCount r.versions ≤ 1 → (r.blacklist fl version).2 = some .last) ∧
    ((r.blacklist fl version).2 ≠ none → (r.blacklist fl version).1 = r) ∧
    (1 ≤ nonBl r.versions → 1 ≤ nonBl (r.blacklist fl version).1.versions) := by
  rcases blacklist_shape fl r version with ⟨e, h⟩ | ⟨e, h⟩ | ⟨e, h, _⟩ <;> rw [e]
  · exact ⟨fun h' => (nomatch h'), fun _ => rfl, fun _ => rfl, fun h' => h'⟩
  · exact ⟨fun h' => (nomatch h'), fun h' => absurd h (Nat.not_lt.mpr h'), fun _ => rfl, fun h' => h'⟩
  · have h1 := validCount_updateFirst_bl (fun rv => rv.ver.str == version) r.versions
    have h2 := validCount_perm (sortDesc_perm (markBl version r.versions))
    have h3 := validCount_le_nonBl (sortDesc (markBl version r.versions))
    simp only [Res.selectVersion, markBl] at h2 h3 ⊢
    exact ⟨fun _ => ⟨h, by omega⟩, fun h' => absurd h (Nat.not_lt.mpr h'), fun h' => absurd rfl h', fun _ => by omega⟩

/-- A successful `Blacklist` marks the named version and re-selects: the new selection is again the one the
    documented order prescribes (now with that version blacklisted). -/
theorem blacklist_reselects (fl : Flags) (r : Res) (version : Str) (hn : VerNodup r.versions)
    (hok : (r.blacklist fl version).2 = none) :
    (∃ rv ∈ (r.blacklist fl version).1.versions, rv.bl = true ∧ rv.ver.str = version) ∧
    ∃ v rv, (r.blacklist fl version).1.selected = some v ∧ rv ∈ (r.blacklist fl version).1.versions ∧ rv.ver = v ∧
      Prescribed fl (r.blacklist fl version).1.index (r.blacklist fl version).1.versions rv := by
  rcases blacklist_shape fl r version with ⟨e, _⟩ | ⟨e, _⟩ | ⟨e, _, hany⟩ <;> rw [e] at hok ⊢
  · cases hok
  · cases hok
  have hm := markBl_map_ver version r.versions
  obtain ⟨y, -, hy, hmem⟩ := updateFirst_mem_of_any (f := fun rv => { rv with bl := true }) hany
  change _ ∈ markBl version r.versions at hmem
  generalize markBl version r.versions = upd at hm hmem ⊢
  have hsel := selectVersion_prescribed fl (r := { r with versions := upd }) (verNodup_of_map_eq hm hn)
  have hmem' : _ ∈ (Res.selectVersion fl { r with versions := upd }).versions := mem_sortDesc.mpr hmem
  refine ⟨⟨_, hmem', rfl, beq_iff_eq.mp hy⟩, ?_⟩
  split at hsel
  · rw [hsel] at hmem'; cases hmem'
  · rename_i v hv
    obtain ⟨rv, h1, h2, h3⟩ := hsel
    exact ⟨v, rv, hv, h1, h2, h3⟩

/-! ### GetFile -/

/-- `GetFile` hands out exactly the selected version (selecting first if nothing is selected yet), under its
    versioned path, marks it active and its file is on disk; the only refusal is "not available locally" when the
    registry is offline. -/
theorem getFile_hands_out_selected (fl : Flags) (id : Str) (r : Res) (hinv : ResInv r) (hne : r.versions ≠ []) :
    match (r.getFile fl id).2 with
    | .file v p => (r.getFile fl id).1.selected = some v ∧ (r.getFile fl id).1.active = some v ∧
        (v, 0) ∈ (r.getFile fl id).1.disk ∧ p = getVersionedPath id v.str ∧
        (r.selected = none → ∃ rv ∈ r.versions, rv.ver = v ∧ Prescribed fl r.index r.versions rv)
    | .errNotLocal => fl.online = false ∧ (r.getFile fl id).1.active = r.active
    | _ => False := by
  obtain ⟨r1, e1, hsh⟩ := getFile_shape fl id r
  have hsp := select_prescribed fl r hinv.1
  have h1 : ResInv r1 := by
    rw [e1]; split
    · exact selectVersion_inv hinv
    · exact hinv
  have hact : r1.active = r.active := by rw [e1]; split <;> rfl
  have hsel1 : ∀ v, r1.selected = some v → r.selected = none →
      ∃ rv ∈ r.versions, rv.ver = v ∧ Prescribed fl r.index r.versions rv := by
    intro v hv hnone
    rw [e1, hnone, Option.isNone_none, if_pos rfl] at hv
    rw [hv] at hsp
    exact hsp
  rcases hsh with ⟨_, hno⟩ | ⟨v, rv, hv, hm, hrv, ⟨ha, e⟩ | ⟨_, hon, e⟩ | ⟨_, _, e⟩⟩
  · -- a version is selected and, by the invariant, listed
    exfalso
    cases hs : r1.selected with
    | none =>
      rw [e1] at hs
      split at hs
      · rw [hs] at hsp; exact hne hsp
      · rename_i hsome; exact hsome (by rw [hs]; rfl)
    | some v =>
      obtain ⟨rv, hrv, e⟩ := h1.2.1 v hs
      exact hno v hs rv hrv e
  · rw [e]; exact ⟨hv, rfl, hrv ▸ h1.2.2.2 rv hm ha, rfl, hsel1 v hv⟩
  · rw [e]; exact ⟨hon, hact⟩
  · rw [e]; exact ⟨hv, rfl, mem_diskAdd.mpr (Or.inl rfl), rfl, hsel1 v hv⟩

/-! ### Every history -/

/-- In every state reachable by any sequence of API calls, for every resource: version numbers are a key of
    `Versions` (so the hypotheses `VerNodup` above always hold), the selected and the active version are listed,
    and every version listed as available has its file on disk. -/
theorem reachable_inv (ops : List Op) : ∀ p ∈ (run {} ops).res, ResInv p.2 :=
  run_all resInv_preserved ops {} (stAll_init _)

/-- In every reachable state at most one version of a resource is flagged as the current release: "the current
    release" of the documented order is well defined (`Newest cur` in `Prescribed.current` is *the* flagged entry). -/
theorem reachable_one_current_release (ops : List Op) :
    ∀ p ∈ (run {} ops).res, ∀ a ∈ p.2.versions, ∀ b ∈ p.2.versions, a.cur = true → b.cur = true → a = b := by
  intro p hp a ha b hb hac hbc
  have h := (run_curInvR hp).1
  exact (reachable_inv ops p hp).1.eq_of_ver ha hb (Option.some.inj (((h a ha).mp hac).symm.trans ((h b hb).mp hbc)))

/-- **The flags say what the history announced.** In the state after any history, for every resource: an entry is
    flagged `CurrentRelease` iff it is the version most recently announced as the current release of that resource
    (`Spec.currentRelease`, read off the calls, never off the flags), and that version is listed. In particular a
    current release that moves back to an already known, older version (a pulled release) takes the flag with it. -/
theorem history_current_release (ops : List Op) :
    ∀ p ∈ (run {} ops).res,
      (∀ rv ∈ p.2.versions, (rv.cur = true ↔ currentRelease p.1 ops = some rv.ver)) ∧
      (∀ v, currentRelease p.1 ops = some v → ∃ rv ∈ p.2.versions, rv.ver = v) :=
  fun _ hp => run_curInvR hp

/-- The current release of a history is the version named by the last announcement for the resource — read off the
    call arguments alone (`Spec.lastAnnounced`) — or nothing, when a `Purge` has dropped that version from the
    resource since; in a history without `Purge` it is exactly the version announced last. -/
theorem current_release_last_announced (id : Str) (ops : List Op) :
    (currentRelease id ops = none ∨ currentRelease id ops = lastAnnounced id ops) ∧
    ((∀ o ∈ ops, ∀ k, o ≠ .purge k) → currentRelease id ops = lastAnnounced id ops) :=
  ⟨(runCur_lastAnnounced id (F := True) ops {} none none (fun _ _ _ _ => trivial) (Or.inr rfl)).imp And.right fun h => h,
    fun h => (runCur_lastAnnounced id (F := False) ops {} none none h (Or.inr rfl)).resolve_left And.left⟩

/-- In every reachable state the documented order read against the `CurrentRelease` flags (`Prescribed`, what the
    per-resource theorems above are stated with) and read against the history of announcements (`PrescribedH`)
    prescribe the same versions — for all registry flags and index settings. -/
theorem history_orders_agree (ops : List Op) :
    ∀ p ∈ (run {} ops).res, ∀ fl idx rv,
      Prescribed fl idx p.2.versions rv ↔ PrescribedH (currentRelease p.1 ops) fl idx p.2.versions rv :=
  fun p hp _ _ rv => prescribed_iff_H (history_current_release ops p hp).1 rv

/-- After `SelectVersions` in any reachable state, every resource has selected the version the documented order
    prescribes for its versions, its index and the current registry flags (the current release being the flagged entry). -/
theorem history_select_prescribed_flags (ops : List Op) :
    ∀ p ∈ (step (run {} ops) .select).1.res,
      match p.2.selected with
      | none => p.2.versions = []
      | some v => ∃ rv ∈ p.2.versions, rv.ver = v ∧ Prescribed (run {} ops).fl p.2.index p.2.versions rv := by
  intro p hp
  simp only [step, St.mapRes] at hp
  obtain ⟨q, hq, rfl⟩ := List.mem_map.mp hp
  exact selectVersion_prescribed _ (reachable_inv ops q hq).1

/-- After `SelectVersions` at the end of **any history**, every resource has selected the version the documented order
    prescribes, where "the current release" is the version the history announced last for that resource
    (`Spec.currentRelease`) — not "some entry whose flag happens to be set". -/
theorem history_select_prescribed (ops : List Op) :
    ∀ p ∈ (step (run {} ops) .select).1.res,
      match p.2.selected with
      | none => p.2.versions = []
      | some v => ∃ rv ∈ p.2.versions, rv.ver = v ∧
          PrescribedH (currentRelease p.1 ops) (run {} ops).fl p.2.index p.2.versions rv := by
  intro p hp
  have hf := history_select_prescribed_flags ops p hp
  simp only [step, St.mapRes] at hp
  obtain ⟨q, hq, rfl⟩ := List.mem_map.mp hp
  have hc := (history_current_release ops q hq).1
  have hc' : ∀ rv ∈ (q.2.selectVersion (run {} ops).fl).versions,
      (rv.cur = true ↔ currentRelease q.1 ops = some rv.ver) := fun rv hrv => hc rv (mem_sortDesc.mp hrv)
  simp only [] at hf ⊢
  cases hs : (q.2.selectVersion (run {} ops).fl).selected with
  | none => rw [hs] at hf; exact hf
  | some v =>
    rw [hs] at hf
    obtain ⟨rv, hm, hv, hpr⟩ := hf
    exact ⟨rv, hm, hv, (prescribed_iff_H hc' rv).mp hpr⟩

/-- `Purge(keep)` in any reachable state, for every resource: no file of a required version is removed and no
    required version unlisted; if anything is purged at least `max keep 2` further versions stay; files are removed
    only for versions that are unlisted; afterwards the resource lists as available only versions whose files exist. -/
theorem history_purge_safe (ops : List Op) (keep : Int) :
    ∀ q ∈ (run {} ops).res,
      (q.1, q.2.purge keep) ∈ (step (run {} ops) (.purge keep)).1.res ∧
      (∀ v, Required q.2 v → (∀ k, (v, k) ∈ q.2.disk → (v, k) ∈ (q.2.purge keep).disk) ∧
        ∀ rv ∈ q.2.versions, rv.ver = v → rv ∈ (q.2.purge keep).versions) ∧
      (((q.2.purge keep).versions.length ≠ q.2.versions.length ∨ (q.2.purge keep).disk ≠ q.2.disk) →
        ∃ further : List RV, further.length = keepOf keep ∧ 2 ≤ keepOf keep ∧ further.Sublist (q.2.purge keep).versions ∧
          ∀ e ∈ further, ¬Required q.2 e.ver) ∧
      (∀ rv ∈ (q.2.purge keep).versions, ∀ k, (rv.ver, k) ∈ q.2.disk → (rv.ver, k) ∈ (q.2.purge keep).disk) ∧
      ListingSound (q.2.purge keep) := by
  intro q hq
  have hinv := reachable_inv ops q hq
  refine ⟨?_, fun v hv => purge_keeps_required q.2 keep hinv.1 v hv, ?_, (purge_removes_only_unlisted q.2 keep hinv.1).1,
    purge_listing_sound q.2 keep hinv.1 hinv.2.2.2⟩
  · simp only [step, St.mapRes]
    exact List.mem_map.mpr ⟨q, hq, rfl⟩
  · intro hp
    obtain ⟨f, h1, h2, _, h4, h5⟩ := purge_keeps_further q.2 keep hinv.1 hp
    exact ⟨f, h1, h2, h4, h5⟩

/-! ### Versioned file names -/

/-- (identifier, version) → file name → (identifier, version) is the identity for every identifier of the
    documented form and every version of the documented raw format `x.y.z(-alpha)`. -/
theorem filename_roundtrip (id ver : Str) (hv : matchRawVersion ver = true) (hid : ValidIdentifier id) :
    getIdentifierAndVersion (getVersionedPath id ver) = some (id, ver) := by
  obtain ⟨d1, d2, d3, suf, hp, rfl⟩ := matchRawVersion_shape hv
  obtain ⟨hdir, hnos, hjoin⟩ := pathSplit_spec id
  obtain ⟨hnodot, hsplit⟩ := splitDot_spec (pathSplit id).2
  unfold ValidIdentifier at hid
  generalize hd : (pathSplit id).1 = dir at *
  generalize hf : (pathSplit id).2 = file at *
  generalize hst : (splitDot file).1 = stem at *
  generalize hex : (splitDot file).2 = ext at *
  have hvp : getVersionedPath id (verText 46 d1 d2 d3 suf) =
      dir ++ (stem ++ 95 :: (118 :: verText 45 d1 d2 d3 suf ++ extTail ext)) := by
    unfold getVersionedPath
    have e1 : pathSplit id = (dir, file) := by rw [← hd, ← hf]
    have e2 : splitDot file = (stem, ext) := by rw [← hst, ← hex]
    simp only [e1, e2, replace_seps (old := 46) (new := 45) rfl hp]
    cases ext <;> simp [extTail]
  have hfile : file = stem ++ extTail ext := hsplit.symm
  have hno : 47 ∉ stem ++ 95 :: (118 :: verText 45 d1 d2 d3 suf ++ extTail ext) := by
    rw [hfile] at hnos
    simp only [List.mem_append, not_or] at hnos
    simp only [List.mem_append, List.mem_cons, not_or]
    exact ⟨hnos.1, by decide, ⟨by decide, verText45_noslash hp⟩, hnos.2⟩
  have hfind : findFileVer (stem ++ 95 :: (118 :: verText 45 d1 d2 d3 suf ++ extTail ext)) =
      some (stem, 95 :: 118 :: verText 45 d1 d2 d3 suf, extTail ext) := by
    rw [findFileVer_skip _ stem hid]
    have hm := matchFileVer_run hp (extTail_cases ext)
    simp only [List.cons_append] at hm
    unfold findFileVer
    simp only [List.cons_append, hm, Option.map_some, List.append_nil]
    congr 2
    have : (95 :: 118 :: (verText 45 d1 d2 d3 suf ++ extTail ext)) =
        (95 :: 118 :: verText 45 d1 d2 d3 suf) ++ extTail ext := by simp
    rw [this, List.drop_left]
  rw [hvp]
  unfold getIdentifierAndVersion
  simp only [pathSplit_append dir hdir _ hno, hfind, dropWhile_uv hp, replace_seps (old := 45) (new := 46) rfl hp]
  rw [← hfile, hjoin]

/-- file name → (identifier, version) → file name is the identity for every file name of the documented form
    (version directly in front of the extension), and the version it yields has the documented raw format. -/
theorem filename_roundtrip_back (p id v : Str) (h : getIdentifierAndVersion p = some (id, v))
    (hdoc : VersionBeforeExtension p) : getVersionedPath id v = p ∧ matchRawVersion v = true := by
  obtain ⟨hdir, hnos, hjoin⟩ := pathSplit_spec p
  unfold VersionBeforeExtension at hdoc
  unfold getIdentifierAndVersion at h
  generalize hd : (pathSplit p).1 = dir at *
  generalize hf : (pathSplit p).2 = file at *
  have e1 : pathSplit p = (dir, file) := by rw [← hd, ← hf]
  simp only [e1] at h
  cases hfind : findFileVer file with
  | none => simp [hfind] at h
  | some t =>
    obtain ⟨b, m, a⟩ := t
    simp only [hfind, Option.some.injEq, Prod.mk.injEq] at h
    obtain ⟨hid, hv⟩ := h
    obtain ⟨hnodot, htail⟩ := hdoc b m a hfind
    obtain ⟨hfile, hm⟩ := findFileVer_spec hfind
    obtain ⟨d1, d2, d3, suf, rest, hp, rfl, hrest⟩ := matchFileVer_shape hm
    rw [dropWhile_uv hp, replace_seps (old := 45) (new := 46) rfl hp] at hv
    subst hv
    refine ⟨?_, matchRawVersion_run hp⟩
    obtain ⟨ext, hext⟩ : ∃ ext, a = extTail ext := by
      rcases htail with rfl | ⟨e, rfl⟩
      · exact ⟨none, rfl⟩
      · exact ⟨some e, rfl⟩
    subst hext
    have hno : 47 ∉ b ++ extTail ext := by
      rw [hfile] at hnos
      simp only [List.mem_append, not_or] at hnos ⊢
      exact ⟨hnos.1.1, hnos.2⟩
    unfold getVersionedPath
    rw [← hid]
    simp only [pathSplit_append dir hdir _ hno, splitDot_append b hnodot ext, replace_seps (old := 46) (new := 45) rfl hp]
    rw [← hjoin, hfile]
    cases ext <;> simp [extTail]

/-- Different (identifier, version) pairs of the documented form never share a file name — the storage layout
    keeps the files of different versions (and resources) apart. -/
theorem versioned_path_injective (id id' ver ver' : Str) (hv : matchRawVersion ver = true) (hid : ValidIdentifier id)
    (hv' : matchRawVersion ver' = true) (hid' : ValidIdentifier id')
    (h : getVersionedPath id ver = getVersionedPath id' ver') : id = id' ∧ ver = ver' := by
  have h1 := filename_roundtrip id ver hv hid
  have h2 := filename_roundtrip id' ver' hv' hid'
  rw [h, h2] at h1
  cases h1
  exact ⟨rfl, rfl⟩

/-! ### Regenerated regex literals -/

/-- The two regular expressions the hand-written matchers `matchFileVer` / `matchRawVersion` implement. -/
theorem regex_literals :
    PB.Gen.Updater.fileVersionRegex = "_v[0-9]+-[0-9]+-[0-9]+(-[a-z]+)?" ∧
    PB.Gen.Updater.rawVersionRegex = "^[0-9]+\\.[0-9]+\\.[0-9]+(-[a-z]+)?$" := ⟨rfl, rfl⟩

/-! ### Non-vacuity: the hypotheses are satisfiable and every branch occurs -/

section Examples
open Ex

-- `TestVersionSelection`: the four flag settings of the test and the blacklist step
example : (testRes.selectVersion ⟨true, true, true⟩).selected = some (v 0 0 0) := by decide
example : (testRes.selectVersion ⟨true, false, true⟩).selected = some (v 1 2 6 "beta") := by decide
example : (testRes.selectVersion ⟨true, false, false⟩).selected = some (v 1 2 5) := by decide
example : (testRes.selectVersion ⟨false, false, false⟩).selected = some (v 1 2 3) := by decide
example : ((testRes.selectVersion ⟨false, false, false⟩).blacklist ⟨false, false, false⟩ (s "1.2.3")).1.selected
    = some (v 1 2 2) := by decide
example : VerNodup testVersions := by decide
-- the dev step with a pre-release of 0.0.0 sorting behind the dev version
example : (Res.selectVersion ⟨false, true, false⟩ { versions := [{ ver := v 1 0 0, avail := true },
    { ver := v 0 0 0, avail := true }, { ver := v 0 0 0 "alpha", avail := true, pre := true }] }).selected
    = some (v 0 0 0) := by decide
-- the current release wins over newer selectable versions; not when it is not selectable
example : (Res.selectVersion ⟨false, false, true⟩ { versions := [{ ver := v 2 0 0, avail := true },
    { ver := v 1 0 0, avail := true, cur := true }] }).selected = some (v 1 0 0) := by decide
example : (Res.selectVersion ⟨false, false, true⟩ { index := some true, versions := [{ ver := v 2 0 0, avail := true },
    { ver := v 1 0 0, cur := true }] }).selected = some (v 2 0 0) := by decide
-- a blacklisted version as last resort: pre-releases are off and only pre-releases exist
example : (Res.selectVersion ⟨true, false, false⟩ { versions := preOnly }).selected = some (v 1 2 0 "rc") := by decide
example : LastResort ⟨true, false, false⟩ none preOnly := by
  refine ⟨?_, ?_, ?_⟩
  · rintro ⟨c, ⟨hm, hc, _⟩, _⟩
    simp only [preOnly, List.mem_cons, List.not_mem_nil, or_false] at hm
    rcases hm with rfl | rfl <;> simp at hc
  · rintro ⟨h, _⟩; cases h
  · rintro ⟨x, hm, hp, _⟩
    simp only [preOnly, List.mem_cons, List.not_mem_nil, or_false] at hm
    rcases hm with rfl | rfl <;> simp at hp
-- the last valid version cannot be blacklisted; the first of two can
example : ((Res.blacklist {} { versions := [{ ver := v 1 0 0, avail := true }, { ver := v 0 0 0, avail := true }] } (s "1.0.0")).2)
    = some .last := by decide
example : ((Res.blacklist {} { versions := [{ ver := v 1 0 0, avail := true }, { ver := v 1 1 0, avail := true }] } (s "1.0.0")).2)
    = none := by decide
-- Purge: six versions, keep 2: the newest three stay listed, the files of the three oldest go
example : (six.purge 2).versions.map (·.ver) = [v 1 5 0, v 1 4 0, v 1 3 0] ∧
    (six.purge 2).disk = [(v 1 5 0, 0), (v 1 4 0, 0), (v 1 3 0, 0)] := by decide
example : (six.purge 2).versions.length ≠ six.versions.length := by decide
example : Required six (v 1 5 0) := Or.inl rfl
example : ResInv six := by
  refine ⟨by decide, ?_, ?_, ?_⟩
  · intro w hw; cases hw; exact ⟨{ ver := v 1 5 0, avail := true }, by decide, rfl⟩
  · intro w hw; cases hw; exact ⟨{ ver := v 1 5 0, avail := true }, by decide, rfl⟩
  · unfold ListingSound; decide
-- versions added behind the sorted part: the newest ones survive, 1.2.0 (active, selected) too
example : (unsortedTail.purge 2).versions.map (·.ver) = [v 2 2 0, v 2 1 0, v 2 0 0, v 1 2 0, v 1 1 0, v 1 0 0] := by decide
example : (unsortedTail.purge 0).disk.length = 6 := by decide
example : (Res.purge { unsortedTail with active := none, selected := some (v 2 2 0) } 1).versions.map (·.ver)
    = [v 2 2 0, v 2 1 0, v 2 0 0] := by decide
-- a whole history: non-canonical spellings are merged, the current release is downloaded, old versions purged
example : ((run {} history).get (s "app.exe")).map (fun r => (r.selected, r.active, r.versions.map (·.ver), r.disk.length))
    = some (some (v 1 2 0), some (v 1 2 0), [v 1 3 0 "beta", v 1 2 0, v 1 1 0, v 1 0 0], 4) := by
  -- bytes spelt out first, so that `decide` does not evaluate `String.toList` at every use of `s "…"`
  simp only [history, s, String.reduceToList, List.map_cons, List.map_nil, Char.reduceToNat]
  decide
-- the current release moves between known versions: 1.2.0, forward to 1.3.0, back to 1.2.0 (a pulled release) —
-- the history says 1.2.0, exactly one entry is flagged, and 1.2.0 is selected although the newer 1.3.0 was current before
example : currentRelease (s "app.exe") rollback = some (v 1 2 0) ∧ lastAnnounced (s "app.exe") rollback = some (v 1 2 0) := by decide
example : currentRelease (s "app.exe") (rollback.take 7) = some (v 1 3 0) := by decide
example : ((run {} rollback).get (s "app.exe")).map (fun r => (r.versions.filter (·.cur)).map (·.ver)) = some [v 1 2 0] := by
  simp only [rollback, s, String.reduceToList, List.map_cons, List.map_nil, Char.reduceToNat]
  decide
example : ((step (run {} (rollback.take 7)) .select).1.get (s "app.exe")).map (·.selected) = some (some (v 1 3 0)) := by
  simp only [rollback, s, String.reduceToList, List.map_cons, List.map_nil, Char.reduceToNat]
  decide
example : ((step (run {} rollback) .select).1.get (s "app.exe")).map (·.selected) = some (some (v 1 2 0)) := by
  simp only [rollback, s, String.reduceToList, List.map_cons, List.map_nil, Char.reduceToNat]
  decide
-- an announcement that does not parse withdraws the current release; `AddResources` announces for every resource of the map
example : currentRelease (s "app.exe") (rollback ++ [.add (s "app.exe") (s "1..2") false true false none]) = none := by decide
example : currentRelease (s "app.exe") (rollback ++ [.addMany [(s "lib", s "2.0.0"), (s "app.exe", s "v1.1")] false true false none])
    = some (v 1 1 0) := by decide
example : currentRelease (s "lib") (rollback ++ [.addMany [(s "lib", s "2.0.0"), (s "app.exe", s "v1.1")] false true false none])
    = some (v 2 0 0) := by decide
-- a purge that drops the announced version makes the resource forget it (the announcement is still the last one)
example : currentRelease (s "app.exe") purgedCurrent = none ∧ lastAnnounced (s "app.exe") purgedCurrent = some (v 1 0 0) ∧
    currentRelease (s "app.exe") (purgedCurrent.take 7) = some (v 1 0 0) := by
  simp only [purgedCurrent, s, String.reduceToList, List.map_cons, List.map_nil, Char.reduceToNat]
  decide
-- why the history matters: on a list with two flagged entries (what a reset that runs only for new versions leaves
-- behind) the order read against the flags takes the newer flagged entry, the order read against the history does not
example : Prescribed {} none twoFlags { ver := v 1 3 0, avail := true, cur := true } := by
  refine .current (fun h => absurd h.1 (by decide)) ⟨by decide, rfl, ?_⟩ (by unfold Sel; decide)
  intro w hw _
  simp only [twoFlags, List.mem_cons, List.not_mem_nil, or_false] at hw
  rcases hw with rfl | rfl | rfl <;> decide
example : PrescribedH (some (v 1 2 0)) {} none twoFlags { ver := v 1 2 0, avail := true, cur := true } :=
  .current (fun h => absurd h.1 (by decide)) (by decide) rfl (by unfold Sel; decide)
example : ¬PrescribedH (some (v 1 2 0)) {} none twoFlags { ver := v 1 3 0, avail := true, cur := true } := by
  have hk : CurOkH (some (v 1 2 0)) {} none twoFlags :=
    ⟨{ ver := v 1 2 0, avail := true, cur := true }, by decide, rfl, by unfold Sel; decide⟩
  intro h
  cases h with
  | dev h1 => cases h1
  | current _ _ h3 => exact absurd h3 (by decide)
  | newestSelectable _ h2 => exact h2 hk
  | newestStable _ h2 => exact h2 hk
  | fallback _ h2 => exact h2 hk
-- file names
example : getVersionedPath (s "path/to/file.exe") (s "1.2.3-beta") = s "path/to/file_v1-2-3-beta.exe" := by
  simp only [s, String.reduceToList, List.map_cons, List.map_nil, Char.reduceToNat]
  decide
example : getIdentifierAndVersion (s "path/to/file_v1-2-3-beta.exe") = some (s "path/to/file.exe", s "1.2.3-beta") := by
  simp only [s, String.reduceToList, List.map_cons, List.map_nil, Char.reduceToNat]
  decide
example : ValidIdentifier (s "path/to/file.exe") ∧ matchRawVersion (s "1.2.3-beta") = true := by
  simp only [s, String.reduceToList, List.map_cons, List.map_nil, Char.reduceToNat]
  decide
example : VersionBeforeExtension (s "path/to/file_v1-2-3-beta.exe") := by
  simp only [s, String.reduceToList, List.map_cons, List.map_nil, Char.reduceToNat]
  intro b m a h
  cases h
  exact ⟨by decide, Or.inr ⟨_, rfl⟩⟩
-- outside the documented form the round trip is lost (why the hypotheses are there)
example : getIdentifierAndVersion (getVersionedPath (s "tool_v2-0-0.exe") (s "1.0.0")) ≠ some (s "tool_v2-0-0.exe", s "1.0.0") := by
  simp only [s, String.reduceToList, List.map_cons, List.map_nil, Char.reduceToNat]
  decide
example : ¬ValidIdentifier (s "tool_v2-0-0.exe") := by
  simp only [s, String.reduceToList, List.map_cons, List.map_nil, Char.reduceToNat]
  decide
example : getIdentifierAndVersion (s "a.b_v1-2-3.c") = some (s "a.b.c", s "1.2.3") ∧
    getVersionedPath (s "a.b.c") (s "1.2.3") ≠ s "a.b_v1-2-3.c" := by
  simp only [s, String.reduceToList, List.map_cons, List.map_nil, Char.reduceToNat]
  decide

end Examples

end PB.C19
