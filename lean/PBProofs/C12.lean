import PBProofs.Lemmas.Api
/-
C12 — An API handler runs only for requests holding the permission it requires.

Property theorems only (helper lemmas, `effRequired`, `Event.isSetKeys`: PBProofs/Lemmas/Api.lean; model:
PB/Model/Api.lean; tables: PB/Gen/Api.lean, regenerated from the Go source on every run).
All theorems hold for every state `st` (so in particular after every history of key-configuration
changes and session creation / expiry / reset); those whose statement is about histories quantify over
all event lists explicitly.
-/
namespace PB.C12
open PB PB.Api PB.Gen.Api

/-! ### The tables the statement talks about (regenerated from the source) -/

/-- The permission scale is NotFound < Dynamic < NotSupported < Anyone < User < Admin < Self. -/
theorem perm_constants_ordered :
    notFound < dynamic ∧ dynamic < notSupported ∧ notSupported < permitAnyone ∧ permitAnyone < permitUser ∧
    permitUser < permitAdmin ∧ permitAdmin < permitSelf := by decide

/-- The valid permissions are exactly Anyone, User, Admin, Self. -/
theorem valid_perms_enumerated (p : Int) :
    validPerm p ↔ p = permitAnyone ∨ p = permitUser ∨ p = permitAdmin ∨ p = permitSelf := by
  unfold validPerm permitAnyone permitUser permitAdmin permitSelf
  omega

/-- Read class = GET, HEAD; write class = POST, PUT, DELETE (as byte strings). -/
theorem method_classes_as_documented :
    readMethods = [[71, 69, 84], [72, 69, 65, 68]] ∧
    writeMethods = [[80, 79, 83, 84], [80, 85, 84], [68, 69, 76, 69, 84, 69]] ∧
    methodOptions = [79, 80, 84, 73, 79, 78, 83] := by decide

/-- The method class of a request: the method itself, or for OPTIONS the preflight header. -/
theorem method_class (method acrm : Bytes) (rm : Bool) :
    effectiveMethod method acrm = some rm ↔
      (method ≠ methodOptions ∧ ((rm = true ∧ method ∈ readMethods) ∨ (rm = false ∧ method ∉ readMethods ∧ method ∈ writeMethods))) ∨
      (method = methodOptions ∧ ((rm = true ∧ acrm ∈ readMethods) ∨ (rm = false ∧ acrm ∉ readMethods ∧ acrm ∈ writeMethods))) := by
  have hne : ([] : Bytes) ∉ readMethods ∧ ([] : Bytes) ∉ writeMethods := by decide
  have key (m : Bytes) :
      (if m ∈ readMethods then some true else if m ∈ writeMethods then some false else none) = some rm ↔
        (rm = true ∧ m ∈ readMethods) ∨ (rm = false ∧ m ∉ readMethods ∧ m ∈ writeMethods) := by
    grind
  unfold effectiveMethod
  by_cases ho : method = methodOptions
  · by_cases ha : acrm = []
    · simp [ho, ha, hne]
    · simp [ho, ha, key]
  · simp [ho, key]

/-- The bridge is granted Admin, the session TTL is five minutes, the origin exceptions are the
    browser-extension scheme and (in dev mode) 127.0.0.1 / localhost. -/
theorem documented_constants :
    bridgePerm = permitAdmin ∧ sessionTTL = 300 ∧
    extensionSchemes = [[99, 104, 114, 111, 109, 101, 45, 101, 120, 116, 101, 110, 115, 105, 111, 110]] ∧
    devOrigins = [[49, 50, 55, 46, 48, 46, 48, 46, 49], [108, 111, 99, 97, 108, 104, 111, 115, 116]] := by decide

/-! ### A handler runs only with the permission it declares -/

/-- Main safety theorem. If the handler is invoked with token `t`, then the request was not refused by the
    origin check, its path was clean, it matched a route with a handler whose module is ready, its
    method has a class `rm` (read/write), the permission the handler declares for that class — with
    Dynamic read as Anyone — is a valid permission, and the token's permission for that class is valid
    and at least as high. -/
theorem handler_runs_only_with_permission (st : St) (r : Req) (t : Token)
    (h : (handle st r).2.out = .invoke t) :
    originRefused st r = false ∧ r.pathDirty = false ∧
    ∃ hd rm, r.route = .matched (some hd) ∧ hd.moduleReady = true ∧
      effectiveMethod r.method r.acrm = some rm ∧
      validPerm (effRequired (requiredPermission (some hd) rm)) ∧
      validPerm (t.perm rm) ∧
      effRequired (requiredPermission (some hd) rm) ≤ t.perm rm := by
  obtain ⟨ho, hd, hdl, rm, hroute, hm, _, hready, hok⟩ := handle_invoke h
  refine ⟨ho, hd, hdl, rm, hroute, hready, hm, ?_⟩
  rcases authenticateRequest_ok_iff.mp hok with ⟨hreq, rfl⟩ | ⟨_, hv, _, _, rfl, hv2, hle⟩
  · rw [hreq]
    cases rm <;> decide
  · exact ⟨hv, hv2, hle⟩

/-- Handlers that declare NotFound, NotSupported or a value outside the scale (other than Dynamic) for the
    method class are never invoked, whatever the credentials and the state. -/
theorem never_invoked_when_notFound_notSupported_or_invalid (st : St) (r : Req) (hd : Handler) (rm : Bool)
    (hroute : r.route = .matched (some hd)) (hm : effectiveMethod r.method r.acrm = some rm)
    (hreq : requiredPermission (some hd) rm = notFound ∨ requiredPermission (some hd) rm = notSupported ∨
      (requiredPermission (some hd) rm ≠ dynamic ∧ ¬ validPerm (requiredPermission (some hd) rm))) :
    ∀ t, (handle st r).2.out ≠ .invoke t := by
  intro t h
  obtain ⟨_, _, hd', rm', hroute', _, hm', hv, _, _⟩ := handler_runs_only_with_permission st r t h
  cases hroute.symm.trans hroute'
  cases hm.symm.trans hm'
  rcases hreq with h1 | h1 | ⟨h1, h2⟩
  · rw [h1] at hv; exact absurd hv (by decide)
  · rw [h1] at hv; exact absurd hv (by decide)
  · exact h2 (by rwa [effRequired, if_neg h1] at hv)

/-- Requests without a route, with a route that has no handler, with a method outside both classes, or
    with OPTIONS lacking the preflight header never reach a handler. -/
theorem never_invoked_without_handler_or_class (st : St) (r : Req)
    (hbad : r.route = .noMatch ∨ r.route = .methodMismatch ∨ r.route = .matched none ∨
      effectiveMethod r.method r.acrm = none) :
    ∀ t, (handle st r).2.out ≠ .invoke t := by
  intro t h
  obtain ⟨_, _, hd, rm, hroute, _, hm, _⟩ := handler_runs_only_with_permission st r t h
  rcases hbad with hb | hb | hb | hb
  · cases hb.symm.trans hroute
  · cases hb.symm.trans hroute
  · cases hb.symm.trans hroute
  · cases hb.symm.trans hm

/-- Public handlers (Anyone) are served for every request that passes the pre-checks, with the anonymous token. -/
theorem public_handler_is_invoked_anonymously (st : St) (r : Req) (hdl : Handler) (rm : Bool)
    (hroute : r.route = .matched (some hdl)) (hm : effectiveMethod r.method r.acrm = some rm)
    (ho : originRefused st r = false) (hd : r.pathDirty = false) (hp : isPreflight r = false)
    (hready : hdl.moduleReady = true) (hreq : requiredPermission (some hdl) rm = permitAnyone) :
    handle st r = (st, { out := .invoke anon, cors := r.origin != .absent }) := by
  have e1 : permitAnyone ≠ notFound := by decide
  have e2 : permitAnyone ≠ notSupported := by decide
  rw [handle_eq_serve ho hd hroute hm]
  simp [serve, authenticateRequest, hp, hreq, hready, e1, e2]

/-- The token the handler sees is the anonymous token for public (Anyone) handlers, and otherwise exactly
    the token `checkAuth` produced for the request (the anonymous token if it produced none). -/
theorem token_seen_is_granted_token (st : St) (r : Req) (t : Token)
    (h : (handle st r).2.out = .invoke t) :
    ∃ hd rm, r.route = .matched (some hd) ∧ effectiveMethod r.method r.acrm = some rm ∧
      ((requiredPermission (some hd) rm = permitAnyone ∧ t = anon ∧ (handle st r).1 = st ∧
          (handle st r).2.authCalled = false ∧ (handle st r).2.newSession = none) ∨
       (requiredPermission (some hd) rm ≠ permitAnyone ∧
          ∃ t?, (checkAuth st r (decide (effRequired (requiredPermission (some hd) rm) > permitAnyone))).out = .token t? ∧
            t = t?.getD anon)) := by
  obtain ⟨ho, hd, hdl, rm, hroute, hm, hp, hready, hok⟩ := handle_invoke h
  refine ⟨hdl, rm, hroute, hm, ?_⟩
  rcases authenticateRequest_ok_iff.mp hok with ⟨hreq, rfl⟩ | ⟨hne, _, t?, hca, ht, _⟩
  · rw [public_handler_is_invoked_anonymously st r hdl rm hroute hm ho hd hp hready hreq]
    exact .inl ⟨hreq, rfl, rfl, rfl, rfl⟩
  · exact .inr ⟨hne, t?, hca, ht⟩

/-! ### Refusals -/

/-- Every answer that is not an invocation is one of 200, 301, 401, 403, 404, 405, 500, 503, and the
    non-refusal codes have exactly one cause each: 200 only for a CORS preflight to a route with a
    handler, 301 only for an unclean path, 503 only for a handler whose module is not ready (after the
    request passed authentication). -/
theorem status_classification (st : St) (r : Req) (n : Nat) (h : (handle st r).2.out = .status n) :
    n = 401 ∨ n = 403 ∨ n = 404 ∨ n = 405 ∨ n = 500 ∨
    (n = 200 ∧ isPreflight r = true ∧ ∃ hd, r.route = .matched (some hd)) ∨
    (n = 301 ∧ r.pathDirty = true) ∨
    (n = 503 ∧ ∃ hd, r.route = .matched (some hd) ∧ hd.moduleReady = false) := by
  rcases handle_cases st r with ⟨_, _, _, m, hm, hc⟩ | ⟨_, _, hh, rm, hroute, _, _, _, _, _, hout⟩
  · rw [hm] at h
    cases h
    rcases hc with rfl | rfl | rfl | ⟨rfl, hd⟩ | ⟨rfl, hp, hr⟩
    · simp
    · simp
    · simp
    · simp [hd]
    · simp [hp, hr]
  · rw [h] at hout
    split at hout
    · next he =>
      cases hout
      rcases authenticateRequest_err he with rfl | rfl | rfl | rfl | rfl <;> simp
    · cases hout; simp
    · split at hout
      · cases hout
      · next hr => cases hout; simp [hroute, hr]

/-- A request that reaches authentication and is refused there (for lack of permission, an unknown or
    unsupported operation, or a failing authenticator) is answered 401, 403, 404, 405 or 500 — and the
    handler is not invoked. -/
theorem refusal_statuses (st : St) (r : Req) (h : Option Handler) (rm : Bool) (n : Nat)
    (hroute : r.route = .matched h) (hm : effectiveMethod r.method r.acrm = some rm)
    (ho : originRefused st r = false) (hd : r.pathDirty = false) (hp : (isPreflight r && h.isSome) = false)
    (href : (authenticateRequest st r h rm).out = .error n) :
    (handle st r).2.out = .status n ∧ (n = 401 ∨ n = 403 ∨ n = 404 ∨ n = 405 ∨ n = 500) := by
  refine ⟨?_, authenticateRequest_err href⟩
  rw [handle_eq_serve ho hd hroute hm]
  simp [serve, hp, href]

/-- 401 is reserved for strictly anonymous requests, 403 for identified but insufficient ones:
    what `authenticateRequest` answers once `checkAuth` produced a token (or none). -/
theorem insufficient_permission_is_401_or_403 (st : St) (r : Req) (req : Int) (rm : Bool) (t? : Option Token)
    (hreq : validPerm req)
    (hca : (checkAuth st r (decide (req > permitAnyone))).out = .token t?)
    (hvalid : validPerm ((t?.getD anon).perm rm)) (hlow : (t?.getD anon).perm rm < req) :
    (authorize st r req rm).out =
      .error (if (t?.getD anon).read = permitAnyone ∧ (t?.getD anon).write = permitAnyone then 401 else 403) := by
  unfold authorize
  rw [if_neg (by unfold validPerm at hreq; omega)]
  simp only [hca]
  rw [judge_out, if_neg (· hvalid), if_pos hlow]

/-- Completeness (so that the safety theorems are not vacuous): a request that passes the pre-checks,
    whose handler declares a valid requirement and whose credentials yield a valid, sufficient
    permission IS served by the handler with exactly that token. -/
theorem sufficient_permission_is_invoked (st : St) (r : Req) (hdl : Handler) (rm : Bool) (t? : Option Token)
    (hroute : r.route = .matched (some hdl)) (hm : effectiveMethod r.method r.acrm = some rm)
    (ho : originRefused st r = false) (hd : r.pathDirty = false) (hp : isPreflight r = false)
    (hready : hdl.moduleReady = true)
    (hne : requiredPermission (some hdl) rm ≠ permitAnyone)
    (hreq : validPerm (effRequired (requiredPermission (some hdl) rm)))
    (hca : (checkAuth st r (decide (effRequired (requiredPermission (some hdl) rm) > permitAnyone))).out = .token t?)
    (hvalid : validPerm ((t?.getD anon).perm rm))
    (hsuff : effRequired (requiredPermission (some hdl) rm) ≤ (t?.getD anon).perm rm) :
    (handle st r).2.out = .invoke (t?.getD anon) := by
  have hauth := authenticateRequest_ok_iff.mpr (.inr ⟨hne, hreq, t?, hca, rfl, hvalid, hsuff⟩)
  rw [handle_eq_serve ho hd hroute hm]
  simp [serve, hp, hauth, hready]

/-! ### What each credential source grants (`checkAuth`), in priority order -/

/-- Development mode grants Self for reading and writing, before anything else is looked at. -/
theorem devmode_grants_self (st : St) (r : Req) (ar : Bool) (hdev : st.dev = true) :
    checkAuth st r ar = ⟨st, .token (some ⟨permitSelf, permitSelf⟩), false, none⟩ := by
  simp [checkAuth, hdev]

/-- The internal database bridge is granted Admin. -/
theorem bridge_grants_admin (st : St) (r : Req) (ar : Bool) (hdev : st.dev = false) (hb : r.bridge = true) :
    checkAuth st r ar = ⟨st, .token (some ⟨permitAdmin, permitAdmin⟩), false, none⟩ := by
  have : bridgePerm = permitAdmin := by decide
  simp [checkAuth, hdev, hb, this]

/-- A configured, unexpired API key — presented as Bearer token or as user++password of Basic auth —
    grants exactly the token configured for it; neither the authenticator nor the sessions are touched. -/
theorem valid_api_key_grants_its_token (st : St) (r : Req) (ar : Bool) (k : Bytes) (kt : KeyToken)
    (hdev : st.dev = false) (hb : r.bridge = false)
    (hk : presentedKey r = some k) (hl : st.keys.lookup k = some kt)
    (hexp : ∀ u, kt.validUntil = some u → st.now ≤ u) :
    checkAuth st r ar = ⟨st, .token (some kt.tok), false, none⟩ := by
  have hc : checkAPIKey st r = some kt.tok := by
    unfold checkAPIKey
    simp only [hk, hl]
    split
    · rfl
    · next u hv => rw [if_neg (Nat.not_lt.mpr (hexp u hv))]
  simp [checkAuth, hdev, hb, hc]

/-- How the key is taken from the Authorization header: `Bearer <key>`, or `Basic …` (then the key is
    user++password as decoded by net/http); every other header presents no key. -/
theorem presented_key_cases (r : Req) :
    (r.authorization = [] → presentedKey r = none) ∧
    (∀ key, r.authorization = bearerPrefix ++ key → presentedKey r = some key) ∧
    (r.authorization ≠ [] → bearerPrefix.isPrefixOf r.authorization = false →
      basicPrefix.isPrefixOf r.authorization = true → presentedKey r = some r.basic) ∧
    (bearerPrefix.isPrefixOf r.authorization = false → basicPrefix.isPrefixOf r.authorization = false →
      presentedKey r = none) := by
  refine ⟨?_, ?_, ?_, ?_⟩
  · intro h; simp [presentedKey, h]
  · intro key h
    have hne : bearerPrefix ++ key ≠ [] := by simp [bearerPrefix]
    simp [presentedKey, h, hne]
  · intro h1 h2 h3; simp [presentedKey, h1, h2, h3]
  · intro h2 h3; simp [presentedKey, h2, h3]

/-- A live session cookie grants the token stored with the session and slides the expiry to now + TTL;
    the authenticator is not consulted. -/
theorem live_session_grants_its_token (st : St) (r : Req) (ar : Bool) (id : Nat) (s : Session)
    (hdev : st.dev = false) (hb : r.bridge = false) (hk : checkAPIKey st r = none)
    (hc : r.cookie = some id) (hf : findSession st.sessions id = some s) (hlive : st.now ≤ s.validUntil) :
    checkAuth st r ar =
      ⟨{ st with sessions := refreshSession st.sessions id (st.now + sessionTTL) }, .token (some s.tok), false, none⟩ := by
  simp [checkAuth, hdev, hb, hk, checkSessionCookie_eq, hc, hf, Nat.not_lt.mpr hlive]

/-- Unknown, expired, malformed (no supported scheme) or absent credentials: what `checkAPIKey` and
    `checkSessionCookie` make of them. Short keys are not special: any key that is not in the map is unknown. -/
theorem bad_key_or_cookie_is_ignored (st : St) (r : Req) :
    ((presentedKey r = none ∨ (∃ k, presentedKey r = some k ∧ st.keys.lookup k = none) ∨
      (∃ k kt u, presentedKey r = some k ∧ st.keys.lookup k = some kt ∧ kt.validUntil = some u ∧ st.now > u)) →
      checkAPIKey st r = none) ∧
    ((r.cookie = none ∨ (∃ id, r.cookie = some id ∧ findSession st.sessions id = none) ∨
      (∃ id s, r.cookie = some id ∧ findSession st.sessions id = some s ∧ st.now > s.validUntil)) →
      checkSessionCookie st r = (st, none)) := by
  constructor
  · rintro (h | ⟨k, h1, h2⟩ | ⟨k, kt, u, h1, h2, h3, h4⟩)
    · simp [checkAPIKey, h]
    · simp [checkAPIKey, h1, h2]
    · simp [checkAPIKey, h1, h2, h3, h4]
  · rintro (h | ⟨id, h1, h2⟩ | ⟨id, s, h1, h2, h3⟩)
    · simp [checkSessionCookie_eq, h]
    · simp [checkSessionCookie_eq, h1, h2]
    · simp [checkSessionCookie_eq, h1, h2, h3]

/-- With no usable key and no live session the registered authenticator decides: its token is used and a
    session is created for it; nil means anonymous; an internal failure aborts with 500; a denial aborts
    with 403 exactly when the handler requires more than Anyone. Without a registered authenticator the
    request is anonymous. -/
theorem authenticator_decides (st : St) (r : Req) (ar : Bool)
    (hdev : st.dev = false) (hb : r.bridge = false) (hk : checkAPIKey st r = none)
    (hc : checkSessionCookie st r = (st, none)) :
    (st.authSet = false → checkAuth st r ar = ⟨st, .token none, false, none⟩) ∧
    (st.authSet = true → ∀ t, r.auth = .token t →
      checkAuth st r ar = ⟨createSession st t, .token (some t), true, some st.nextId⟩) ∧
    (st.authSet = true → r.auth = .nilToken → checkAuth st r ar = ⟨st, .token none, true, none⟩) ∧
    (st.authSet = true → r.auth = .failed → checkAuth st r ar = ⟨st, .handled 500, true, none⟩) ∧
    (st.authSet = true → r.auth = .denied →
      checkAuth st r ar = if ar then ⟨st, .handled 403, true, none⟩ else ⟨st, .token none, true, none⟩) := by
  refine ⟨?_, ?_, ?_, ?_, ?_⟩
  · intro h; simp [checkAuth, hdev, hb, hk, hc, h]
  · intro h t ht; simp [checkAuth, hdev, hb, hk, hc, h, ht]
  · intro h ht; simp [checkAuth, hdev, hb, hk, hc, h, ht]
  · intro h ht; simp [checkAuth, hdev, hb, hk, hc, h, ht]
  · intro h ht; cases ar <;> simp [checkAuth, hdev, hb, hk, hc, h, ht]

/-- Bad credentials grant nothing beyond anonymous access: if no key is usable, no session is live and
    the authenticator yields no token, a handler is invoked only if it is public or Dynamic, it sees the
    anonymous token, no session is created and the state is unchanged. -/
theorem bad_credentials_are_anonymous (st : St) (r : Req) (t : Token)
    (hdev : st.dev = false) (hb : r.bridge = false) (hk : checkAPIKey st r = none)
    (hc : checkSessionCookie st r = (st, none))
    (hau : st.authSet = false ∨ r.auth = .nilToken ∨ r.auth = .denied)
    (h : (handle st r).2.out = .invoke t) :
    t = anon ∧ (handle st r).1 = st ∧ (handle st r).2.newSession = none ∧
    ∃ hd rm, r.route = .matched (some hd) ∧ effectiveMethod r.method r.acrm = some rm ∧
      (requiredPermission (some hd) rm = permitAnyone ∨ requiredPermission (some hd) rm = dynamic) := by
  have hca : ∀ ar, (checkAuth st r ar).st = st ∧ (checkAuth st r ar).newSession = none ∧
      ∀ t', (checkAuth st r ar).out ≠ .token (some t') := by
    intro ar
    obtain ⟨a1, _, a3, _, a5⟩ := authenticator_decides st r ar hdev hb hk hc
    cases hs : st.authSet with
    | false => rw [a1 hs]; simp
    | true =>
      rcases hau with h1 | h1 | h1
      · rw [hs] at h1; cases h1
      · rw [a3 hs h1]; simp
      · rw [a5 hs h1]; cases ar <;> simp
  have hfr : (handle st r).1 = st ∧ (handle st r).2.newSession = none := by
    rcases handle_via_checkAuth st r with ⟨h1, _, h2⟩ | ⟨ar, h1, _, h2⟩
    · exact ⟨h1, h2⟩
    · exact ⟨h1.trans (hca ar).1, h2.trans (hca ar).2.1⟩
  obtain ⟨_, _, hd, rm, hroute, hm, _, _, hok⟩ := handle_invoke h
  suffices t = anon ∧ (requiredPermission (some hd) rm = permitAnyone ∨ requiredPermission (some hd) rm = dynamic) from
    ⟨this.1, hfr.1, hfr.2, hd, rm, hroute, hm, this.2⟩
  rcases authenticateRequest_ok_iff.mp hok with ⟨hreq, rfl⟩ | ⟨_, hv, t?, hout, rfl, _, hle⟩
  · exact ⟨rfl, .inl hreq⟩
  · cases t? with
    | some t' => exact absurd hout ((hca _).2.2 t')
    | none =>
      refine ⟨rfl, ?_⟩
      have hp : (none.getD anon).perm rm = permitAnyone := by cases rm <;> rfl
      by_cases hdyn : requiredPermission (some hd) rm = dynamic
      · exact .inr hdyn
      · rw [effRequired, if_neg hdyn] at hv hle
        rw [hp] at hle
        exact .inl (by unfold validPerm at hv; omega)

/-! ### Cross-origin requests -/

/-- When the origin check refuses. -/
theorem origin_refused_iff (st : St) (r : Req) :
    originRefused st r = true ↔
      r.origin = .unparsable ∨
      ∃ o, r.origin = .parsed o ∧ o.host ≠ r.host ∧ o.hostname ≠ r.host ∧ o.scheme ∉ extensionSchemes ∧
        ¬ (st.dev = true ∧ o.hostname ∈ devOrigins) := by
  unfold originRefused
  cases r.origin with
  | absent => simp
  | unparsable => simp
  | parsed o => cases hd : st.dev <;> simp [originAllowed, and_assoc]

/-- A request whose Origin does not parse, or matches neither the Host (with or without port) nor an
    exception, is answered 403 before anything else happens: the state is untouched (no session is
    refreshed or created), the authenticator is not called, no handler runs, no CORS headers are sent. -/
theorem cross_origin_refused_first (st : St) (r : Req) (h : originRefused st r = true) :
    handle st r = (st, { out := .status 403, authCalled := false, newSession := none, cors := false, wwwAuth := false }) := by
  unfold handle
  simp [h]

/-! ### Histories of key configuration changes and session creation / expiry / reset -/

/-- In every state reachable by any history, every key in the map is the parse of an entry of the
    *current* value of the `core/apiKeys` option: same path, its read/write names, its expiry. -/
theorem api_keys_reflect_current_config (h : List Event) (k : Bytes) (kt : KeyToken)
    (hl : (run St.init h).keys.lookup k = some kt) :
    ∃ e ∈ (run St.init h).cfg, e.parseOk = true ∧ e.path = k ∧ k ≠ [] ∧
      parseAPIPermission e.read = some kt.tok.read ∧ parseAPIPermission e.write = some kt.tok.write ∧
      ((e.expires = .absent ∧ kt.validUntil = none) ∨ (∃ t, e.expires = .at t ∧ kt.validUntil = some t)) := by
  have hinv : KeysInv (run St.init h) := KeysInv_run h St.init fun _ _ => nofun
  obtain ⟨e, he, n, hp⟩ := hinv k kt hl
  obtain ⟨p1, p2, p3, p4, p5, p6⟩ := parseKey_ok hp
  exact ⟨e, he, p1, p2, p3, p4, p5, p6.imp id fun ⟨t, hx, hv, _⟩ => ⟨t, hx, hv⟩⟩

/-- An API key never grants more than Admin (and never an invalid permission), after any history. -/
theorem api_key_grants_at_most_admin (h : List Event) (r : Req) (t : Token)
    (hc : checkAPIKey (run St.init h) r = some t) :
    (t.read = permitAnyone ∨ t.read = permitUser ∨ t.read = permitAdmin) ∧
    (t.write = permitAnyone ∨ t.write = permitUser ∨ t.write = permitAdmin) := by
  obtain ⟨k, kt, _, hl, rfl, _⟩ := checkAPIKey_some hc
  obtain ⟨e, _, _, _, _, hr, hw, _⟩ := api_keys_reflect_current_config h k kt hl
  exact ⟨parseAPIPermission_range hr, parseAPIPermission_range hw⟩

/-- Configuration reaches the key map: after the option is set, the last entry that imports a key `k`
    (parses, non-empty path, valid permission names, not expired at that instant) determines the token of
    `k` — together with `valid_api_key_grants_its_token`, presenting `k` then grants exactly that token. -/
theorem configured_key_is_imported (st : St) (pre post : List KeyEntry) (e : KeyEntry) (k : Bytes) (kt : KeyToken)
    (he : parseKey st.now e = .ok k kt)
    (hpost : ∀ e' ∈ post, ∀ kt', parseKey st.now e' ≠ .ok k kt') :
    (step st (.setKeys (pre ++ e :: post))).keys.lookup k = some kt :=
  updateAPIKeys_last_wins { st with cfg := pre ++ e :: post } pre post e k kt rfl he hpost

/-- What makes an entry importable, and with which token. -/
theorem key_entry_import (now : Nat) (e : KeyEntry) (rp wp : Int)
    (hp : e.parseOk = true) (hpath : e.path ≠ [])
    (hr : parseAPIPermission e.read = some rp) (hw : parseAPIPermission e.write = some wp) :
    (e.expires = .absent → parseKey now e = .ok e.path ⟨⟨rp, wp⟩, none⟩) ∧
    (e.expires = .bad → parseKey now e = .skip) ∧
    (∀ t, e.expires = .at t → parseKey now e = if now > t then .expired else .ok e.path ⟨⟨rp, wp⟩, some t⟩) := by
  refine ⟨?_, ?_, ?_⟩
  · intro hx; simp [parseKey, hp, hpath, hr, hw, hx]
  · intro hx; simp [parseKey, hp, hpath, hr, hw, hx]
  · intro t hx; simp [parseKey, hp, hpath, hr, hw, hx]

/-- Revocation: once the option is set to a value that has no entry for a key, that key grants nothing —
    from any prior state and through any later history that does not set the option again. -/
theorem revoked_key_grants_nothing (st : St) (cfg : List KeyEntry) (h' : List Event) (r : Req) (k : Bytes)
    (hh : ∀ e ∈ h', e.isSetKeys = false) (hk : presentedKey r = some k) (hrev : ∀ e ∈ cfg, e.path ≠ k) :
    checkAPIKey (run (step st (.setKeys cfg)) h') r = none := by
  cases hc : checkAPIKey (run (step st (.setKeys cfg)) h') r with
  | none => rfl
  | some t =>
    exfalso
    obtain ⟨k', kt, hk', hl, _, _⟩ := checkAPIKey_some hc
    cases hk.symm.trans hk'
    have hinv : KeysInv (run (step st (.setKeys cfg)) h') :=
      KeysInv_run h' _ (updateAPIKeys_inv { st with cfg := cfg })
    obtain ⟨e, he, n, hp⟩ := hinv k kt hl
    have hsub := updateAPIKeys_cfg_subset { st with cfg := cfg } e (cfg_run_subset h' _ hh e he)
    exact hrev e hsub (parseKey_ok hp).2.1

/-- Every session that exists after a history was created for a token the authenticator returned to some
    request of that history, its id has been handed out, and it expires at most one TTL after the
    current instant (so a session that is not used for one TTL is dead). -/
theorem sessions_come_from_authenticator_and_expire (h : List Event) (s : Session)
    (hs : s ∈ (run St.init h).sessions) :
    (∃ r, Event.request r ∈ h ∧ r.auth = .token s.tok) ∧ s.id < (run St.init h).nextId ∧
    s.validUntil ≤ (run St.init h).now + sessionTTL :=
  (SessInv_run (P := fun t => ∃ r, Event.request r ∈ h ∧ r.auth = .token t) h
    fun r hr _ ht => ⟨r, hr, ht⟩).2 s hs

/-- What a session cookie grants after any history is a token the authenticator returned earlier. -/
theorem session_cookie_grants_an_authenticator_token (h : List Event) (r : Req) (st' : St) (t : Token)
    (hc : checkSessionCookie (run St.init h) r = (st', some t)) :
    ∃ r0, Event.request r0 ∈ h ∧ r0.auth = .token t := by
  rcases checkSessionCookie_cases (run St.init h) r with hn | ⟨id, s, _, hf, _, hs⟩
  · rw [hn] at hc; cases hc
  · rw [hs] at hc
    cases hc
    exact (sessions_come_from_authenticator_and_expire h s (findSession_some hf).1).1

/-- Reset (auth/reset) and expiry are final, one step: a deleted session id is unknown afterwards, and an
    expired session grants nothing and is not refreshed (the state is returned untouched, so the next
    presentation finds it expired again). The form over whole histories with repeated presentations is
    `dead_session_stays_dead` / `expired_or_reset_session_never_grants_again` below. -/
theorem logout_and_expiry_are_final (st : St) (r : Req) (id : Nat) (hc : r.cookie = some id) :
    checkSessionCookie (deleteSession st id) r = (deleteSession st id, none) ∧
    (∀ s, findSession st.sessions id = some s → st.now > s.validUntil → checkSessionCookie st r = (st, none)) := by
  constructor
  · have : findSession (deleteSession st id).sessions id = none := by
      unfold findSession deleteSession
      simp [List.find?_eq_none]
    simp [checkSessionCookie_eq, hc, this]
  · intro s hf hexp
    simp [checkSessionCookie_eq, hc, hf, hexp]

/-- The session part of the model is the source as written (regenerated on every run by
    `harness/cmd/extract/api.go`, which fails closed on any other shape): `checkSessionCookie`, once the
    session is found, is `if sess.Expired() { return nil }; sess.Refresh(sessionCookieTTL); return sess.token`
    — the refresh is reached on the valid path only — and `Expired` is `time.Now().After(validUntil)`,
    so a session is still live at the expiry instant itself and dead strictly after it. -/
theorem session_steps_as_written :
    checkSessionCookieSteps = [.refuseIfExpired, .refresh, .grant] ∧ sessionExpiredStrict = true ∧
    (∀ now s, sessionExpired now s = true ↔ now > s.validUntil) := by
  refine ⟨by decide, by decide, sessionExpired_iff⟩

/-- The key import is one critical section of `apiKeysLock` (regenerated from the source on every run):
    `updateAPIKeys` takes the lock first and holds it to its end, and only then empties the map, reads
    the `core/apiKeys` option and stores the parsed keys; `checkAPIKey` looks keys up under the same lock
    (checked by the extractor). So overlapping imports — every config change event runs the hook in its
    own goroutine — are serialised in the order of their configuration reads, no request sees a half-built
    map, and the model's atomic `updateAPIKeys` step (`api_keys_reflect_current_config`,
    `revoked_key_grants_nothing`) is the code: the import that reads the option last also installs last. -/
theorem key_import_is_one_critical_section :
    updateAPIKeysOrder = [.lock, .clear, .readConfig, .install] := by decide

/-- Two configuration changes in a row (in particular two whose imports overlap, see above): what the
    key map holds afterwards is the import of the second value alone — nothing of the first value
    survives unless the second value configures it too. -/
theorem later_config_wins (st : St) (cfgA cfgB : List KeyEntry) (k : Bytes) (kt : KeyToken)
    (hl : (step (step st (.setKeys cfgA)) (.setKeys cfgB)).keys.lookup k = some kt) :
    ∃ e ∈ cfgB, ∃ n, parseKey n e = .ok k kt := by
  have hinv : KeysInv (step (step st (.setKeys cfgA)) (.setKeys cfgB)) := updateAPIKeys_inv _
  obtain ⟨e, he, n, hp⟩ := hinv k kt hl
  have hsub := updateAPIKeys_cfg_subset { step st (.setKeys cfgA) with cfg := cfgB } e he
  exact ⟨e, hsub, n, hp⟩

/-- How a session dies (`SessionDead st id`: the id has been handed out and the session map holds no live
    session under it): by auth/reset; by being unknown to the map although the id was handed out (reset or
    cleaned earlier); or — in every state reachable from the initial one, where ids are unique — by being
    found expired, whether or not the cleaner has run since. -/
theorem how_sessions_die :
    (∀ st id, id < st.nextId → SessionDead (deleteSession st id) id) ∧
    (∀ st id, id < st.nextId → findSession st.sessions id = none → SessionDead st id) ∧
    (∀ (h : List Event) id s, findSession (run St.init h).sessions id = some s →
      (run St.init h).now > s.validUntil → SessionDead (run St.init h) id) ∧
    (∀ st id, SessionDead st id → SessionDead (cleanSessions st) id) :=
  ⟨fun _ _ => SessionDead_deleteSession, fun _ _ => SessionDead_of_unknown,
    fun h _ _ => SessionDead_of_expired h, fun _ _ => SessionDead_step .clean⟩

/-- Expiry and reset are final along every history: once a session is dead it stays dead through any
    sequence of later events — requests presenting its cookie (any number of times, with any other
    credentials, to any handler), other requests, session creations, the cleaner, resets, clock advances,
    configuration changes. In particular no request re-arms it. -/
theorem dead_session_stays_dead (st : St) (id : Nat) (hd : SessionDead st id) (h' : List Event) :
    SessionDead (run st h') id :=
  SessionDead_run h' st hd

/-- … and after any such history its cookie is treated like an unknown one: it grants nothing and the
    state is left untouched (nothing is refreshed). -/
theorem dead_session_cookie_is_ignored (st : St) (id : Nat) (hd : SessionDead st id) (h' : List Event)
    (r : Req) (hc : r.cookie = some id) :
    checkSessionCookie (run st h') r = (run st h', none) :=
  SessionDead_cookie (SessionDead_run h' st hd) r hc

/-- A session that was once observed expired, reset or cleaned never grants again. For every history `h`
    from the initial state after which the session `id` is found expired (`now > validUntil`), or is
    unknown although its id was handed out, every continuation `h'` (which may present the cookie again
    and again) and every later request `r` carrying that cookie: the cookie grants nothing and refreshes
    nothing; and if the request carries no other usable credential, a handler runs only if it is public
    or Dynamic, sees the anonymous token, and the state is unchanged. -/
theorem expired_or_reset_session_never_grants_again (h h' : List Event) (id : Nat) (r : Req) (t : Token)
    (hobs : (∃ s, findSession (run St.init h).sessions id = some s ∧ (run St.init h).now > s.validUntil) ∨
      (id < (run St.init h).nextId ∧ findSession (run St.init h).sessions id = none))
    (hc : r.cookie = some id) :
    checkSessionCookie (run St.init (h ++ h')) r = (run St.init (h ++ h'), none) ∧
    ((run St.init (h ++ h')).dev = false → r.bridge = false → checkAPIKey (run St.init (h ++ h')) r = none →
      ((run St.init (h ++ h')).authSet = false ∨ r.auth = .nilToken ∨ r.auth = .denied) →
      (handle (run St.init (h ++ h')) r).2.out = .invoke t →
      t = anon ∧ (handle (run St.init (h ++ h')) r).1 = run St.init (h ++ h') ∧
      ∃ hd rm, r.route = .matched (some hd) ∧ effectiveMethod r.method r.acrm = some rm ∧
        (requiredPermission (some hd) rm = permitAnyone ∨ requiredPermission (some hd) rm = dynamic)) := by
  have hdead : SessionDead (run St.init h) id := by
    rcases hobs with ⟨s, hf, hexp⟩ | ⟨hid, hf⟩
    · exact SessionDead_of_expired h hf hexp
    · exact SessionDead_of_unknown hid hf
  have hck := dead_session_cookie_is_ignored (run St.init h) id hdead h' r hc
  rw [← run_append] at hck
  refine ⟨hck, ?_⟩
  intro hdev hb hk hau hinv
  obtain ⟨a1, a2, _, a4⟩ := bad_credentials_are_anonymous _ r t hdev hb hk hck hau hinv
  exact ⟨a1, a2, a4⟩

/-! ### Non-vacuity: concrete requests through the whole decision procedure -/

section Examples

private def mGET : Bytes := [71, 69, 84]
private def mPOST : Bytes := [80, 79, 83, 84]
private def hUserAdmin : Handler := ⟨some (permitUser, permitAdmin), true⟩
private def base : Req :=
  ⟨mGET, [], .absent, [99], false, .matched (some hUserAdmin), false, [], [], none, .nilToken⟩
private def stAuth : St := { St.init with authSet := true }
private def keyEntry : KeyEntry := ⟨true, [107, 101, 121, 49], [117, 115, 101, 114], [], .at 100⟩
private def stKey : St := step stAuth (.setKeys [keyEntry])
private def bearer (k : Bytes) : Bytes := bearerPrefix ++ k

-- the authenticator grants User/User: reading is served, writing (Admin required) is refused with 403
example : (handle stAuth { base with auth := .token ⟨permitUser, permitUser⟩ }).2.out = .invoke ⟨permitUser, permitUser⟩ := by decide
example : (handle stAuth { base with method := mPOST, auth := .token ⟨permitUser, permitUser⟩ }).2.out = .status 403 := by decide
-- anonymous: 401
example : (handle stAuth base).2.out = .status 401 := by decide
-- a configured key "key1" (read=user) as Bearer token; unknown and too-short keys; the key after its expiry
example : stKey.keys.length = 1 := by decide
example : (handle stKey { base with authorization := bearer [107, 101, 121, 49] }).2.out = .invoke ⟨permitUser, permitAnyone⟩ := by decide
example : (handle stKey { base with authorization := bearer [107, 101, 121] }).2.out = .status 401 := by decide
example : (handle stKey { base with authorization := bearer [] }).2.out = .status 401 := by decide
example : (handle (step stKey (.advance 101)) { base with authorization := bearer [107, 101, 121, 49] }).2.out = .status 401 := by decide
-- a session: created by the authenticator, used, expired after 301 s without use
example : (handle (handle stAuth { base with auth := .token ⟨permitAdmin, permitAdmin⟩ }).1 { base with cookie := some 0 }).2.out
    = .invoke ⟨permitAdmin, permitAdmin⟩ := by decide
example : (handle (step (handle stAuth { base with auth := .token ⟨permitAdmin, permitAdmin⟩ }).1 (.advance 301)) { base with cookie := some 0 }).2.out
    = .status 401 := by decide
-- an expired session presented again and again (also through a write handler, with the cleaner or other
-- requests in between): refused every time, never re-armed; the hypotheses of the finality theorems hold
private def stSess : St := (handle stAuth { base with auth := .token ⟨permitAdmin, permitAdmin⟩ }).1
private def stExpired : St := step stSess (.advance 301)
private def pres : Req := { base with cookie := some 0 }
example : findSession stExpired.sessions 0 = some ⟨0, ⟨permitAdmin, permitAdmin⟩, 300⟩ ∧ stExpired.now = 301 := by decide
example : SessionDead stExpired 0 := by decide
example : (handle stExpired pres).2.out = .status 401 ∧ (handle stExpired pres).1.sessions = stExpired.sessions := by decide
example : (handle (handle stExpired pres).1 pres).2.out = .status 401 := by decide
example : (handle (run stExpired [.request pres, .advance 10, .request { pres with method := mPOST }, .request base]) pres).2.out
    = .status 401 := by decide
example : (handle (run stExpired [.request pres, .clean, .request pres]) pres).2.out = .status 401 := by decide
-- exactly at the expiry instant the session is still live (and is slid); a reset session is dead at once
example : (handle (step stSess (.advance 300)) pres).2.out = .invoke ⟨permitAdmin, permitAdmin⟩ := by decide
example : SessionDead (step stSess (.logout 0)) 0 ∧ (handle (step stSess (.logout 0)) pres).2.out = .status 401 := by decide
-- a live session is not dead: the finality theorems are not about it
example : ¬ SessionDead stSess 0 := by decide
-- dev mode and the bridge
example : (handle { stAuth with dev := true } { base with method := mPOST }).2.out = .invoke ⟨permitSelf, permitSelf⟩ := by decide
example : (handle stAuth { base with method := mPOST, bridge := true }).2.out = .invoke ⟨permitAdmin, permitAdmin⟩ := by decide
-- cross-origin: refused; same origin: served
example : (handle { stAuth with dev := true } { base with origin := .parsed ⟨[101], [101], [104]⟩ }).2.out = .status 403 := by decide
example : (handle { stAuth with dev := true } { base with origin := .parsed ⟨[99], [99], [104]⟩ }).2.out = .invoke ⟨permitSelf, permitSelf⟩ := by decide

end Examples

end PB.C12
