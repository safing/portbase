import PBProofs.Lemmas.MicroTasks
/-!
# C15 — Microtasks respect the concurrency limit, run once, and are fully accounted

Property theorems over the model `PB.MicroTasks` (lean/PB/Model/MicroTasks.lean), for every limit, every
number of tasks of every priority and variant, every outcome of the task functions and every interleaving
(`run (init lim) as = some s` ranges over all finite action sequences the model admits).
Helper lemmas (the inductive invariants `Inv`, `DInv`) live in PBProofs/Lemmas/MicroTasks.lean.
-/
namespace PB.C15
open PB.MicroTasks PB.Gen.MicroTasks

/-! ## configuration -/

/-- `SetMaxConcurrentMicroTasks` never configures a limit below 2 and keeps every limit ≥ 2 as given
    (stated over the function regenerated from the source). -/
theorem configured_limit_at_least_two (n : Int) : 2 ≤ setMax n ∧ (2 ≤ n → setMax n = n) := by
  unfold setMax
  constructor
  · split <;> omega
  · intro h; split <;> omega

/-- The regenerated source facts are the ones the model's merged actions assume: the run and signal variants
    and the two priorities apply the same deltas, the finished channel holds one token, the token is offered
    after the decrement, only the enqueue-timeout path counts the task itself, and the Run (hence Start) variants
    replace a max delay of 0 by the default (only Signal* calls can expire at once, `DSt.zOk`); `concludeMicroTask`
    runs the stop check unconditionally between its two decrements, and no function of package `modules` other
    than the modelled ones of microtasks.go writes either counter (the extractor scans every file and fails
    closed otherwise — in particular nothing in the module stop/start protocol touches `microTaskCnt`). -/
theorem source_tables_as_modelled :
    dHighSignal = dHighRun ∧ dModSignal = dModRun ∧ dTimeoutLow = dTimeoutMedium ∧ dShutdownSched = dSched ∧
    dSched = 1 ∧ dHighRun = 1 ∧ dTimeoutMedium = 1 ∧ dConclude = -1 ∧ dModRun = 1 ∧ dModConclude = -1 ∧
    finishedCap = 1 ∧ tokenAfterDec = true ∧ timeoutEnqueueCounts = true ∧ timeoutWaitCounts = false ∧
    runMediumDefaultsZeroDelay = true ∧ runLowDefaultsZeroDelay = true ∧
    concludeChecksStop = true ∧ counterWritesOutsideModel = 0 ∧
    armEnqueueMedium = Arm.param ∧ armWaitMedium = Arm.param ∧ armEnqueueLow = Arm.param ∧ armWaitLow = Arm.param ∧
    clearanceCallsPassMaxDelay = true ∧ startVariantsPassThrough = true ∧
    runReturnsFnError = true ∧ runVariantsReturnDirect = true := by
  decide

/-- **Which duration every max-delay timer is armed with.** Each of the four timers of the clearance wait (enqueue
    phase and wait phase, medium and low priority) is armed with the `maxDelay` parameter of its function; that
    parameter is what the caller submitted — the Run\* variants replace an argument ≤ 0 by the documented default
    (1 s medium, 3 s low) and otherwise hand the argument on as it is, the Start\* variants pass theirs to the Run\*
    variants, the Signal\* variants hand theirs on unchanged (their 0 is the recorded finding). Stated over the
    regenerated table and functions: arming a timer with a constant, a changed default or a clamped argument breaks
    this theorem. -/
theorem timers_armed_with_submitted_max_delay :
    (∀ ph p, armed ph p = Arm.param) ∧
    runMediumDelay 0 = 1000000000 ∧ runLowDelay 0 = 3000000000 ∧
    (∀ d : Int, 0 < d → runMediumDelay d = d ∧ runLowDelay d = d) ∧
    (∀ d : Int, signalMediumDelay d = d ∧ signalLowDelay d = d) ∧
    clearanceCallsPassMaxDelay = true ∧ startVariantsPassThrough = true := by
  refine ⟨armed_param, rfl, rfl, ?_, fun _ => ⟨rfl, rfl⟩, rfl, rfl⟩
  intro d hd
  unfold runMediumDelay runLowDelay
  constructor <;> split <;> omega

/-- … hence, in the model, a timer can fire before the documented max delay of its call has expired only through
    a `Signal*MicroTask(0)` call: the early-expiry actions (`z = true`) are enabled by `zeroExp` alone. -/
theorem early_expiry_only_by_signal_zero (ph : Phase) (p : Prio) : earlyExp ph p = zeroExp p := by
  unfold earlyExp
  rw [armed_param]
  simp

/-- the configured limit never changes during a run of the model -/
theorem limit_constant (lim : Nat) (as : List Act) (s : St) (h : run (init lim) as = some s) : s.lim = lim :=
  (sat_of_run h).2

/-- A recorded trace may start with the finished token of an earlier conclusion still in the channel: that
    start state is reachable from the initial state, so every accepted trace extends to a run from `init`. -/
theorem start_with_token_reachable (lim : Nat) :
    run (init lim) [.hcall, .hinc, .begin true, .fnRet true 0, .modDec true, .dec true, .tokSend] = some (initTok lim) := by
  simp [run, step, init, initTok, addG_high, addG_conclude, addM_run, addM_conclude]

/-! ## the concurrency limit -/

/-- **Limit — the statement at full strength is false on the code as it is.** Read with the documented meaning
    of the max delay ("0 … use the default value"), `tmo = 0` says that no maximum delay has expired; yet
    `SignalMicroTask(0)` / `SignalLowPriorityMicroTask(0)` pass the 0 on to `time.After`, their timer fires at
    once (the `z = true` timer actions, enabled because the regenerated `signal*DefaultsZeroDelay` are `false`)
    and the callers start without clearance: three of them run at limit 2.
    Recorded finding `C15:limit-exceeded:signal-variants-with-maxdelay-0`; if the source starts to apply the
    default, the regenerated table disables these actions and this witness no longer checks. -/
theorem limit_respected_full_statement_REFUTED :
    ¬ (∀ (lim : Nat) (as : List Act) (s : St), run (init lim) as = some s → s.shut = 0 → s.tmo = 0 → s.r ≤ lim) := by
  intro h
  have := h 2 [.submit .med, .submit .med, .submit .low, .tmoWait .med true, .tmoWait .med true, .tmoWait .low true,
    .begin false, .begin false, .begin false] _ rfl (by decide) (by decide)
  exact absurd this (by decide)

/-- the finding's input class: a medium `SignalMicroTask(0)` call (zd = 1) whose timer fires at once — the
    caller starts uncounted while no documented delay has expired (`tmo = 0`, `tz = 1`) -/
example : (frun ⟨init 2, DSt.new 0 2 0 1⟩ [(.submit .med, true), (.tmoWait .med true, true), (.begin false, true)]).map
    (fun f => (f.d.pc, f.g.r, f.g.cnt, f.g.sM, f.g.tmo, f.g.tz)) = some (5, 1, 0, 1, 0, 1) := by decide

/-- … and such a timer is impossible for a task that was not called that way -/
example : frun ⟨init 2, DSt.new 0 2 0 0⟩ [(.submit .med, true), (.tmoWait .med true, true)] = none := by decide

/-- **Limit (partial: no Signal\* call with max delay 0 has fired its immediate timer, `tz = 0`).** Before
    shutdown begins and as long as no maximum delay has expired, at most `lim` medium- and low-priority
    microtasks execute at the same time — in every reachable state, for every limit, any number of tasks and
    every interleaving. (The bound on the medium/low tasks does not even need the proviso about high-priority
    tasks.) -/
theorem limit_respected_partial (lim : Nat) (as : List Act) (s : St) (h : run (init lim) as = some s)
    (hshut : s.shut = 0) (htmo : s.tmo = 0) (hz : s.tz = 0) : s.r ≤ lim := by
  obtain ⟨hi, hl⟩ := sat_of_run h
  -- the limit conjunct; the running tasks are among the admitted ones
  have := hi.limit hshut htmo hz
  unfold St.admML at this
  omega

/-- The statement as given (same exclusion): with no high-priority microtask running, the microtasks executing
    at the same time — of all priorities — number at most `lim`. -/
theorem limit_respected_all_priorities_partial (lim : Nat) (as : List Act) (s : St) (h : run (init lim) as = some s)
    (hshut : s.shut = 0) (htmo : s.tmo = 0) (hz : s.tz = 0) (hhigh : s.hr = 0) : s.r + s.hr ≤ lim := by
  have := limit_respected_partial lim as s h hshut htmo hz
  omega

/-- Stronger form used by the proof: everything admitted and not yet decremented (cleared, running,
    concluding) is within the limit, and while the scheduler is about to grant there is a free slot. -/
theorem admitted_within_limit_partial (lim : Nat) (as : List Act) (s : St) (h : run (init lim) as = some s)
    (hshut : s.shut = 0) (htmo : s.tmo = 0) (hz : s.tz = 0) :
    s.admML ≤ lim ∧ (s.spc = 2 ∨ s.spc = 3 → s.admML + 1 ≤ lim) := by
  obtain ⟨hi, hl⟩ := sat_of_run h
  -- the limit conjunct, with the slot `need` reserved at locations 2 and 3
  have hlim := hi.limit hshut htmo hz
  unfold need at hlim
  constructor
  · split at hlim <;> omega
  · intro hsel
    rw [if_pos hsel] at hlim
    omega

/-- The provisos are needed (1): after a maximum delay has expired the limit can be exceeded. -/
theorem limit_can_be_exceeded_after_expiry :
    ∃ as s, run (init 2) as = some s ∧ s.shut = 0 ∧ 0 < s.tmo ∧ s.lim < s.r :=
  ⟨[.submit .med, .submit .med, .submit .med, .tmoWait .med false, .tmoWait .med false, .tmoWait .med false,
    .begin false, .begin false, .begin false], _, rfl, by decide⟩

/-- The provisos are needed (2): after shutdown has begun every request is granted. -/
theorem limit_can_be_exceeded_after_shutdown :
    ∃ as s, run (init 2) as = some s ∧ s.shut = 1 ∧ s.tmo = 0 ∧ s.tz = 0 ∧ s.lim < s.r :=
  ⟨[.shutdown, .flag, .submit .med, .submit .low, .submit .med,
    .take .med false, .close, .count, .take .low false, .close, .count, .take .med false, .close, .count,
    .begin false, .begin false, .begin false], _, rfl, by decide⟩

/-- The provisos are needed (3): counted over all priorities the limit can be exceeded while high-priority
    microtasks run, because they never wait. -/
theorem all_priorities_bound_needs_no_high_running :
    ∃ as s, run (init 2) as = some s ∧ s.shut = 0 ∧ s.tmo = 0 ∧ s.tz = 0 ∧ s.lim < s.r + s.hr :=
  ⟨[.flag, .read, .submit .med, .take .med false, .close, .count, .begin false,
    .hcall, .hinc, .begin true, .hcall, .hinc, .begin true], _, rfl, by decide⟩

/-! ## accounting -/

/-- **Accounting.** In every reachable state (also after expiries and during shutdown) the global counter
    equals increments minus decrements, every admitted and not yet decremented task is either counted or has
    exactly one increment owed to it by the scheduler (a stale request still queued or held, or the step
    between `close` and `AddInt32`), and the per-module counters sum to the number of tasks between their
    module increment and module decrement. -/
theorem accounting_balanced (lim : Nat) (as : List Act) (s : St) (h : run (init lim) as = some s) :
    s.cnt + (s.sM + s.sL + s.pend : Nat) = (s.admML + s.admH : Nat) ∧
    s.mods = (s.r + s.d1 + s.hr + s.hd1 : Nat) := by
  have hi := (sat_of_run h).1
  have hacc := hi.acc
  have hmods := hi.mods
  unfold St.cnt St.mods St.admML St.admH at *
  omega

/-- **Counters return to zero.** Once all microtasks have finished and no clearance request is left over, the
    global count and the per-module counts are zero. -/
theorem counts_zero_after_quiescence (lim : Nat) (as : List Act) (s : St) (h : run (init lim) as = some s)
    (hq : s.quiescent) : s.cnt = 0 ∧ s.mods = 0 := by
  have hb := accounting_balanced lim as s h
  unfold St.quiescent at hq
  unfold St.admML St.admH at hb
  omega

/-- The counter can dip below zero only by the increments the scheduler still owes. -/
theorem count_lower_bound (lim : Nat) (as : List Act) (s : St) (h : run (init lim) as = some s) :
    -((s.sM + s.sL + s.pend : Nat) : Int) ≤ s.cnt := by
  have hb := accounting_balanced lim as s h
  omega

/-- **No lost wake-up.** A scheduler that found the house full and waits for the finished token is never left
    waiting once everything has finished: the token is in the channel (so it need not wait for the recheck
    ticker). -/
theorem no_lost_wakeup (lim : Nat) (as : List Act) (s : St) (h : run (init lim) as = some s)
    (hlim : 1 ≤ lim) (hq : s.quiescent) (hw : s.spc = 5) : s.fin = 1 := by
  obtain ⟨hi, hl⟩ := sat_of_run h
  -- the wake conjunct at 5; with nothing in flight the accounting makes the count zero, which is not full
  have h5 := hw ▸ hi
  have hfin := h5.fin
  have hacc := h5.acc
  have hwake : s.fin = 0 → s.cD + s.lim ≤ s.cI ∨ 0 < s.d3 := h5.wake
  unfold St.quiescent at hq
  unfold St.admML at hacc
  omega

/-- timers: the recheck ticker and the max-delay expiries -/
def isTimer : Act → Bool
  | .wakeTick | .tmoEnq _ _ | .tmoInc | .tmoWait _ _ | .tmoHeld _ | .tmoLate _ => true
  | _ => false

/-- the scheduler steps that admit a request of priority `p` from a quiescent state -/
def admitPath (s : St) (p : Prio) : List Act :=
  if s.spc = 0 then (if s.shut = 1 then [.flag, .take p false, .close] else [.flag, .read, .take p false, .close])
  else if s.spc = 1 then [.read, .take p false, .close]
  else if s.spc = 5 then
    (if s.shut = 1 then [.wakeToken, .flag, .take p false, .close] else [.wakeToken, .flag, .read, .take p false, .close])
  else [.take p false, .close]

/-- **Later microtasks are admitted immediately.** From every reachable quiescent state a newly submitted
    medium- or low-priority microtask is cleared by scheduler steps alone — no decrement by anybody else, no
    recheck tick, no max-delay expiry is needed. -/
theorem admitted_immediately_after_quiescence (lim : Nat) (as : List Act) (s : St)
    (h : run (init lim) as = some s) (hlim : 1 ≤ lim) (hq : s.quiescent) (p : Prio) :
    (admitPath s p).all (fun a => !isTimer a) = true ∧
    ∃ s', run s (.submit p :: admitPath s p) = some s' ∧ s'.c = 1 ∧ s'.tmo = s.tmo ∧ s'.tz = s.tz := by
  have hl := limit_constant lim as s h
  -- nothing is owed and nothing admitted: the count is exactly zero, so the guard sees space
  have hcnt : s.cI = s.cD := by
    have := (counts_zero_after_quiescence lim as s h hq).1
    unfold St.cnt at this
    omega
  have hsp' (t : St) (h1 : t.cI = s.cI) (h2 : t.cD = s.cD) (h3 : t.lim = s.lim) : space t = true :=
    (space_iff t).2 (by omega)
  have htok := no_lost_wakeup lim as s h hlim hq
  have h0 := (sat_of_run h).1
  unfold St.quiescent at hq
  have hc : s.c = 0 := by omega
  have hspc : s.spc = 0 ∨ s.spc = 1 ∨ s.spc = 2 ∨ s.spc = 5 ∨ s.spc = 6 := by
    have := schedOk_iff.1 h0.sched
    omega
  constructor
  · -- the five lists of `admitPath`, each without a timer
    unfold admitPath
    split
    · split <;> rfl
    · split
      · rfl
      · split
        · split <;> rfl
        · rfl
  · -- every path ends with the scheduler, selecting, taking the new request and clearing its owner
    have sel (t : St) (ht : t.spc = 2 ∨ t.spc = 6) (hc : t.c = 0) (ht1 : t.tmo = s.tmo) (ht2 : t.tz = s.tz)
        (hreq : 0 < match p with | .med => t.wM | .low => t.wL) :
        ∃ s', run t [.take p false, .close] = some s' ∧ s'.c = 1 ∧ s'.tmo = s.tmo ∧ s'.tz = s.tz := by
      cases p
      all_goals
        refine run_cons (if_pos ⟨ht, hreq⟩)
          (run_cons ((if_pos ?_).trans (if_pos rfl)) ⟨_, rfl, congrArg (· + 1) hc, ht1, ht2⟩)
        exact ht.imp (congrArg (· + 1)) (congrArg (· + 1))
    -- from the loop head it gets there through the flag and, outside shutdown, the guard
    have head (t : St) (ht : t.spc = 0) (hs : t.shut = s.shut) (hc : t.c = 0) (ht1 : t.tmo = s.tmo) (ht2 : t.tz = s.tz)
        (h1 : t.cI = s.cI) (h2 : t.cD = s.cD) (h3 : t.lim = s.lim) (hreq : 0 < match p with | .med => t.wM | .low => t.wL) :
        ∃ s', run t (if s.shut = 1 then [.flag, .take p false, .close] else [.flag, .read, .take p false, .close]) =
          some s' ∧ s'.c = 1 ∧ s'.tmo = s.tmo ∧ s'.tz = s.tz := by
      split
      · exact run_cons ((if_pos ht).trans (if_pos (hs.trans ‹_›))) (sel _ (.inr rfl) hc ht1 ht2 hreq)
      · exact run_cons ((if_pos ht).trans (if_neg (hs ▸ ‹_›)))
          (run_cons (if_pos (hsp' { t with spc := 1 } h1 h2 h3)) (sel _ (.inl rfl) hc ht1 ht2 hreq))
    cases p
    all_goals
      refine run_cons rfl ?_
      rw [admitPath]
      rcases hspc with k | k | k | k | k
      · rw [if_pos k]
        exact head _ k rfl hc rfl rfl rfl rfl rfl (Nat.succ_pos _)
      · rw [if_neg (by rw [k]; decide), if_pos k]
        exact run_cons ((if_pos k).trans (if_pos (hsp' _ rfl rfl rfl))) (sel _ (.inl rfl) hc rfl rfl (Nat.succ_pos _))
      · rw [if_neg (by rw [k]; decide), if_neg (by rw [k]; decide), if_neg (by rw [k]; decide)]
        exact sel _ (.inl k) hc rfl rfl (Nat.succ_pos _)
      · rw [if_neg (by rw [k]; decide), if_neg (by rw [k]; decide), if_pos k, ← apply_ite (List.cons Act.wakeToken)]
        exact run_cons (if_pos ⟨k, htok k⟩) (head _ rfl rfl hc rfl rfl rfl rfl rfl (Nat.succ_pos _))
      · rw [if_neg (by rw [k]; decide), if_neg (by rw [k]; decide), if_neg (by rw [k]; decide)]
        exact sel _ (.inr k) hc rfl rfl (Nat.succ_pos _)

/-- the actions by which tasks and the scheduler move on their own: no timer, no new submission, no no-op -/
def progressActs : List Act :=
  [.flag, .read, .take .med false, .take .low false, .take .med true, .take .low true, .close, .count, .wakeToken,
   .tmoInc, .hinc, .begin false, .begin true, .fnRet false 0, .fnRet true 0, .modDec false, .modDec true,
   .dec false, .dec true, .tokSend, .tokDrop]

/-- **No deadlock.** As long as anything is in flight — a task anywhere between its call and the end of its
    conclusion, a clearance request queued or held, an increment owed — some task or the scheduler can move
    without any timer firing (no max-delay expiry, no recheck tick) and without anything new being submitted.
    So a submitted microtask never depends on a timer to get executed and concluded. -/
theorem no_deadlock (lim : Nat) (as : List Act) (s : St) (h : run (init lim) as = some s)
    (hlim : 1 ≤ lim) (hbusy : ¬ s.quiescent) :
    ∃ a ∈ progressActs, (step s a).isSome = true := by
  have hi := (sat_of_run h).1
  by_cases h1 : 0 < s.te
  · exact ⟨.tmoInc, by decide, isSome_ite ⟨h1, rfl⟩⟩
  by_cases h2 : 0 < s.hp
  · exact ⟨.hinc, by decide, isSome_ite h2⟩
  by_cases h3 : 0 < s.c
  · exact ⟨.begin false, by decide, isSome_ite h3⟩
  by_cases h4 : 0 < s.hc
  · exact ⟨.begin true, by decide, isSome_ite h4⟩
  by_cases h5 : 0 < s.r
  · exact ⟨.fnRet false 0, by decide, isSome_ite h5⟩
  by_cases h6 : 0 < s.hr
  · exact ⟨.fnRet true 0, by decide, isSome_ite h6⟩
  by_cases h7 : 0 < s.d1
  · exact ⟨.modDec false, by decide, isSome_ite h7⟩
  by_cases h8 : 0 < s.hd1
  · exact ⟨.modDec true, by decide, isSome_ite h8⟩
  by_cases h9 : 0 < s.d2
  · exact ⟨.dec false, by decide, isSome_ite h9⟩
  by_cases h10 : 0 < s.hd2
  · exact ⟨.dec true, by decide, isSome_ite h10⟩
  by_cases h11 : 0 < s.d3
  · by_cases hf : s.fin = 0
    · exact ⟨.tokSend, by decide, isSome_ite ⟨h11, hf⟩⟩
    · exact ⟨.tokDrop, by decide, isSome_ite ⟨h11, by have := hi.fin; omega⟩⟩
  -- only clearance requests and the scheduler are left
  have hreq : 0 < s.wM ∨ 0 < s.wL ∨ 0 < s.sM ∨ 0 < s.sL ∨ s.hk ≠ 0 ∨ s.pend ≠ 0 := by
    unfold St.quiescent at hbusy
    omega
  -- while it selects, the scheduler holds nothing and owes nothing, so some request is offered
  have sel (k : s.spc = 2 ∨ s.spc = 6) : ∃ a ∈ progressActs, (step s a).isSome = true := by
    have : s.hk = 0 ∧ s.pend = 0 := by
      rcases k with k | k
      · exact (k ▸ hi).sched
      · exact (k ▸ hi).sched
    rcases (by omega : 0 < s.wM ∨ 0 < s.wL ∨ 0 < s.sM ∨ 0 < s.sL) with w | w | w | w
    · exact ⟨.take .med false, by decide, isSome_ite ⟨k, w⟩⟩
    · exact ⟨.take .low false, by decide, isSome_ite ⟨k, w⟩⟩
    · exact ⟨.take .med true, by decide, isSome_ite ⟨k, w⟩⟩
    · exact ⟨.take .low true, by decide, isSome_ite ⟨k, w⟩⟩
  have hspc : s.spc ≤ 8 := (schedOk_iff.1 hi.sched).2.1
  rcases (by omega : s.spc = 0 ∨ s.spc = 1 ∨ s.spc = 2 ∨ s.spc = 3 ∨ s.spc = 4 ∨ s.spc = 5 ∨ s.spc = 6 ∨
    s.spc = 7 ∨ s.spc = 8) with k | k | k | k | k | k | k | k | k
  · exact ⟨.flag, by decide, by rw [step, if_pos k]; split <;> rfl⟩
  · exact ⟨.read, by decide, by rw [step, if_pos k]; split <;> rfl⟩
  · exact sel (.inl k)
  · exact ⟨.close, by decide, by rw [step, if_pos (.inl k)]; split <;> rfl⟩
  · exact ⟨.count, by decide, by rw [step, if_pos k]; rfl⟩
  · -- waiting at "full" with nothing running: the count is exact and below the limit, so the token is there
    have hf : s.fin = 1 := by
      have := hi.fin
      have : s.hk = 0 ∧ s.pend = 0 := (k ▸ hi).sched
      have := hi.acc
      have : s.fin = 0 → s.cD + s.lim ≤ s.cI ∨ 0 < s.d3 := (k ▸ hi).wake
      have hl := limit_constant lim as s h
      unfold St.admML at *
      omega
    exact ⟨.wakeToken, by decide, isSome_ite ⟨k, hf⟩⟩
  · exact sel (.inr k)
  · exact ⟨.close, by decide, by rw [step, if_pos (.inr k)]; split <;> rfl⟩
  · exact ⟨.count, by decide, by rw [step, if_neg (by omega), if_pos k]; rfl⟩

/-! ## every single task

`frun ⟨init lim, DSt.new cls var nilm zd⟩ tr = some f` ranges over all runs of the model in which one task — of
priority class `cls` (0 medium, 1 low, 2 high) and variant `var` (0 `Run*`, 1 `Start*`, 2 `Signal*`) — is
followed individually next to arbitrarily many others; the task is arbitrary, so the statements hold for each. -/

/-- **Exactly once.** The submitted function is invoked when the task starts running and never again: not
    before, exactly once from then on — in particular exactly once when the call has returned — on every
    path (clearance, either max-delay expiry, shutdown), whatever the function does. On a nil module nothing
    is executed. -/
theorem runs_exactly_once (lim cls var nilm zd : Nat) (tr : List (Act × Bool)) (f : FSt)
    (h : frun ⟨init lim, DSt.new cls var nilm zd⟩ tr = some f) (hv : f.d.var ≠ 2) :
    f.d.execs ≤ 1 ∧ (f.d.pc < 5 → f.d.execs = 0) ∧ (5 ≤ f.d.pc ∧ f.d.pc ≤ 10 → f.d.execs = 1) ∧
    (f.d.pc = 11 → f.d.execs = 0) := by
  have hi := (task_at h).execs
  rw [if_neg hv, ind] at hi
  split at hi <;> omega

/-- **The error reaches the caller.** When a blocking variant has returned, its result is the outcome of the
    function — nil, the panic turned into an error, or *that* error value, whichever it is (`out` ranges over all
    numbers: the harness draws plain errors, `context.Canceled`, errors wrapping it or the package's sentinels, a
    typed nil, a `*ModuleError`); on a nil module it is `errNoModule`; before the return nothing. (`res` = 0 nothing,
    1 `errNoModule`, `out + 2` the outcome `out`.) -/
theorem blocking_variants_return_fn_error (lim cls var nilm zd : Nat) (tr : List (Act × Bool)) (f : FSt)
    (h : frun ⟨init lim, DSt.new cls var nilm zd⟩ tr = some f) :
    (f.d.pc = 10 → f.d.var = 0 → f.d.res = f.d.out + 2) ∧ (f.d.pc = 11 → f.d.res = 1) ∧
    (f.d.pc < 10 → f.d.res = 0) := by
  have hi := (task_at h).res
  grind

/-- **… in every state of the module.** The task followed together with its module (`tstep`: the module runs through
    any history meanwhile — it is stopped while the call is in flight, the stop times out, it goes offline, it is
    restarted; `rflag`/`rst` are its stop flag and status at the moment the function returned): the caller of a
    blocking variant gets the function's outcome unchanged whatever that state was, for every outcome. -/
theorem returned_error_unchanged_in_every_module_state (lim cls var zd : Nat) (tr : List TAct) (t : TSt)
    (h : trun (TSt.new lim cls var zd) tr = some t) (hv : t.f.d.var = 0) (hp : t.f.d.pc = 10) :
    t.f.d.res = t.f.d.out + 2 := by
  have hi := (tinv_run tr (inv_init lim) (dinv_new cls var 0 zd) h).2.res
  rw [hi, if_neg (by omega), if_pos ⟨hp, hv⟩]

/-- the states are all reachable: for every outcome `out` the function of a blocking call can return while its module
    is online, while it is stopping (stop flag set, context cancelled), and after the stop has timed out and the
    module is offline with the flag still set — and the caller gets `out` each time -/
theorem blocking_return_reachable_in_every_module_state (lim out : Nat) :
    (∃ tr t, trun (TSt.new lim 2 0 0) tr = some t ∧ t.f.d.pc = 10 ∧ t.f.d.out = out ∧ t.rst = 1 ∧ t.rflag = 0 ∧
      t.f.d.res = out + 2) ∧
    (∃ tr t, trun (TSt.new lim 2 0 0) tr = some t ∧ t.f.d.pc = 10 ∧ t.f.d.out = out ∧ t.rst = 2 ∧ t.rflag = 1 ∧
      t.f.d.res = out + 2) ∧
    (∃ tr t, trun (TSt.new lim 2 0 0) tr = some t ∧ t.f.d.pc = 10 ∧ t.f.d.out = out ∧ t.rst = 0 ∧ t.rflag = 1 ∧
      t.f.d.res = out + 2) := by
  refine ⟨⟨[.task .hcall true, .task .hinc true, .task (.begin true) true, .task (.fnRet true out) true,
      .task (.modDec true) true, .task .stopCheck true, .task (.dec true) true, .task .tokSend true, .task .ret true],
      _, rfl, rfl, rfl, rfl, rfl, rfl⟩,
    ⟨[.task .hcall true, .task .hinc true, .task (.begin true) true, .mod .stopBegin, .mod .flagSet,
      .task (.fnRet true out) true, .task (.modDec true) true, .task .stopCheck true, .mod (.check true),
      .task (.dec true) true, .task .tokSend true, .task .ret true], _, rfl, rfl, rfl, rfl, rfl, rfl⟩,
    ⟨[.task .hcall true, .task .hinc true, .task (.begin true) true, .mod .stopBegin, .mod .flagSet, .mod .timeout,
      .mod .offline, .task (.fnRet true out) true, .task (.modDec true) true, .task .stopCheck true,
      .task (.dec true) true, .task .tokSend true, .task .ret true], _, rfl, rfl, rfl, rfl, rfl, rfl⟩⟩

/-- **No timer fires early.** For every task that is not a `Signal*MicroTask(0)` call — whatever its priority, its
    variant and the max delay it was submitted with — no timer of its clearance wait (enqueue phase, wait phase,
    while the scheduler holds its request, or late) fires before its documented max delay has expired: the early
    timer actions are never enabled for it. (They would be if one of the four timers were armed with anything but
    the caller's max delay: `DSt.early` is stated over the regenerated table `armed`.) -/
theorem no_early_expiry_unless_signal_zero (lim cls var nilm zd : Nat) (tr : List (Act × Bool)) (f : FSt)
    (h : frun ⟨init lim, DSt.new cls var nilm zd⟩ tr = some f) (hz : ¬(f.d.zd = 1 ∧ f.d.var = 2)) : f.d.ez = 0 :=
  (task_at h).ez hz

/-- **done is idempotent.** For a task of a signal variant, however many times `done` has been called
    (`dones` is unbounded), the global and the module counter have been decremented at most once on its
    behalf; the first call to perform its CAS is the one that concludes, and once that call has returned each
    counter has been decremented exactly once. -/
theorem done_idempotent (lim cls var nilm zd : Nat) (tr : List (Act × Bool)) (f : FSt)
    (h : frun ⟨init lim, DSt.new cls var nilm zd⟩ tr = some f) (hv : f.d.var = 2) :
    f.d.gD ≤ 1 ∧ f.d.mD ≤ 1 ∧ (1 ≤ f.d.dones → f.d.flag = 1 ∧ 6 ≤ f.d.pc) ∧
    (f.d.pc = 10 → f.d.gD = 1 ∧ f.d.mD = 1) := by
  have hi := task_at h
  have hmD := hi.mD
  have hgD := hi.gD
  have hflag := hi.flag
  have hdones := hi.dones
  rw [if_pos hv] at hflag
  unfold ind at *
  grind

/-- **Counted exactly once.** On behalf of every task the global counter is incremented at most once and
    decremented at most once, likewise its module's counter; when the task has concluded, both decrements and
    the module increment have happened, and the global increment has either happened or is still owed by the
    scheduler through the task's left-over clearance request (queued, held, or closed and not yet counted). -/
theorem counted_exactly_once (lim cls var nilm zd : Nat) (tr : List (Act × Bool)) (f : FSt)
    (h : frun ⟨init lim, DSt.new cls var nilm zd⟩ tr = some f) :
    f.d.gI ≤ 1 ∧ f.d.gD ≤ 1 ∧ f.d.mI ≤ 1 ∧ f.d.mD ≤ 1 ∧
    (9 ≤ f.d.pc ∧ f.d.pc ≤ 10 → f.d.gD = 1 ∧ f.d.mI = 1 ∧ f.d.mD = 1 ∧
      (f.d.gI = 1 ∨ (f.d.gI = 0 ∧ (f.d.req = 1 ∨ f.d.req = 2 ∨ f.d.req = 3)))) ∧
    (f.d.pc = 11 → f.d.gI = 0 ∧ f.d.gD = 0 ∧ f.d.mI = 0 ∧ f.d.mD = 0) := by
  have hi := task_at h
  have hmI := hi.mI
  have hmD := hi.mD
  have hgD := hi.gD
  have hgI := hi.gI
  have hloc := hi.loc
  -- from the table `locOk`: a concluded task's request is in a state ≤ 5, after `errNoModule` there is none
  have hrun : 9 ≤ f.d.pc ∧ f.d.pc ≤ 10 → f.d.req ≤ 5 := fun hp => by
    rw [locOk, if_neg (by omega), if_neg (by omega), if_neg (by omega), if_pos (by omega)] at hloc
    split at hloc <;> omega
  have hend : f.d.pc = 11 → f.d.req = 0 := fun hp => by rw [hp] at hloc; exact hloc
  unfold ind at *
  refine ⟨?_, ?_, ?_, ?_, ?_, ?_⟩ <;> grind

/-- **The conclusion runs the stop check.** Every microtask that has concluded (any priority, any variant, any
    outcome incl. panic) has called `checkIfStopComplete` exactly once, after its module decrement (never
    before it) and before its global decrement. -/
theorem conclusion_runs_stop_check (lim cls var nilm zd : Nat) (tr : List (Act × Bool)) (f : FSt)
    (h : frun ⟨init lim, DSt.new cls var nilm zd⟩ tr = some f) :
    f.d.chk ≤ 1 ∧ (f.d.chk = 1 → f.d.mD = 1) ∧ (8 ≤ f.d.pc ∧ f.d.pc ≤ 10 → f.d.chk = 1) ∧
    (f.d.pc = 11 → f.d.chk = 0) := by
  have hi := task_at h
  have hmD := hi.mD
  have hchk := hi.chk
  unfold ind at *
  grind

/-! ## every single module: its counter and the stop protocol

`mrun MSt.init as = some m` ranges over all histories of one module: microtasks beginning and concluding in
every lifecycle state, stops that complete, stops that run into the stop timeout with microtasks still
running, restarts while microtasks of the previous run are in flight, checks by anybody at any time. -/

/-- the regenerated condition of `checkIfStopComplete` on the microtask counter is "equals zero" -/
theorem stop_check_reads_zero (c : Int) : stopCheckMicro c = true ↔ c = 0 := by
  unfold stopCheckMicro
  exact decide_eq_true_iff

/-- **Per-module accounting.** In every reachable state the module's counter equals the number of its
    microtasks between their module increment and their module decrement — whatever the module's lifecycle
    did meanwhile (stopped, stop timed out, offline, restarted). -/
theorem module_count_balanced (as : List MAct) (m : MSt) (h : mrun MSt.init as = some m) : m.cnt = (m.run : Nat) := by
  have hi := minv_run as minv_init h
  unfold MInv at hi
  unfold MSt.cnt
  omega

/-- **The module count returns to zero** once all microtasks of the module have finished — exactly zero, also
    after a stop of the module gave up waiting for them. -/
theorem module_count_zero_once_finished (as : List MAct) (m : MSt) (h : mrun MSt.init as = some m)
    (hq : m.run = 0) : m.cnt = 0 := by
  have := module_count_balanced as m h
  omega

/-- **Module stops are not held up.** Once all microtasks of a stopping (or stopped) module have finished, the
    microtask counter does not keep `checkIfStopComplete` from completing the stop: any check made then — with
    the stop function, workers and tasks done — completes it, and a `stopAllTasks` waiting for completion is
    woken (it does not need `moduleStopTimeout`). By `conclusion_runs_stop_check` the module's last concluding
    microtask makes such a check itself. -/
theorem module_stop_not_held_up (as : List MAct) (m : MSt) (h : mrun MSt.init as = some m)
    (hf : m.flag = 1) (hq : m.run = 0) :
    ∃ m', mstep m (.check true) = some m' ∧ m'.done = 1 ∧ (m.sp = 2 → (mstep m' .wake).isSome = true) := by
  have hz := module_count_zero_once_finished as m h hq
  have hc : stopCheckMicro m.cnt = true := (stop_check_reads_zero _).2 hz
  refine ⟨{ m with done := 1 }, ?_, rfl, ?_⟩
  · exact if_pos ⟨hf, rfl, hc⟩
  · intro hsp
    exact isSome_ite ⟨hsp, rfl⟩

/-- the stop check is not vacuous: while a microtask of the module runs, a check does not complete the stop -/
theorem running_microtask_holds_module_stop (as : List MAct) (m : MSt) (h : mrun MSt.init as = some m)
    (hr : 0 < m.run) (oth : Bool) : mstep m (.check oth) = some m := by
  have hb := module_count_balanced as m h
  have hc : stopCheckMicro m.cnt = false := by
    cases hx : stopCheckMicro m.cnt
    · rfl
    · have := (stop_check_reads_zero _).1 hx; omega
  exact if_neg fun g => by rw [hc] at g; exact absurd g.2.2 (by decide)

/-! ## non-vacuity -/

/-- a microtask outlives the stop timeout of its module: the stop takes the timeout branch with the counter at 1,
    the module is restarted, the microtask concludes (count exactly 0, its check does nothing on the running
    module); the next stop of the idle module is completed by the first check and woken without a timeout -/
example : (mrun MSt.init [.begin, .stopBegin, .flagSet, .check true, .timeout, .offline]).map
    (fun m => (m.cnt, m.run, m.done, m.st, m.tmo)) = some (1, 1, 0, 0, 1) := by decide
example : (mrun MSt.init [.begin, .stopBegin, .flagSet, .check true, .timeout, .offline, .start, .modDec, .check true,
      .stopBegin, .flagSet, .check true, .wake, .offline]).map
    (fun m => (m.cnt, m.run, m.done, m.st, m.tmo)) = some (0, 0, 1, 0, 1) := by decide

/-- a microtask submitted by the stop function of a stopping module: its conclusion's check completes the stop -/
example : (mrun MSt.init [.stopBegin, .flagSet, .begin, .check true, .modDec, .check true, .wake]).map
    (fun m => (m.cnt, m.done, m.sp)) = some (0, 1, 3) := by decide

/-- a task in program order: module decrement, stop check, global decrement -/
example : (frun ⟨init 2, DSt.new 2 0 0 0⟩ [(.hcall, true), (.hinc, true), (.begin true, true), (.fnRet true 0, true),
      (.modDec true, true), (.stopCheck, true), (.dec true, true)]).map (fun f => (f.d.pc, f.d.chk, f.d.mD, f.d.gD)) =
    some (8, 1, 1, 1) := by decide
/-- … the global decrement is not enabled before the check -/
example : frun ⟨init 2, DSt.new 2 0 0 0⟩ [(.hcall, true), (.hinc, true), (.begin true, true), (.fnRet true 0, true),
      (.modDec true, true), (.dec true, true)] = none := by decide

/-- the limit is reached (two running, a third waits, the scheduler found the house full) -/
example : (run (init 2) [.submit .med, .submit .low, .submit .med, .flag, .read, .take .med false, .close, .count,
      .flag, .read, .take .low false, .close, .count, .begin false, .begin false, .flag, .read]).map
    (fun s => (s.r, s.wM, s.spc, s.cnt, s.shut, s.tmo)) = some (2, 1, 5, 2, 0, 0) := by decide

/-- a task finishes before the scheduler has counted it: the counter dips to −1 and returns to 0; afterwards
    the state is quiescent -/
example : (run (init 2) [.submit .med, .flag, .read, .take .med false, .close, .begin false, .fnRet false 0,
      .modDec false, .dec false]).map (fun s => (s.cnt, s.pend)) = some (-1, 1) := by decide
example : (run (init 2) [.submit .med, .flag, .read, .take .med false, .close, .begin false, .fnRet false 0,
      .modDec false, .dec false, .tokSend, .count]).map (fun s => (s.cnt, s.mods, decide s.quiescent)) =
    some (0, 0, true) := by decide

/-- a quiescent state in which the scheduler waits at `full` is reachable (limit 1 for brevity), with the token -/
example : (run (init 1) [.hcall, .hinc, .flag, .read, .begin true, .fnRet true 0, .modDec true, .dec true, .tokSend]).map
    (fun s => (s.spc, s.fin, decide s.quiescent)) = some (5, 1, true) := by decide

/-- a stale request: the owner timed out, ran and finished; the scheduler counts later -/
example : (run (init 2) [.submit .low, .tmoWait .low false, .begin false, .fnRet false 1, .modDec false, .dec false, .tokSend,
      .flag, .read, .take .low true, .close, .count]).map (fun s => (s.cnt, s.tmo, decide s.quiescent)) =
    some (0, 1, true) := by decide

/-- a blocking medium task whose function fails: the error is what the caller gets, fn ran once -/
example : (frun ⟨init 2, DSt.new 0 0 0 0⟩ [(.submit .med, true), (.flag, false), (.read, false), (.take .med false, true),
      (.close, false), (.count, false), (.begin false, true), (.fnRet false 1, true), (.modDec false, true),
      (.stopCheck, true), (.dec false, true), (.tokSend, true), (.ret, true)]).map
    (fun f => (f.d.pc, f.d.execs, f.d.res, f.d.gI, f.d.gD, f.g.cnt)) = some (10, 1, 3, 1, 1, 0) := by decide

/-- a signalled low task whose `done` is called three times (twice while the first call is still concluding) -/
example : (frun ⟨init 2, DSt.new 1 2 0 0⟩ [(.submit .low, true), (.flag, false), (.read, false), (.take .low false, true),
      (.close, false), (.count, false), (.begin false, true), (.fnRet false 0, true), (.doneAgain, true),
      (.modDec false, true), (.doneAgain, true), (.stopCheck, true), (.dec false, true), (.tokSend, true), (.ret, true)]).map
    (fun f => (f.d.pc, f.d.dones, f.d.gD, f.d.mD, f.g.cnt, f.g.mods)) = some (10, 3, 1, 1, 0, 0) := by decide

/-- a blocking low-priority call in flight when its module is stopped: the function sees the cancelled context and
    returns error value 102 (say: wrapping `context.Canceled`) while the stop flag is set — the caller gets 102 -/
example : (trun (TSt.new 2 1 0 0) [.task (.submit .low) true, .task .flag false, .task .read false, .task (.take .low false) true,
      .task .close false, .task .count false, .task (.begin false) true, .mod .stopBegin, .mod .flagSet,
      .task (.fnRet false 102) true, .task (.modDec false) true, .task .stopCheck true, .mod (.check true), .mod .wake,
      .task (.dec false) true, .task .tokSend true, .task .ret true]).map
    (fun t => (t.f.d.pc, t.rflag, t.rst, t.f.d.out, t.f.d.res, t.m.done)) = some (10, 1, 2, 102, 104, 1) := by decide

/-- a low-priority task submitted with a long max delay cannot leave its wait through an early timer (it could if
    `armed .wait .low` were a constant); the documented expiry stays possible -/
example : frun ⟨init 2, DSt.new 1 0 0 0⟩ [(.submit .low, true), (.tmoWait .low true, true)] = none := by decide
example : (frun ⟨init 2, DSt.new 1 0 0 0⟩ [(.submit .low, true), (.tmoWait .low false, true)]).map
    (fun f => (f.d.pc, f.d.ez, f.g.tmo, f.g.tz)) = some (4, 0, 1, 0) := by decide

/-- a high-priority panicking task next to a medium task that counts itself after an enqueue timeout -/
example : (frun ⟨init 2, DSt.new 2 0 0 0⟩ [(.hcall, true), (.submit .med, false), (.hinc, true), (.tmoEnq .med false, false),
      (.tmoInc, false), (.begin true, true), (.begin false, false), (.fnRet true 2, true), (.modDec true, true),
      (.stopCheck, true), (.dec true, true), (.tokSend, true), (.ret, true)]).map
    (fun f => (f.d.res, f.d.execs, f.g.cnt, f.g.r, f.g.tmo)) = some (4, 1, 1, 1, 1) := by decide

end PB.C15
