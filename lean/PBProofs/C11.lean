import PBProofs.Lemmas.Query
import PBProofs.Lemmas.QueryPrint
import PBProofs.Lemmas.QueryBytes
/-
C11 — Query text and query objects convert into each other without change of meaning.
Property theorems only (helper lemmas live in PBProofs/Lemmas/Query.lean, QueryPrint.lean and QueryBytes.lean).

Model: PB.Model.Query (tokenizer, parser, Where constructors, Check, printers, complies — database/query as it is
after the fix: commits of branch verif-c11); README grammar: PB.Spec.Query (`Sentence`, `Query.wf`).
`O : Oracle` are the standard-library parameters (ParseFloat/%g, regexp); every theorem holds for all of them.
-/
namespace PB.C11
open PB PB.Query

/-- The statement of the property for one query object: its text parses back to a query that prints
    identically and matches exactly the same records. -/
def RoundTrips (O : Oracle) (q : Query) : Prop :=
  ∃ q', parseQuery O q.print = .ok q' ∧ q'.print = q.print ∧ ∀ r : Rec, q'.matchesRec O r = q.matchesRec O r

/-! ### Parsing is total and returns only checked queries -/

/-- `ParseQuery` is a total function of its input (the model has no partial operation, no fuel):
    every string yields a query or one of the error classes. -/
theorem parse_total (O : Oracle) (s : List Char) :
    (∃ q, parseQuery O s = .ok q) ∨ (∃ e, parseQuery O s = .error e) := by
  cases h : parseQuery O s with
  | ok q => exact Or.inl ⟨q, rfl⟩
  | error e => exact Or.inr ⟨e, rfl⟩

/-- A query returned by `ParseQuery` has passed `Check`: no condition in it carries an error. -/
theorem parse_ok_checked (O : Oracle) (s : List Char) (q : Query) (h : parseQuery O s = .ok q) :
    q.check = .ok q := by
  have key : ∀ q0 : Query, q0.check = .ok q → q.check = .ok q := by
    intro q0 h0
    have : q0 = q := by
      unfold Query.check at h0
      cases hw : q0.where_ with
      | none => simp only [hw] at h0; cases h0; rfl
      | some c =>
        simp only [hw] at h0
        cases hb : firstBad c with
        | none => simp only [hb] at h0; cases h0; rfl
        | some e => simp [hb] at h0
    subst this; exact h0
  unfold parseQuery at h
  cases hl : lex s with
  | error e => simp [hl] at h
  | ok toks =>
    simp only [hl] at h
    cases toks with
    | nil => simp [parseToks] at h
    | cons qw rest =>
      simp only [parseToks] at h
      by_cases hq : qw ≠ kwQuery
      · simp [hq] at h
      · simp only [hq, if_false] at h
        cases rest with
        | nil => simp at h
        | cons p rest' =>
          simp only at h
          cases hc : clauses O (Query.new p) rest' with
          | error e => simp [hc] at h
          | ok q0 => simp only [hc] at h; exact key q0 h

/-! ### Tokens are preserved exactly -/

/-- Any token — spaces, quotes, backslashes, parentheses, commas, multi-byte runes, or empty — written by
    `escapeString` is read back by the tokenizer as exactly that token. -/
theorem tokens_preserved (t : Tok) : lex (esc t) = .ok [t] := by
  have := lex_word (wordOf t) [] [] (wordOf_wf t) Lx_nil
  simpa [lex, wordOf_render, wordOf_text] using this

/-- The same for every way the README allows to write a word: plain, in quotes, or with backslash escapes. -/
theorem tokens_preserved_any_style (w : Word) (h : w.wf = true) : lex w.render = .ok [w.text] := by
  simpa [lex] using lex_word w [] [] h Lx_nil

/-- `prepToken` undoes `escapeString`'s escaping on every string (the regexp `(?s)\\(.)` against
    `ReplaceAll(\ → \\, " → \")`). -/
theorem unescape_escape (t : Tok) : prepToken (escBody t) = t := prep_escBody t

/-! ### Tokens are byte strings: the tokenizer / escaper pair on ARBITRARY bytes

Go strings are byte strings; `PB.Query.B` (PB/Model/QueryBytes.lean) is `extractSnippets` / `prepToken` /
`escapeString` as they act on any bytes: the loops decide on the rune `range` decodes (U+FFFD, width 1, for every byte
that is not part of a valid UTF-8 sequence) and copy source bytes. -/

/-- Any token — any bytes at all: lone continuation bytes, truncated or overlong sequences, surrogates, 0xFF, next
    to spaces, quotes, backslashes, parentheses, tab / CR / LF, or empty — written by `escapeString` is read back
    by the tokenizer as exactly its bytes. -/
theorem tokens_preserved_bytes (t : B.BStr) : B.lexBytes (B.escB t) = .ok [t] := B.lex_escB t

/-- `prepToken` undoes `escapeString`'s escaping on every byte string: the regexp's `.` consumes one decode unit,
    `$1` copies its source bytes, and the inserted backslashes never regroup the bytes of the token. -/
theorem unescape_escape_bytes (t : B.BStr) : B.prepTokenB (B.escBodyB t) = t := B.prep_escBodyB t

/-- `for pos, char = range text` visits every byte exactly once: the units, put together, are the text
    (slices `text[a:b]` taken at loop positions lose nothing). -/
theorem range_covers_every_byte (s : B.BStr) : B.flat (B.units s) = s := B.flat_units s

/-- Escaping commutes with decoding: the decode units of an escaped token are the units of the token, each
    backslash / quote unit preceded by one backslash unit (an inserted `\` never completes or breaks a sequence). -/
theorem escape_commutes_with_decoding (t : B.BStr) : B.units (B.escBodyB t) = B.escU (B.units t) :=
  B.units_escBody t

/-- A byte that is not ASCII is never seen as one of the characters the tokenizer acts on (overlong forms of
    `\`, `"`, space … are U+FFFD units, not separators). -/
theorem non_ascii_never_special (b : Nat) (rest : B.BStr) (h : 0x80 ≤ b) :
    B.isSpecialB (B.decode1 (b :: rest)).1 = false := B.special_hi (B.rune_hi b rest h)

-- Latin-1 `caf\xe9 "du nord"` (seeded change C11-r3-2): quoted, the quote escaped, 0xE9 untouched
example : B.escB [0x63, 0x61, 0x66, 0xe9, 0x20, 0x22, 0x64, 0x75, 0x22] =
    [0x22, 0x63, 0x61, 0x66, 0xe9, 0x20, 0x5c, 0x22, 0x64, 0x75, 0x5c, 0x22, 0x22] := by decide
-- a truncated 3-byte sequence followed by a backslash: two invalid units (U+FFFD, width 1) and the backslash
example : B.units [0xe4, 0xb8, 0x5c] = [⟨[0xe4], 0xFFFD⟩, ⟨[0xb8], 0xFFFD⟩, ⟨[0x5c], 0x5c⟩] := by
  simp [B.units_cons, B.units_nil, B.decode1, B.lo2, B.hi2, B.isCont, B.runeError]
-- the complete sequence is one unit seeing U+4E16; the overlong backslash C1 9C is two invalid units
example : B.units [0xe4, 0xb8, 0x96] = [⟨[0xe4, 0xb8, 0x96], 0x4e16⟩] := by
  simp [B.units_cons, B.units_nil, B.decode1, B.lo2, B.hi2, B.isCont]
example : B.units [0xc1, 0x9c] = [⟨[0xc1], 0xFFFD⟩, ⟨[0x9c], 0xFFFD⟩] := by
  simp [B.units_cons, B.units_nil, B.decode1, B.runeError]
example : B.lexBytes (B.escB [0xe4, 0xb8, 0x5c, 0x22, 0xff]) = .ok [[0xe4, 0xb8, 0x5c, 0x22, 0xff]] :=
  tokens_preserved_bytes _

/-! ### The documented grammar is accepted, with the meaning the README gives it -/

/-- Every sentence of the documented grammar — any operator alias, words plain / quoted / escaped, any
    whitespace, `not (…)`, `key not op value`, `not key op value`, nested groups anywhere in a condition list
    **including at its end**, optional orderby / limit / offset — parses to exactly the query the grammar
    assigns to it (and is then subject to `Check` like every query). -/
theorem grammar_complete (O : Oracle) (s : Sentence) (h : s.wf = true) :
    parseQuery O s.render = (s.query O).check := by
  simp only [parseQuery, lex_sentence s h, parseToks_sentence O s h]

/-- The tokens of a sentence reach the parser unchanged. -/
theorem grammar_tokens (s : Sentence) (h : s.wf = true) : lex s.render = .ok s.toks := lex_sentence s h

/-! ### Round trip object → text → object -/

/-- A well-formed query passes its own check. -/
theorem wf_passes_check (O : Oracle) (q : Query) (h : q.wf O = true) : q.check = .ok q := by
  simp only [Query.wf, Bool.and_eq_true] at h
  unfold Query.check
  cases hw : q.where_ with
  | none => rfl
  | some c =>
    have : firstBad c = none := wf_firstBad O false c (by simpa [hw, Cond.wf] using h.1.1.2)
    simp [this]

/-- What `Print` writes is a sentence of the documented grammar. -/
theorem print_is_sentence (O : Oracle) (q : Query) (h : q.wf O = true) :
    q.sentence.wf = true ∧ q.print = q.sentence.render :=
  ⟨sentence_wf O q h, print_eq_render O q h⟩

/-- **Round trip.** For every well-formed query — any tree of and/or/not groups of any depth and width over
    all operators of the (regenerated) table, every int64, every string operand/key/prefix/orderby —
    `ParseQuery(q.Print())` is `q` itself up to the normalisation of non-positive limit/offset. -/
theorem roundtrip_exact (O : Oracle) (q : Query) (h : q.wf O = true) : parseQuery O q.print = .ok q.norm := by
  rw [print_eq_render O q h, grammar_complete O _ (sentence_wf O q h), sentence_query O q h]
  have hn : q.norm.wf O = true := by
    simp only [Query.wf, Query.norm, Bool.and_eq_true, decide_eq_true_eq] at h ⊢
    refine ⟨⟨⟨h.1.1.1, h.1.1.2⟩, ?_⟩, ?_⟩
    · by_cases hp : q.limit > 0
      · simp only [hp, if_true]; exact decide_eq_true h.1.2
      · simp only [hp, if_false]; decide
    · by_cases hp : q.offset > 0
      · simp only [hp, if_true]; exact decide_eq_true h.2
      · simp only [hp, if_false]; decide
  exact wf_passes_check O _ hn

/-- The property statement on the well-formed fragment: prints identically, matches the same records. -/
theorem roundtrip_partial (O : Oracle) (q : Query) (h : q.wf O = true) : RoundTrips O q := by
  refine ⟨q.norm, roundtrip_exact O q h, ?_, fun _ => rfl⟩
  obtain ⟨db, pk, w, ob, lim, off⟩ := q
  simp only [Query.norm, Query.print]
  by_cases h1 : lim > 0 <;> by_cases h2 : off > 0 <;> simp [h1, h2]

/-! ### Operator tables (regenerated from operators.go / condition.go on every run) -/

/-- `init()` picks the longest name per operator while ranging over a map in random order: no two names of
    one operator have the same length, so the choice is deterministic. -/
theorem primary_names_unambiguous :
    ∀ p ∈ PB.Gen.Query.operatorNames, ∀ p' ∈ PB.Gen.Query.operatorNames,
      p.2 = p'.2 → p.1 ≠ p'.1 → p.1.toList.length ≠ p'.1.toList.length := by decide

/-- Every operator constant is dispatched by `Where` and its printed name parses back to it. -/
theorem operator_table_closed :
    ∀ p ∈ PB.Gen.Query.opConsts, p.1 ≠ "errorPresent" →
      (kindOf p.2).isSome = true ∧ lookupOp (opName p.2) = some p.2 := by
  have h : ∀ p ∈ PB.Gen.Query.opConsts, p.1 ≠ "errorPresent" → (kindOf p.2).isSome = true := by decide
  intro p hp hne
  obtain ⟨k, hk⟩ := Option.isSome_iff_exists.mp (h p hp hne)
  exact ⟨h p hp hne, (kindOf_spec hk).1⟩

/-- Every textual name — primary or alias — is a plain word and resolves to its operator; `not` is not a name. -/
theorem operator_names_resolve :
    (∀ p ∈ PB.Gen.Query.operatorNames, lookupOp p.1.toList = some p.2 ∧ plainWord p.1.toList = true)
    ∧ lookupOp kwNot = none := operator_names


/-! ### The full statement is false on the code: the classes the text form cannot express

`Query.wf` excludes exactly the following classes of API-buildable, checked queries. Each is refuted by a concrete
witness evaluated on the model (and re-found on the implementation by the check on every run: known findings
`C11:roundtrip:<class>`). -/

/-- Standard-library answers used by the witnesses and examples: `1.5` is a canonical float text, every regexp compiles. -/
def O0 : Oracle := ⟨fun t => if t = ['1','.','5'] then some t else none, fun _ => true, fun _ => 0, fun _ _ => false⟩

def leafI (k : String) (n : Int) : Cond := .leaf k.toList opEquals (.int n)

def qOf (c : Cond) : Query := ⟨['d','b'], ['k'], some c, [], 0, 0⟩

/-- A record whose string field `S` is `a,b`. -/
def recAB : Rec := ⟨fun _ => none, fun k => if k = ['S'] then some ['a',',','b'] else none, fun _ => none, fun _ => none, fun _ => false⟩

theorem not_roundtrip_of_error {O : Oracle} {q : Query} {e : Err} (h : parseQuery O q.print = .error e) :
    ¬ RoundTrips O q := by
  rintro ⟨q', h', _⟩
  rw [h] at h'; cases h'

theorem not_roundtrip_of_print {O : Oracle} {q qx : Query} (h : parseQuery O q.print = .ok qx)
    (hp : qx.print ≠ q.print) : ¬ RoundTrips O q := by
  rintro ⟨q', h', hp', _⟩
  rw [h] at h'; cases h'; exact hp hp'

theorem not_roundtrip_of_match {O : Oracle} {q qx : Query} (r : Rec) (h : parseQuery O q.print = .ok qx)
    (hm : qx.matchesRec O r ≠ q.matchesRec O r) : ¬ RoundTrips O q := by
  rintro ⟨q', h', _, hm'⟩
  rw [h] at h'; cases h'; exact hm (hm' r)

/-- `Or()` at the top prints `query db:k where `, which does not parse. -/
theorem refuted_empty_group : (qOf (.or [])).check = .ok (qOf (.or [])) ∧ ¬ RoundTrips O0 (qOf (.or [])) :=
  ⟨rfl, not_roundtrip_of_error (e := .unexpectedEnd) rfl⟩

/-- `Or(And(a == 1), b == 1)` prints `(a == 1) or b == 1`, which parses to a query printing `a == 1 or b == 1`. -/
theorem refuted_single_member_group :
    (qOf (.or [.and [leafI "a" 1], leafI "b" 1])).check = .ok (qOf (.or [.and [leafI "a" 1], leafI "b" 1])) ∧
    ¬ RoundTrips O0 (qOf (.or [.and [leafI "a" 1], leafI "b" 1])) :=
  ⟨rfl, not_roundtrip_of_print (qx := qOf (.or [leafI "a" 1, leafI "b" 1])) rfl (by decide)⟩

/-- `S in ["a,b", "c"]` prints `S in a,b,c`, which parses to a three-item list: the record `S = "a,b"` matches before, not after. -/
theorem refuted_in_list_comma :
    (qOf (.leaf ['S'] opIn (.strs [['a',',','b'], ['c']]))).check = .ok (qOf (.leaf ['S'] opIn (.strs [['a',',','b'], ['c']]))) ∧
    ¬ RoundTrips O0 (qOf (.leaf ['S'] opIn (.strs [['a',',','b'], ['c']]))) :=
  ⟨rfl, not_roundtrip_of_match (qx := qOf (.leaf ['S'] opIn (.strs [['a'], ['b'], ['c']]))) recAB rfl (by decide)⟩

/-- `S in ["a"]` prints `S in a`, which `Where` rejects (fewer than two items). -/
theorem refuted_in_list_short :
    (qOf (.leaf ['S'] opIn (.strs [['a']]))).check = .ok (qOf (.leaf ['S'] opIn (.strs [['a']]))) ∧
    ¬ RoundTrips O0 (qOf (.leaf ['S'] opIn (.strs [['a']]))) :=
  ⟨rfl, not_roundtrip_of_error (e := .chkSlice) rfl⟩

/-- The key `and` prints bare (also in quotes it would be the same token) and is read as the connective. -/
theorem refuted_keyword_key : (qOf (leafI "and" 1)).check = .ok (qOf (leafI "and" 1)) ∧ ¬ RoundTrips O0 (qOf (leafI "and" 1)) :=
  ⟨rfl, not_roundtrip_of_error (e := .operator) rfl⟩

/-- `Not(Not(a == 1))` prints `a not not == 1`, which does not parse. -/
theorem refuted_not_not :
    (qOf (.not (.not (leafI "a" 1)))).check = .ok (qOf (.not (.not (leafI "a" 1)))) ∧
    ¬ RoundTrips O0 (qOf (.not (.not (leafI "a" 1)))) :=
  ⟨rfl, not_roundtrip_of_error (e := .operator) rfl⟩

/-- `Limit(2^31)` prints `limit 2147483648`, which `ParseQuery` rejects (31-bit `ParseUint`). -/
theorem refuted_limit_31_bits :
    (⟨['d','b'], ['k'], none, [], 2 ^ 31, 0⟩ : Query).check = .ok ⟨['d','b'], ['k'], none, [], 2 ^ 31, 0⟩ ∧
    ¬ RoundTrips O0 ⟨['d','b'], ['k'], none, [], 2 ^ 31, 0⟩ :=
  ⟨rfl, not_roundtrip_of_error (e := .uint) rfl⟩

/-- The full-strength statement (every API-buildable query that passes its own check round-trips) is refuted. -/
theorem roundtrip_full_statement_REFUTED :
    ¬ ∀ (O : Oracle) (q : Query), q.check = .ok q → RoundTrips O q :=
  fun h => refuted_empty_group.2 (h O0 _ refuted_empty_group.1)

/-! ### Non-vacuity -/

/-- A well-formed query with nested groups ending the condition list, a negated clause with a quoted key, a
    backslash, a quote, a multi-byte rune, an empty string, a list, int64 extremes, a float, orderby/limit/offset. -/
def qDemo : Query :=
  ⟨['d','b'], ['k',':','x',' ','y'],
   some (.or [
     .and [leafI "a" (-9223372036854775808), .leaf ['S'] opSameAs (.str ['x','\\','y',' ','z','"'])],
     .not (.and [.leaf ['L'] opIn (.strs [['a'], ['b',' ']]), .not (.leaf ['a',' ','b'] opContains (.str []))]),
     .not (leafI "c" 9223372036854775807),
     .and [.leaf ['F'] opFloatLessThan (.float ['1','.','5']), .leaf ['é'] opExists .none,
           .or [.leaf ['B'] opIs (.bool true), .leaf ['R'] opMatches (.regex ['^','(','a',')',' '])]]]),
   ['o',' ','b'], 10, -3⟩

example : qDemo.wf O0 = true := by decide
example : qDemo.check = .ok qDemo := rfl
example : parseQuery O0 qDemo.print = .ok qDemo.norm := roundtrip_exact O0 qDemo (by decide)

/-- A smaller one, evaluated on the model directly (independent of the theorems). -/
def qSmall : Query :=
  qOf (.or [.and [leafI "a" (-7), .leaf ['S'] opSameAs (.str ['x','\\','"'])], .not (.leaf ['a',' ','b'] opExists .none)])

example : qSmall.wf O0 = true := by decide
/-- The text a parse result prints to (`none` for an error). -/
def okPrint : Except Err Query → Option (List Char)
  | .ok q => some q.print
  | .error _ => none

example : okPrint (parseQuery O0 qSmall.print) = some qSmall.print := by decide +kernel
-- the `rw` makes the literals character lists (a literal is `String.ofList` of its characters); `decide` on 237
-- characters needs the depth
set_option maxRecDepth 20000 in
example : qDemo.print = ("query \"db:k:x y\" where (a == -9223372036854775808 and S sameas \"x\\\\y z\\\"\") or " ++
    "not (L in \"a,b \" and not \"a b\" contains \"\") or c not == 9223372036854775807 or " ++
    "(F f< 1.5 and é exists and (B is true or R matches \"^(a) \")) orderby \"o b\" limit 10").toList := by
  rw [String.toList_append, String.toList_append, String.toList_ofList, String.toList_ofList, String.toList_ofList]
  decide

/-- `where (a == 1 and b == 2) or (c == 3 and d == 4)` (DESIGN §7 #9) is a sentence and parses. -/
def sDemo : Sentence :=
  ⟨[' '], ⟨.raw, ['d','b',':','k']⟩,
   some (.group true [' '] [] [' '] false [
     .group false [' '] [] [' '] false [.clause [' '] ⟨.raw, ['a']⟩ ['=','='] 0 (some ⟨.raw, ['1']⟩),
                                        .clause [' '] ⟨.raw, ['b']⟩ ['=','='] 0 (some ⟨.raw, ['2']⟩)],
     .group false [' ', '\t'] [' '] [] true [.clause [' '] ⟨.bslash, ['c',' ','d']⟩ ['s','w'] 1 (some ⟨.quoted, ['x','é','"']⟩),
                                        .clause ['\n'] ⟨.raw, ['d']⟩ ['e','x'] 2 none]]),
   none, some ['0','0','7'], none, true⟩

example : sDemo.wf = true := by decide
example : sDemo.render = "query db:k where (a == 1 and b == 2) or not( c\\ d not sw \"xé\\\"\" \tand \tnot\nd\nex ) limit 007".toList := by
  rw [String.toList_ofList]; decide
example : parseQuery O0 sDemo.render = .ok (sDemo.query O0) := rfl

end PB.C11
